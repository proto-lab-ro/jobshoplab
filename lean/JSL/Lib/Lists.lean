import JSL.Model.Step
import JSL.Lib.Except

/-! List / lookup lemmas: `findE`, replace-by-id as a point update, `filterE`, `mapM`, folds of `min` and
`max`, sums -/

namespace JSL

theorem findE_ok {α} {p : α → Bool} {l : List α} {e : Err} {a : α} (h : findE p l e = .ok a) :
    a ∈ l ∧ p a = true := by
  unfold findE at h
  split at h
  · rename_i x hx
    simp at h; subst h
    exact ⟨List.mem_of_find?_eq_some hx, List.find?_some hx⟩
  · simp at h

theorem getJob_ok {jobs : List JobState} {j : Nat} {x : JobState} (h : getJob jobs j = .ok x) :
    x ∈ jobs ∧ x.id = j := by
  have := findE_ok h; simpa using this

theorem getJobOpt_ok {jobs : List JobState} {j : Option Nat} {x : JobState} (h : getJobOpt jobs j = .ok x) :
    x ∈ jobs ∧ j = some x.id := by
  cases j with
  | none => simp [getJobOpt] at h
  | some j => have := getJob_ok (by simpa [getJobOpt] using h); simp [this]

theorem getMachine_ok {l : List MachineState} {i : Nat} {x : MachineState} (h : getMachine l i = .ok x) :
    x ∈ l ∧ x.id = i := by
  have := findE_ok h; simpa using this

theorem getMachineCfg_ok {l : List MachineCfg} {i : Nat} {x : MachineCfg} (h : getMachineCfg l i = .ok x) :
    x ∈ l ∧ x.id = i := by
  have := findE_ok h; simpa using this

theorem getTransport_ok {l : List TransportState} {i : Nat} {x : TransportState} (h : getTransport l i = .ok x) :
    x ∈ l ∧ x.id = i := by
  have := findE_ok h; simpa using this

theorem getTransportCfg_ok {l : List TransportCfg} {i : Nat} {x : TransportCfg} (h : getTransportCfg l i = .ok x) :
    x ∈ l ∧ x.id = i := by
  have := findE_ok h; simpa using this

theorem getBufCfg_ok {l : List BufCfg} {i : Nat} {x : BufCfg} (h : getBufCfg l i = .ok x) :
    x ∈ l ∧ x.id = i := by
  have := findE_ok h; simpa using this

theorem getBufState_ok {l : List BufState} {i : Nat} {x : BufState} (h : getBufState l i = .ok x) :
    x ∈ l ∧ x.id = i := by
  have := findE_ok h; simpa using this

theorem eq_of_mem_of_key_eq {α} {key : α → Nat} {l : List α} (hnd : (l.map key).Nodup) {a b : α}
    (ha : a ∈ l) (hb : b ∈ l) (h : key a = key b) : a = b := by
  induction l with
  | nil => cases ha
  | cons x xs ih =>
    simp only [List.map_cons, List.nodup_cons, List.mem_map, not_exists, not_and] at hnd
    rcases List.mem_cons.mp ha with rfl | ha' <;> rcases List.mem_cons.mp hb with rfl | hb'
    · rfl
    · exact absurd h.symm (hnd.1 b hb')
    · exact absurd h (hnd.1 a ha')
    · exact ih hnd.2 ha' hb'

theorem findE_of_exists {α} {p : α → Bool} {l : List α} (e : Err) {a : α} (ha : a ∈ l) (hp : p a = true) :
    ∃ b, findE p l e = .ok b := by
  unfold findE
  cases hf : l.find? p with
  | none =>
    have := List.find?_eq_none.mp hf a ha
    simp [hp] at this
  | some b => exact ⟨b, rfl⟩

theorem findE_of_mem {α} {key : α → Nat} {l : List α} (hnd : (l.map key).Nodup) {a : α} (ha : a ∈ l) (e : Err) :
    findE (fun x => key x == key a) l e = .ok a := by
  obtain ⟨b, hb⟩ := findE_of_exists (p := fun x => key x == key a) e ha (beq_self_eq_true _)
  obtain ⟨hbl, hk⟩ := findE_ok hb
  rw [hb, eq_of_mem_of_key_eq hnd hbl ha (beq_iff_eq.mp hk)]

theorem getJob_of_mem {l : List JobState} (hnd : (l.map (·.id)).Nodup) {j : JobState} (hj : j ∈ l) :
    getJob l j.id = .ok j := findE_of_mem (key := fun (y : JobState) => y.id) hnd hj _

theorem getMachine_of_mem {l : List MachineState} (hnd : (l.map (·.id)).Nodup) {m : MachineState} (hm : m ∈ l) :
    getMachine l m.id = .ok m := findE_of_mem (key := fun (y : MachineState) => y.id) hnd hm _

theorem getTransport_of_mem {l : List TransportState} (hnd : (l.map (·.id)).Nodup) {t : TransportState} (ht : t ∈ l) :
    getTransport l t.id = .ok t := findE_of_mem (key := fun (y : TransportState) => y.id) hnd ht _

theorem mem_replace_self {α} {key : α → Nat} {l : List α} {m m' : α} (hm : m ∈ l) (hk : key m' = key m) :
    m' ∈ l.map (fun y => if key y == key m' then m' else y) :=
  List.mem_map.mpr ⟨m, hm, by simp [hk]⟩

theorem mem_replace {α} {key : α → Nat} {l : List α} {m m' : α} (hm : m ∈ l)
    (hk : key m' = key m) (x : α) :
    x ∈ l.map (fun y => if key y == key m' then m' else y) ↔ (x = m' ∨ (x ∈ l ∧ key x ≠ key m)) := by
  constructor
  · intro hx
    obtain ⟨y, hy, rfl⟩ := List.mem_map.mp hx
    by_cases h : key y = key m'
    · simp [h]
    · right; simp [h]; exact ⟨hy, by rw [← hk]; exact h⟩
  · rintro (rfl | ⟨hx, hne⟩)
    · exact mem_replace_self hm hk
    · exact List.mem_map.mpr ⟨x, hx, by simp [hk, hne]⟩

theorem exists_mem_replace {α} {key : α → Nat} {l : List α} (hnd : (l.map key).Nodup) {m m' : α} (hm : m ∈ l)
    (hk : key m' = key m) {P : α → Prop} (h : ¬ P m) (h' : ¬ P m') :
    (∃ x ∈ l.map (fun y => if key y == key m' then m' else y), P x) ↔ ∃ x ∈ l, P x := by
  constructor
  · rintro ⟨x, hx, hp⟩
    rcases (mem_replace hm hk x).mp hx with rfl | ⟨hx0, _⟩
    · exact absurd hp h'
    · exact ⟨x, hx0, hp⟩
  · rintro ⟨x, hx, hp⟩
    refine ⟨x, (mem_replace hm hk x).mpr (Or.inr ⟨hx, fun e => ?_⟩), hp⟩
    exact h (eq_of_mem_of_key_eq hnd hx hm e ▸ hp)

theorem map_replace {α β} {key : α → Nat} {l : List α} (hnd : (l.map key).Nodup) {m m' : α} (hm : m ∈ l)
    (hk : key m' = key m) (f : α → β) (hf : f m' = f m) :
    (l.map (fun y => if key y == key m' then m' else y)).map f = l.map f := by
  rw [List.map_map]
  apply List.map_congr_left
  intro y hy
  by_cases h : key y = key m'
  · have : y = m := eq_of_mem_of_key_eq hnd hy hm (by rw [h, hk])
    subst this
    simp [hk, hf]
  · simp [h]

theorem filterE_ok {α} {p : α → Except Err Bool} {l r : List α} (h : filterE p l = .ok r) :
    ∀ x, x ∈ r → x ∈ l ∧ p x = .ok true := by
  induction l generalizing r with
  | nil => simp [filterE] at h; subst h; simp
  | cons a as ih =>
    simp only [filterE] at h
    obtain ⟨b, hb, h⟩ := except_bind_eq_ok h
    obtain ⟨r', hr', h⟩ := except_bind_eq_ok h
    simp at h
    intro x hx
    cases b with
    | true =>
      simp at h; subst h
      rcases List.mem_cons.mp hx with rfl | hx'
      · exact ⟨List.mem_cons_self, hb⟩
      · have := ih hr' x hx'; exact ⟨List.mem_cons_of_mem _ this.1, this.2⟩
    | false =>
      simp at h; subst h
      have := ih hr' x hx; exact ⟨List.mem_cons_of_mem _ this.1, this.2⟩

theorem mapM_ok_mem {α β} {f : α → Except Err β} : ∀ {l : List α} {r : List β}, l.mapM f = .ok r →
    (∀ x ∈ l, ∃ y ∈ r, f x = .ok y) ∧ (∀ y ∈ r, ∃ x ∈ l, f x = .ok y)
  | [], r, h => by simp [List.mapM_nil] at h; subst h; simp
  | a :: as, r, h => by
    rw [List.mapM_cons] at h
    obtain ⟨b, hb, h⟩ := except_bind_eq_ok h
    obtain ⟨bs, hbs, h⟩ := except_bind_eq_ok h
    simp at h; subst h
    have ih := mapM_ok_mem hbs
    constructor
    · intro x hx
      rcases List.mem_cons.mp hx with rfl | hx
      · exact ⟨b, by simp, hb⟩
      · obtain ⟨y, hy, e⟩ := ih.1 x hx; exact ⟨y, by simp [hy], e⟩
    · intro y hy
      rcases List.mem_cons.mp hy with rfl | hy
      · exact ⟨a, by simp, hb⟩
      · obtain ⟨x, hx, e⟩ := ih.2 y hy; exact ⟨x, by simp [hx], e⟩

theorem mem_mapM_ok {α β} {f : α → Except Err β} {l : List α} {r : List β} (h : l.mapM f = .ok r) (y : β) :
    y ∈ r ↔ ∃ x ∈ l, f x = .ok y :=
  ⟨(mapM_ok_mem h).2 y, fun ⟨x, hx, e⟩ => by
    obtain ⟨y', hy', e'⟩ := (mapM_ok_mem h).1 x hx
    rw [e] at e'
    cases e'
    exact hy'⟩

theorem mem_mapM_filterMap {α β} {f : α → Except Err (Option β)} {l : List α} {r : List (Option β)}
    (h : l.mapM f = .ok r) (b : β) : b ∈ r.filterMap id ↔ ∃ a ∈ l, f a = .ok (some b) := by
  have hm := mapM_ok_mem h
  constructor
  · intro hb
    obtain ⟨x, hx, e⟩ := List.mem_filterMap.mp hb
    simp only [id] at e; subst e
    exact hm.2 _ hx
  · rintro ⟨a, ha, e⟩
    obtain ⟨y, hy, e'⟩ := hm.1 a ha
    rw [e] at e'
    cases e'
    exact List.mem_filterMap.mpr ⟨_, hy, rfl⟩

theorem mapM_filterMap_nil {α β} {f : α → Except Err (Option β)} {l : List α} {r : List (Option β)}
    (h : l.mapM f = .ok r) (hn : r.filterMap id = []) : ∀ a ∈ l, f a = .ok none := by
  intro a ha
  obtain ⟨y, hy, e⟩ := (mapM_ok_mem h).1 a ha
  cases y with
  | none => exact e
  | some b =>
    have : b ∈ r.filterMap id := List.mem_filterMap.mpr ⟨_, hy, rfl⟩
    rw [hn] at this
    cases this

theorem mapM_filterMap_pairwise {α β} {f : α → Except Err (Option β)} {R : β → β → Prop} :
    ∀ (l : List α) (r : List (Option β)), l.mapM f = .ok r →
      l.Pairwise (fun x y => ∀ a b, f x = .ok (some a) → f y = .ok (some b) → R a b) →
      (r.filterMap id).Pairwise R
  | [], r, h, _ => by simp [List.mapM_nil] at h; subst h; simp
  | x :: xs, r, h, hp => by
    rw [List.mapM_cons] at h
    obtain ⟨y, hy, h⟩ := except_bind_eq_ok h
    obtain ⟨ys, hys, h⟩ := except_bind_eq_ok h
    simp at h; subst h
    obtain ⟨hx, hp'⟩ := List.pairwise_cons.mp hp
    have ih := mapM_filterMap_pairwise xs ys hys hp'
    cases y with
    | none => exact ih
    | some a =>
      refine List.pairwise_cons.mpr ⟨fun b hb => ?_, ih⟩
      obtain ⟨x', hx', e⟩ := (mem_mapM_filterMap hys b).mp hb
      exact hx x' hx' a b hy e

theorem foldl_select {α} {op : α → α → α} {R : α → α → Prop} (refl : ∀ a, R a a)
    (trans : ∀ {a b c}, R a b → R b c → R a c) (hl : ∀ a b, R (op a b) a) (hr : ∀ a b, R (op a b) b)
    (hsel : ∀ a b, op a b = a ∨ op a b = b) :
    ∀ (l : List α) (d : α), l.foldl op d ∈ d :: l ∧ ∀ x ∈ d :: l, R (l.foldl op d) x
  | [], d => ⟨List.mem_singleton.mpr rfl, fun x hx => List.mem_singleton.mp hx ▸ refl d⟩
  | y :: ys, d => by
    obtain ⟨hm, hle⟩ := foldl_select refl trans hl hr hsel ys (op d y)
    rw [List.foldl_cons]
    constructor
    · rcases List.mem_cons.mp hm with e | hm
      · rw [e]
        rcases hsel d y with e' | e' <;> simp [e']
      · exact List.mem_cons_of_mem _ (List.mem_cons_of_mem _ hm)
    · intro x hx
      have h0 := hle _ List.mem_cons_self
      rcases List.mem_cons.mp hx with rfl | hx
      · exact trans h0 (hl _ _)
      · rcases List.mem_cons.mp hx with rfl | hx
        · exact trans h0 (hr _ _)
        · exact hle x (List.mem_cons_of_mem _ hx)

theorem foldl_min (ds : List Int) (d : Int) : ds.foldl min d ∈ d :: ds ∧ ∀ x ∈ d :: ds, ds.foldl min d ≤ x :=
  foldl_select (R := (· ≤ ·)) Int.le_refl Int.le_trans Int.min_le_left Int.min_le_right
    (fun a b => (Int.le_total a b).imp Int.min_eq_left Int.min_eq_right) ds d

theorem foldl_max (ds : List Int) (d : Int) : ds.foldl max d ∈ d :: ds ∧ ∀ x ∈ d :: ds, x ≤ ds.foldl max d :=
  foldl_select (R := (· ≥ ·)) Int.le_refl (fun h1 h2 => Int.le_trans h2 h1) Int.le_max_left Int.le_max_right
    (fun a b => (Int.le_total a b).symm.imp Int.max_eq_left Int.max_eq_right) ds d

theorem foldl_min_le (ds : List Int) (d : Int) : ds.foldl min d ≤ d := (foldl_min ds d).2 d List.mem_cons_self

theorem foldl_min_le_mem (ds : List Int) (d x : Int) (hx : x ∈ ds) : ds.foldl min d ≤ x :=
  (foldl_min ds d).2 x (List.mem_cons_of_mem _ hx)

theorem foldl_max_ge (ds : List Int) (d : Int) : d ≤ ds.foldl max d := (foldl_max ds d).2 d List.mem_cons_self

theorem foldl_max_ge_mem (ds : List Int) (d x : Int) (hx : x ∈ ds) : x ≤ ds.foldl max d :=
  (foldl_max ds d).2 x (List.mem_cons_of_mem _ hx)

theorem foldl_max_mem (ds : List Int) (d : Int) : ds.foldl max d = d ∨ ds.foldl max d ∈ ds :=
  List.mem_cons.mp (foldl_max ds d).1

theorem minList_iff {l : List Int} {m : Int} : minList l = some m ↔ m ∈ l ∧ ∀ x ∈ l, m ≤ x := by
  cases l with
  | nil => simp [minList]
  | cons a as =>
    have h := foldl_min as a
    simp only [minList, Option.some.injEq]
    constructor
    · rintro rfl; exact h
    · intro hm; exact Int.le_antisymm (h.2 m hm.1) (hm.2 _ h.1)

theorem minList_none {l : List Int} (h : minList l = none) : l = [] := by
  cases l with
  | nil => rfl
  | cons a as => simp [minList] at h

theorem mem_of_map_eq {α β γ} {f : α → γ} {g : β → γ} {l : List α} {l' : List β} (h : l.map f = l'.map g)
    {a : α} (ha : a ∈ l) : ∃ b ∈ l', f a = g b := by
  have : f a ∈ l.map f := List.mem_map.mpr ⟨a, ha, rfl⟩
  rw [h] at this
  obtain ⟨b, hb, e⟩ := List.mem_map.mp this
  exact ⟨b, hb, e.symm⟩

theorem lookup_mem {α β} [BEq α] [LawfulBEq α] {l : List (α × β)} {k : α} {v : β} (h : l.lookup k = some v) :
    (k, v) ∈ l := by
  induction l with
  | nil => simp [List.lookup] at h
  | cons a as ih =>
    obtain ⟨a1, a2⟩ := a
    simp only [List.lookup] at h
    by_cases e : k == a1
    · simp [e] at h; simp at e; subst e; subst h; simp
    · simp [e] at h; exact List.mem_cons_of_mem _ (ih h)

theorem sum_le_sum {α} {f g : α → Nat} : ∀ {l : List α}, (∀ a ∈ l, f a ≤ g a) → (l.map f).sum ≤ (l.map g).sum
  | [], _ => Nat.le_refl _
  | x :: xs, h => by
    rw [List.map_cons, List.map_cons, List.sum_cons, List.sum_cons]
    exact Nat.add_le_add (h x List.mem_cons_self) (sum_le_sum fun a ha => h a (List.mem_cons_of_mem _ ha))

theorem sum_lt_sum {α} {f g : α → Nat} : ∀ {l : List α}, (∀ a ∈ l, f a ≤ g a) → (∃ a ∈ l, f a < g a) →
    (l.map f).sum < (l.map g).sum
  | [], _, ⟨_, ha, _⟩ => nomatch ha
  | x :: xs, h, ⟨a, ha, hlt⟩ => by
    have hxs : ∀ a ∈ xs, f a ≤ g a := fun a ha => h a (List.mem_cons_of_mem _ ha)
    rw [List.map_cons, List.map_cons, List.sum_cons, List.sum_cons]
    rcases List.mem_cons.mp ha with rfl | ha'
    · exact Nat.add_lt_add_of_lt_of_le hlt (sum_le_sum hxs)
    · exact Nat.add_lt_add_of_le_of_lt (h x List.mem_cons_self) (sum_lt_sum hxs ⟨a, ha', hlt⟩)

/-- no outage configured: `get_new_outage_states` returns the empty list whatever the time -/
theorem newOutageStates_nil {orc : Oracle} (now : Int) (comp : List OutageState) (r : Rng) :
    newOutageStates orc now comp [] r = .ok ([], r) := rfl

end JSL
