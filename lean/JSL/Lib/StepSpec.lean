import JSL.Model.Env
import JSL.Lib.Lists
import JSL.Inv.Tables

/-!
# What a successful run of each stage of `state.step` and `env.step` consists of

One inversion lemma per model function (`applyTransition`, `timedTransitions`,
`processTransitions`, `timedLoop`, `smStep`, `envReset`, `envStep`), and the induction principles
along a batch and along the loop of timed transitions.
-/

namespace JSL

variable {orc : Oracle} {inst : Instance} {cfg : SMConfig}

theorem isDone_time (inst : Instance) (s : State) (t : Int) :
    isDone inst { s with time := t } = isDone inst s := rfl

/-- `is_done`: every job lies in an output buffer -/
theorem isDone_iff {inst : Instance} {s : State} :
    isDone inst s = true ↔ ∀ j ∈ s.jobs, j.loc ∈ outputIds inst := by
  unfold isDone
  rw [List.all_eq_true]
  exact forall₂_congr fun _ _ => List.contains_iff_mem

/-- `applyTransition orc inst s r tr` returned `o`: the component of the state that was looked up,
the handler the dictionary selected for its phase, and that handler's run -/
inductive Ran (orc : Oracle) (inst : Instance) (s : State) (r : Rng) (tr : Transition) (o : State × Rng) : Prop
  | m (m : MachineState) (hc : tr.comp = .m m.id) (hm : m ∈ s.machines) (h : MHandler) (ns : MSt)
      (hn : tr.new = .m ns) (hh : machineHandler m.st ns = some h)
      (run : (match h with
        | .idleToSetup => handleMachineIdleToSetup orc inst s r tr m
        | .setupToWorking => handleMachineSetupToWorking orc inst s r tr m
        | .workingToOutage => handleMachineWorkingToOutage orc inst s r tr m
        | .outageToIdle => handleMachineOutageToIdle inst s r m) = .ok o)
  | t (t : TransportState) (hc : tr.comp = .t t.id) (ht : t ∈ s.transports) (h : THandler) (ns : TSt)
      (hn : tr.new = .t ns) (hh : agvHandler t.st ns = some h)
      (run : (match h with
        | .idleToWorking => handleAgvIdleToWorking orc inst s r tr t
        | .pickupToWaitingpickup => handleAgvPickupToWaiting inst s r tr t
        | .pickupToTransit => handleAgvPickupToTransit orc inst s r tr t
        | .transitToOutage => handleAgvTransitToOutage orc inst s r tr t
        | .outageToIdle => handleAgvOutageToIdle s r t
        | .waitingPickupToWaitingPickup => handleAgvWaitingToWaiting inst s r tr t) = .ok o)

theorem applyTransition_ran {s : State} {r : Rng} {tr : Transition} {o : State × Rng}
    (h : applyTransition orc inst s r tr = .ok o) : Ran orc inst s r tr o := by
  unfold applyTransition at h
  cases hc : tr.comp with
  | m mid =>
    simp only [hc] at h
    obtain ⟨m, hm, h⟩ := except_bind_eq_ok h
    unfold handleMachineTransition at h
    simp only [hm, except_bind_ok] at h
    obtain ⟨hd, hh, h⟩ := except_bind_eq_ok h
    have hmem := getMachine_ok hm
    unfold machineHandlerOf at hh
    cases hn : tr.new with
    | t ns => rw [hn] at hh; cases hh
    | m ns =>
      simp only [hn] at hh
      cases hmh : machineHandler m.st ns with
      | none => rw [hmh] at hh; cases hh
      | some hd' =>
        rw [hmh] at hh; cases hh
        exact .m m (by rw [hmem.2]; exact hc) hmem.1 hd ns hn hmh h
  | t tid =>
    simp only [hc] at h
    obtain ⟨t, ht, h⟩ := except_bind_eq_ok h
    unfold handleTransportTransition at h
    simp only [ht, except_bind_ok] at h
    obtain ⟨tc, _, h⟩ := except_bind_eq_ok h
    have hmem := getTransport_ok ht
    split at h
    · cases h
    · obtain ⟨hd, hh, h⟩ := except_bind_eq_ok h
      unfold agvHandlerOf at hh
      cases hn : tr.new with
      | m ns => rw [hn] at hh; cases hh
      | t ns =>
        simp only [hn] at hh
        cases hah : agvHandler t.st ns with
        | none => rw [hah] at hh; cases hh
        | some hd' =>
          rw [hah] at hh; cases hh
          exact .t t (by rw [hmem.2]; exact hc) hmem.1 hd ns hn hah h
  | b bid =>
    simp only [hc] at h
    obtain ⟨_, _, h⟩ := except_bind_eq_ok h
    cases h

/-- The same by handler, with what the dictionary says about the phase the component was in and
the phase asked for. -/
inductive Applied (orc : Oracle) (inst : Instance) (s : State) (r : Rng) (tr : Transition) (o : State × Rng) : Prop
  | idleToSetup (m : MachineState) (hm : m ∈ s.machines) (hc : tr.comp = .m m.id) (hst : m.st = .idle)
      (hn : tr.new = .m .setup) (run : handleMachineIdleToSetup orc inst s r tr m = .ok o)
  | setupToWorking (m : MachineState) (hm : m ∈ s.machines) (hc : tr.comp = .m m.id) (hst : m.st = .setup)
      (hn : tr.new = .m .working) (run : handleMachineSetupToWorking orc inst s r tr m = .ok o)
  | workingToOutage (m : MachineState) (hm : m ∈ s.machines) (hc : tr.comp = .m m.id) (hst : m.st = .working)
      (hn : tr.new = .m .outage) (run : handleMachineWorkingToOutage orc inst s r tr m = .ok o)
  | outageToIdle (m : MachineState) (hm : m ∈ s.machines) (hc : tr.comp = .m m.id) (hst : m.st = .outage)
      (hn : tr.new = .m .idle) (run : handleMachineOutageToIdle inst s r m = .ok o)
  | idleToWorking (t : TransportState) (ht : t ∈ s.transports) (hc : tr.comp = .t t.id) (hst : t.st = .idle)
      (hn : tr.new = .t .working) (run : handleAgvIdleToWorking orc inst s r tr t = .ok o)
  | pickupToWaiting (t : TransportState) (ht : t ∈ s.transports) (hc : tr.comp = .t t.id) (hst : t.st = .pickup)
      (hn : tr.new = .t .waitingpickup) (run : handleAgvPickupToWaiting inst s r tr t = .ok o)
  | waitingToWaiting (t : TransportState) (ht : t ∈ s.transports) (hc : tr.comp = .t t.id)
      (hst : t.st = .waitingpickup) (hn : tr.new = .t .waitingpickup)
      (run : handleAgvWaitingToWaiting inst s r tr t = .ok o)
  | pickupToTransit (t : TransportState) (ht : t ∈ s.transports) (hc : tr.comp = .t t.id)
      (hst : t.st = .pickup ∨ t.st = .waitingpickup) (hn : tr.new = .t .transit)
      (run : handleAgvPickupToTransit orc inst s r tr t = .ok o)
  | transitToOutage (t : TransportState) (ht : t ∈ s.transports) (hc : tr.comp = .t t.id)
      (hst : t.st = .transit ∨ t.st = .working) (hn : tr.new = .t .outage)
      (run : handleAgvTransitToOutage orc inst s r tr t = .ok o)
  | agvOutageToIdle (t : TransportState) (ht : t ∈ s.transports) (hc : tr.comp = .t t.id) (hst : t.st = .outage)
      (hn : tr.new = .t .idle) (run : handleAgvOutageToIdle s r t = .ok o)

theorem applyTransition_cases {s : State} {r : Rng} {tr : Transition} {o : State × Rng}
    (h : applyTransition orc inst s r tr = .ok o) : Applied orc inst s r tr o := by
  cases applyTransition_ran h with
  | m m hc hm hd ns hn hh run =>
    have hi := machineHandler_inv hh
    cases hd with
    | idleToSetup => exact .idleToSetup m hm hc hi.1 (by rw [hn, hi.2]) run
    | setupToWorking => exact .setupToWorking m hm hc hi.1 (by rw [hn, hi.2]) run
    | workingToOutage => exact .workingToOutage m hm hc hi.1 (by rw [hn, hi.2]) run
    | outageToIdle => exact .outageToIdle m hm hc hi.1 (by rw [hn, hi.2]) run
  | t t hc ht hd ns hn hh run =>
    have hi := agvHandler_inv hh
    cases hd with
    | idleToWorking => exact .idleToWorking t ht hc hi.1 (by rw [hn, hi.2]) run
    | pickupToWaitingpickup => exact .pickupToWaiting t ht hc hi.2 (by rw [hn, hi.1]) run
    | waitingPickupToWaitingPickup => exact .waitingToWaiting t ht hc hi.2 (by rw [hn, hi.1]) run
    | pickupToTransit => exact .pickupToTransit t ht hc hi.2 (by rw [hn, hi.1]) run
    | transitToOutage => exact .transitToOutage t ht hc hi.2 (by rw [hn, hi.1]) run
    | outageToIdle => exact .agvOutageToIdle t ht hc hi.1 (by rw [hn, hi.2]) run

theorem applyTransition_on_machine {s : State} {mid : Nat} {m : MachineState} (hm : getMachine s.machines mid = .ok m)
    (r : Rng) (ns : MSt) (job : Option Nat) :
    applyTransition orc inst s r ⟨.m mid, .m ns, job⟩ =
      match machineHandler m.st ns with
      | some .idleToSetup => handleMachineIdleToSetup orc inst s r ⟨.m mid, .m ns, job⟩ m
      | some .setupToWorking => handleMachineSetupToWorking orc inst s r ⟨.m mid, .m ns, job⟩ m
      | some .workingToOutage => handleMachineWorkingToOutage orc inst s r ⟨.m mid, .m ns, job⟩ m
      | some .outageToIdle => handleMachineOutageToIdle inst s r m
      | none => .error .notImplemented := by
  simp only [applyTransition, hm, except_bind_ok, handleMachineTransition, machineHandlerOf]
  cases machineHandler m.st ns with
  | none => rfl
  | some h => cases h <;> rfl

theorem applyTransition_on_transport {s : State} {tid : Nat} {t : TransportState} {tc : TransportCfg}
    (ht : getTransport s.transports tid = .ok t) (htc : getTransportCfg inst.transports t.id = .ok tc)
    (hty : trTypeHandled tc.type = true) (r : Rng) (ns : TSt) (job : Option Nat) :
    applyTransition orc inst s r ⟨.t tid, .t ns, job⟩ =
      match agvHandler t.st ns with
      | some .idleToWorking => handleAgvIdleToWorking orc inst s r ⟨.t tid, .t ns, job⟩ t
      | some .pickupToWaitingpickup => handleAgvPickupToWaiting inst s r ⟨.t tid, .t ns, job⟩ t
      | some .pickupToTransit => handleAgvPickupToTransit orc inst s r ⟨.t tid, .t ns, job⟩ t
      | some .transitToOutage => handleAgvTransitToOutage orc inst s r ⟨.t tid, .t ns, job⟩ t
      | some .outageToIdle => handleAgvOutageToIdle s r t
      | some .waitingPickupToWaitingPickup => handleAgvWaitingToWaiting inst s r ⟨.t tid, .t ns, job⟩ t
      | none => .error .notImplemented := by
  simp only [applyTransition, ht, htc, hty, except_bind_ok, handleTransportTransition, agvHandlerOf,
    Bool.not_true, Bool.false_eq_true, if_false]
  cases agvHandler t.st ns with
  | none => rfl
  | some h => cases h <;> rfl

theorem timedTransitions_ok {s : State} {tt : List Transition} (h : timedTransitions inst s = .ok tt) :
    ∃ ra rb, s.machines.mapM (timedMachine inst s.time) = .ok ra ∧
      s.transports.mapM (timedTransport inst s) = .ok rb ∧ tt = ra.filterMap id ++ rb.filterMap id := by
  unfold timedTransitions at h
  obtain ⟨a, ha, h⟩ := except_bind_eq_ok h
  obtain ⟨b, hb, h⟩ := except_bind_eq_ok h
  cases h
  unfold timedMachineTransitions at ha
  unfold timedTransportTransitions at hb
  cases hra : s.machines.mapM (timedMachine inst s.time) with
  | error e => rw [hra] at ha; cases ha
  | ok ra =>
    cases hrb : s.transports.mapM (timedTransport inst s) with
    | error e => rw [hrb] at hb; cases hb
    | ok rb =>
      rw [hra] at ha; cases ha
      rw [hrb] at hb; cases hb
      exact ⟨ra, rb, rfl, rfl, rfl⟩

theorem mem_timedTransitions {s : State} {tt : List Transition} (h : timedTransitions inst s = .ok tt)
    (tr : Transition) : tr ∈ tt ↔
      (∃ m ∈ s.machines, timedMachine inst s.time m = .ok (some tr)) ∨
      (∃ t ∈ s.transports, timedTransport inst s t = .ok (some tr)) := by
  obtain ⟨ra, rb, hra, hrb, rfl⟩ := timedTransitions_ok h
  rw [List.mem_append, mem_mapM_filterMap hra, mem_mapM_filterMap hrb]

@[simp] theorem processTransitions_nil (s : State) (r : Rng) :
    processTransitions orc inst [] s r = .ok ⟨s, r, 0, []⟩ := rfl

/-- A valid head transition is applied and its post-state recorded. -/
theorem processTransitions_cons_valid {tr : Transition} {L : List Transition} {s s₁ : State} {r r₁ : Rng}
    (hv : transitionValid s tr = .ok true) (ha : applyTransition orc inst s r tr = .ok (s₁, r₁)) :
    processTransitions orc inst (tr :: L) s r =
      (processTransitions orc inst L s₁ r₁).map (fun o => { o with micro := s₁ :: o.micro }) := by
  simp only [processTransitions, hv, ha, except_bind_ok, if_true]
  cases processTransitions orc inst L s₁ r₁ <;> rfl

/-- An invalid head transition is skipped and counted. -/
theorem processTransitions_cons_invalid {tr : Transition} {L : List Transition} {s : State} {r : Rng}
    (hv : transitionValid s tr = .ok false) :
    processTransitions orc inst (tr :: L) s r =
      (processTransitions orc inst L s r).map (fun o => { o with nerr := o.nerr + 1 }) := by
  simp only [processTransitions, hv, except_bind_ok]
  cases processTransitions orc inst L s r <;> rfl

theorem processTransitions_cons_ok {tr : Transition} {L : List Transition} {s : State} {r : Rng} {o : ProcOut}
    (h : processTransitions orc inst (tr :: L) s r = .ok o) :
    (transitionValid s tr = .ok true ∧ ∃ s₁ r₁ o₁, applyTransition orc inst s r tr = .ok (s₁, r₁) ∧
        processTransitions orc inst L s₁ r₁ = .ok o₁ ∧ o = { o₁ with micro := s₁ :: o₁.micro }) ∨
    (transitionValid s tr = .ok false ∧ ∃ o₁, processTransitions orc inst L s r = .ok o₁ ∧
        o = { o₁ with nerr := o₁.nerr + 1 }) := by
  simp only [processTransitions] at h
  obtain ⟨v, hv, h⟩ := except_bind_eq_ok h
  cases v with
  | true =>
    simp only [if_true] at h
    obtain ⟨⟨s₁, r₁⟩, ha, h⟩ := except_bind_eq_ok h
    obtain ⟨o₁, ho₁, h⟩ := except_bind_eq_ok h
    cases h
    exact .inl ⟨hv, s₁, r₁, o₁, ha, ho₁, rfl⟩
  | false =>
    simp only [Bool.false_eq_true, if_false] at h
    obtain ⟨o₁, ho₁, h⟩ := except_bind_eq_ok h
    cases h
    exact .inr ⟨hv, o₁, ho₁, rfl⟩

/-- Induction along a batch.  `Q s R` speaks of the current state and the transitions still to
come; it is kept when the head is rejected and when it is applied.  Then it holds at the end, and
for every recorded post-state with the rest of the batch at that point. -/
theorem processTransitions_ind {Q : State → List Transition → Prop}
    (skip : ∀ {s tr R}, Q s (tr :: R) → transitionValid s tr = .ok false → Q s R)
    (step : ∀ {s r tr R s₁ r₁}, Q s (tr :: R) → transitionValid s tr = .ok true →
      applyTransition orc inst s r tr = .ok (s₁, r₁) → Q s₁ R) :
    ∀ {L : List Transition} {s : State} {r : Rng} {o : ProcOut}, Q s L →
      processTransitions orc inst L s r = .ok o → Q o.state [] ∧ ∀ σ ∈ o.micro, ∃ R, Q σ R
  | [], s, r, o, hQ, h => by
    cases h
    exact ⟨hQ, fun σ hσ => by cases hσ⟩
  | tr :: L, s, r, o, hQ, h => by
    rcases processTransitions_cons_ok h with ⟨hv, s₁, r₁, o₁, ha, ho₁, rfl⟩ | ⟨hv, o₁, ho₁, rfl⟩
    · have hQ₁ := step hQ hv ha
      have ih := processTransitions_ind @skip @step hQ₁ ho₁
      refine ⟨ih.1, fun σ hσ => ?_⟩
      rcases List.mem_cons.mp hσ with rfl | hσ
      · exact ⟨L, hQ₁⟩
      · exact ih.2 σ hσ
    · have ih := processTransitions_ind @skip @step (skip hQ hv) ho₁
      exact ih

@[simp] theorem timedLoop_nil (fuel : Nat) (s : State) (r : Rng) (subs mic : List State) :
    timedLoop orc inst cfg fuel [] s r subs mic = .ok ⟨s, r, subs, false, mic⟩ := by
  cases fuel <;> rfl

theorem timedLoop_cons_ok {fuel : Nat} {a : Transition} {as : List Transition} {s : State} {r : Rng}
    {subs mic : List State} {out : LoopOut}
    (h : timedLoop orc inst cfg fuel (a :: as) s r subs mic = .ok out) :
    ∃ n o, fuel = n + 1 ∧ processTransitions orc inst (a :: as) s r = .ok o ∧
      ((0 < o.nerr ∧ out = ⟨o.state, o.rng, subs, true, mic ++ o.micro⟩) ∨
       (o.nerr = 0 ∧ ∃ t tt, jumpToEvent inst cfg o.state = .ok t ∧
          timedTransitions inst { o.state with time := t } = .ok tt ∧
          timedLoop orc inst cfg n tt { o.state with time := t } o.rng
            (subs ++ [{ o.state with time := t }]) (mic ++ o.micro) = .ok out)) := by
  cases fuel with
  | zero => cases h
  | succ n =>
    simp only [timedLoop] at h
    obtain ⟨o, ho, h⟩ := except_bind_eq_ok h
    refine ⟨n, o, rfl, ho, ?_⟩
    split at h
    · rename_i hn
      cases h
      exact .inl ⟨by simpa using hn, rfl⟩
    · rename_i hn
      obtain ⟨t, ht, h⟩ := except_bind_eq_ok h
      obtain ⟨tt, htt, h⟩ := except_bind_eq_ok h
      exact .inr ⟨by simpa using hn, t, tt, ht, htt, h⟩

/-- Induction along the loop.  `Q s tt` is what holds when a round starts in `s` with the batch
`tt`, `P` what holds of every state met on the way.  A processed batch must yield `P`; after the
jump of the clock a new round starts. -/
theorem timedLoop_ind {Q : State → List Transition → Prop} {P : State → Prop}
    (here : ∀ {s tt}, Q s tt → P s)
    (proc : ∀ {s tt r o}, Q s tt → processTransitions orc inst tt s r = .ok o →
      P o.state ∧ ∀ σ ∈ o.micro, P σ)
    (jump : ∀ {s tt r o t tt'}, Q s tt → processTransitions orc inst tt s r = .ok o → o.nerr = 0 →
      jumpToEvent inst cfg o.state = .ok t → timedTransitions inst { o.state with time := t } = .ok tt' →
      Q { o.state with time := t } tt') :
    ∀ {fuel : Nat} {tt : List Transition} {s : State} {r : Rng} {subs mic : List State} {out : LoopOut},
      Q s tt → timedLoop orc inst cfg fuel tt s r subs mic = .ok out →
      P out.state ∧ (out.failed = false → Q out.state []) ∧
        (∀ σ ∈ out.subs, σ ∈ subs ∨ P σ) ∧ (∀ σ ∈ out.micro, σ ∈ mic ∨ P σ) := by
  intro fuel
  induction fuel with
  | zero =>
    intro tt s r subs mic out hQ h
    cases tt with
    | nil =>
      rw [timedLoop_nil] at h
      cases h
      exact ⟨here hQ, fun _ => hQ, fun σ hσ => .inl hσ, fun σ hσ => .inl hσ⟩
    | cons a as => cases h
  | succ n ih =>
    intro tt s r subs mic out hQ h
    cases tt with
    | nil =>
      rw [timedLoop_nil] at h
      cases h
      exact ⟨here hQ, fun _ => hQ, fun σ hσ => .inl hσ, fun σ hσ => .inl hσ⟩
    | cons a as =>
      obtain ⟨_, o, e, ho, hcase⟩ := timedLoop_cons_ok h
      cases e
      have hp := proc hQ ho
      have hmic : ∀ σ, σ ∈ mic ++ o.micro → σ ∈ mic ∨ P σ := fun σ hσ =>
        (List.mem_append.mp hσ).imp_right (hp.2 σ)
      rcases hcase with ⟨_, rfl⟩ | ⟨hn, t, tt, ht, htt, h⟩
      · exact ⟨hp.1, fun hf => (nomatch hf), fun σ hσ => .inl hσ, hmic⟩
      · have hQ' := jump hQ ho hn ht htt
        have ih := ih hQ' h
        refine ⟨ih.1, ih.2.1, fun σ hσ => ?_, fun σ hσ => ?_⟩
        · rcases ih.2.2.1 σ hσ with h1 | h1
          · rcases List.mem_append.mp h1 with h1 | h1
            · exact .inl h1
            · rw [List.mem_singleton.mp h1]; exact .inr (here hQ')
          · exact .inr h1
        · rcases ih.2.2.2 σ hσ with h1 | h1
          · exact hmic σ h1
          · exact .inr h1

/-- The stages of a successful `smStep`: the action's batch is processed (`p`); on a validation
error the step is unsuccessful.  Otherwise the time machine runs, the due transitions and the
teleporter dispatches form the first batch of the loop (`out`); the loop may fail; if not, the
shop is done (and the clock is stamped with the last end) or new offers are computed. -/
theorem smStep_cases {fuel : Nat} {s0 : State} {r : Rng} {a : Action} {res : SMResult} {r' : Rng}
    {mic : List State} (h : smStep orc inst cfg fuel s0 r a = .ok (res, r', mic)) :
    ∃ p, processTransitions orc inst (sortedByTransport a.transitions) s0 r = .ok p ∧
      ((0 < p.nerr ∧ r' = p.rng ∧ mic = p.micro ∧
          res = { state := s0, subStates := [p.state], action := a, success := false, done := false,
                  possible := [] }) ∨
       (p.nerr = 0 ∧ ∃ t timed poss tele out,
          runTimeMachine inst cfg p.state a.tm = .ok t ∧
          timedTransitions inst { p.state with time := t } = .ok timed ∧
          possibleTransitions inst cfg { p.state with time := t } = .ok poss ∧
          filterTeleport orc inst p.rng { p.state with time := t } poss = .ok tele ∧
          timedLoop orc inst cfg fuel (timed ++ tele) { p.state with time := t } p.rng [p.state] p.micro
            = .ok out ∧
          r' = out.rng ∧ mic = out.micro ∧
          ((out.failed = true ∧
              res = { state := s0, subStates := out.subs, action := a, success := false, done := false,
                      possible := [] }) ∨
           (out.failed = false ∧ isDone inst out.state = true ∧ ∃ e, lastDoneEnd out.state = .ok e ∧
              res = { state := (match e with | some e => { out.state with time := e } | none => out.state),
                      subStates := out.subs.dropLast, action := a, success := true, done := true,
                      possible := [] }) ∨
           (out.failed = false ∧ isDone inst out.state = false ∧ ∃ poss',
              possibleTransitions inst cfg out.state = .ok poss' ∧
              res = { state := out.state, subStates := out.subs.dropLast, action := a, success := true,
                      done := false, possible := poss' })))) := by
  unfold smStep at h
  obtain ⟨p, hp, h⟩ := except_bind_eq_ok h
  refine ⟨p, hp, ?_⟩
  split at h
  · rename_i hn
    cases h
    exact .inl ⟨by simpa using hn, rfl, rfl, rfl⟩
  · rename_i hn
    obtain ⟨t, ht, h⟩ := except_bind_eq_ok h
    obtain ⟨timed, htimed, h⟩ := except_bind_eq_ok h
    obtain ⟨poss, hposs, h⟩ := except_bind_eq_ok h
    obtain ⟨tele, htele, h⟩ := except_bind_eq_ok h
    obtain ⟨out, hout, h⟩ := except_bind_eq_ok h
    refine .inr ⟨by simpa using hn, t, timed, poss, tele, out, ht, htimed, hposs, htele, hout, ?_⟩
    simp only at h
    split at h
    · rename_i hf
      cases h
      exact ⟨rfl, rfl, .inl ⟨hf, rfl⟩⟩
    · rename_i hf
      split at h
      · rename_i hd
        obtain ⟨e, he, h⟩ := except_bind_eq_ok h
        cases h
        exact ⟨rfl, rfl, .inr (.inl ⟨by simpa using hf, hd, e, he, rfl⟩)⟩
      · rename_i hd
        obtain ⟨poss', hposs', h⟩ := except_bind_eq_ok h
        cases h
        exact ⟨rfl, rfl, .inr (.inr ⟨by simpa using hf, by simpa using hd, poss', hposs', rfl⟩)⟩

theorem smStep_spec {orc : Oracle} {inst : Instance} {cfg : SMConfig} {fuel : Nat} {s0 : State}
    {r : Rng} {a : Action} {res : SMResult} {r' : Rng} {mic : List State}
    (h : smStep orc inst cfg fuel s0 r a = .ok (res, r', mic)) :
    res.action = a ∧
    ((res.success = false ∧ res.done = false ∧ res.state = s0 ∧ res.possible = []) ∨
     (res.success = true ∧ res.done = true ∧ res.possible = [] ∧ isDone inst res.state = true) ∨
     (res.success = true ∧ res.done = false ∧ isDone inst res.state = false ∧
        possibleTransitions inst cfg res.state = .ok res.possible)) := by
  obtain ⟨p, _, ⟨_, _, _, rfl⟩ | ⟨_, t, timed, poss, tele, out, _, _, _, _, _, _, _, hcase⟩⟩ := smStep_cases h
  · exact ⟨rfl, .inl ⟨rfl, rfl, rfl, rfl⟩⟩
  · rcases hcase with ⟨_, rfl⟩ | ⟨_, hd, e, _, rfl⟩ | ⟨_, hd, poss', hp', rfl⟩
    · exact ⟨rfl, .inl ⟨rfl, rfl, rfl, rfl⟩⟩
    · refine ⟨rfl, .inr (.inl ⟨rfl, rfl, rfl, ?_⟩)⟩
      cases e with
      | none => exact hd
      | some e => exact hd
    · exact ⟨rfl, .inr (.inr ⟨rfl, rfl, hd, hp'⟩)⟩

theorem mwReset_ok {mc : MwCfg} {fuel : Nat} {s0 : State} {r : Rng} {out : SMResult × MwState × Rng × List State}
    (h : mwReset orc inst cfg mc fuel s0 r = .ok out) :
    ∃ res r' mic, smStep orc inst cfg fuel s0 r noOpAction = .ok (res, r', mic) ∧
      out = (res, { joker := mc.jokerInit, noOpCnt := 0, actCnt := 0 }, r', mic) := by
  unfold mwReset at h
  obtain ⟨⟨res, r', mic⟩, hs, h⟩ := except_bind_eq_ok h
  cases h
  exact ⟨res, r', mic, hs, rfl⟩

theorem envReset_ok {ec : EnvCfg} {s0 : State} {r : Rng} {e : EnvState} {mic : List State}
    (h : envReset orc inst ec s0 r = .ok (e, mic)) :
    ∃ res r', smStep orc inst ec.sm ec.fuel s0 r noOpAction = .ok (res, r', mic) ∧
      e = { res := res, histLen := 0, histNoOps := 0, lastNoOp := false, terminated := false,
            truncated := false, done := false,
            mw := { joker := ec.mw.jokerInit, noOpCnt := 0, actCnt := 0 }, rng := r', rwCnt := 0 } := by
  unfold envReset at h
  obtain ⟨⟨res, mw, r', mic'⟩, hm, h⟩ := except_bind_eq_ok h
  obtain ⟨res₁, r₁, mic₁, hs, e₁⟩ := mwReset_ok hm
  cases e₁
  cases h
  exact ⟨res, r', hs, rfl⟩

/-- a successful `env.step`: the episode was not done, the middleware returned `(res', mw, r, mic)`,
`e'` is the bookkeeping before the `done` flag and the reward counter are set, the reward was
computed -/
theorem envStep_ok {ec : EnvCfg} {st : RewardStatic} {e : EnvState} {a : AgentAct} {out : StepOut}
    (h : envStep orc inst ec st e a = .ok out) :
    e.done = false ∧ ∃ res' mw r mic rew cnt e',
      mwStep orc inst ec.sm ec.mw ec.fuel e.res e.mw e.rng a = .ok (res', mw, r, mic) ∧
      e' = (if res'.success then
              { e with res := res', histLen := e.histLen + 1,
                       histNoOps := e.histNoOps + (if res'.action.transitions.isEmpty then 1 else 0),
                       lastNoOp := res'.action.transitions.isEmpty,
                       terminated := isDone inst res'.state, truncated := decide (mw.joker < 0),
                       mw := mw, rng := r }
            else { e with truncated := true, terminated := false, mw := mw, rng := r }) ∧
      rewardMake ec.rw st e.rwCnt e'.res e'.terminated e'.truncated = .ok (rew, cnt) ∧
      out = { env := { e' with done := e'.terminated || e'.truncated, rwCnt := cnt }, obsRes := res',
              obsDone := res'.possible.isEmpty, reward := rew,
              makespan := if e'.terminated then some e'.res.state.time else none, micro := mic } := by
  unfold envStep at h
  split at h
  · cases h
  · rename_i hd
    obtain ⟨⟨res', mw, r, mic⟩, hm, h⟩ := except_bind_eq_ok h
    obtain ⟨⟨rew, cnt⟩, hrew, h⟩ := except_bind_eq_ok h
    cases h
    exact ⟨by simpa using hd, res', mw, r, mic, rew, cnt, _, hm, rfl, hrew, rfl⟩

end JSL
