/-! simp normal form for the `Except` monad used by the model: `ok` / `error` constructors -/

namespace JSL

@[simp] theorem except_pure {ε α} (a : α) : (pure a : Except ε α) = .ok a := rfl
@[simp] theorem except_throw {ε α} (e : ε) : (throw e : Except ε α) = .error e := rfl
@[simp] theorem except_bind_ok {ε α β} (a : α) (f : α → Except ε β) : ((Except.ok a : Except ε α) >>= f) = f a := rfl
@[simp] theorem except_bind_error {ε α β} (e : ε) (f : α → Except ε β) :
    ((Except.error e : Except ε α) >>= f) = .error e := rfl
@[simp] theorem except_map_ok {ε α β} (a : α) (f : α → β) : (f <$> (Except.ok a : Except ε α)) = .ok (f a) := rfl
@[simp] theorem except_map_error {ε α β} (e : ε) (f : α → β) : (f <$> (Except.error e : Except ε α)) = .error e := rfl
@[simp] theorem except_map'_ok {ε α β} (a : α) (f : α → β) : ((Except.ok a : Except ε α).map f) = .ok (f a) := rfl
@[simp] theorem except_map'_error {ε α β} (e : ε) (f : α → β) : ((Except.error e : Except ε α).map f) = .error e := rfl

theorem except_bind_eq_ok {ε α β} {x : Except ε α} {f : α → Except ε β} {b : β}
    (h : (x >>= f) = .ok b) : ∃ a, x = .ok a ∧ f a = .ok b := by
  cases x with
  | error e => simp at h
  | ok a => exact ⟨a, rfl, by simpa using h⟩

end JSL
