import JSL.Model.Types
import JSL.Lib.Except

/-!
# Walking down two `Except` computations at once

Two `do` blocks of the same shape give the same result up to a map `m` on the values if their parts
do.  Each lemma removes the outermost `>>=` or `if` of both sides, so a proof that a model function
commutes with a change of its arguments follows the text of the function: one step per line of the
`do` block, the equation for the sub-function called there as `hx`, and `rfl` where the block returns.
-/

namespace JSL

theorem bind_peel_ok {α β β₂} (x : Except Err α) (F : α → Except Err β₂)
    (G : α → Except Err β) (m : β → β₂) (h : ∀ a, x = .ok a → F a = (G a).map m) :
    (x >>= F) = (x >>= G).map m := by
  cases x with
  | error e => rfl
  | ok a => exact h a rfl

theorem bind_peel {α β β₂} (x : Except Err α) (F : α → Except Err β₂)
    (G : α → Except Err β) (m : β → β₂) (h : ∀ a, F a = (G a).map m) :
    (x >>= F) = (x >>= G).map m :=
  bind_peel_ok x F G m fun a _ => h a

variable {α α' β β' : Type _}

theorem bind_map_peel {x' : Except Err α'} {x : Except Err α} {k : α → α'} {F : α' → Except Err β'}
    {G : α → Except Err β} {m : β → β'} (hx : x' = x.map k) (h : ∀ a, F (k a) = (G a).map m) :
    (x' >>= F) = (x >>= G).map m := by
  subst hx
  cases x with
  | error e => rfl
  | ok a => exact h a

theorem bind_map_congr {x' : Except Err α'} {x : Except Err α} {k : α → α'} {F : α' → Except Err β}
    {G : α → Except Err β} (hx : x' = x.map k) (h : ∀ a, F (k a) = G a) : (x' >>= F) = (x >>= G) := by
  subst hx
  cases x with
  | error e => rfl
  | ok a => exact h a

theorem ite_peel {c : Prop} [Decidable c] {a b : Except Err β'} {a' b' : Except Err β} {m : β → β'}
    (ha : a = a'.map m) (hb : b = b'.map m) : (if c then a else b) = (if c then a' else b').map m := by
  split
  · exact ha
  · exact hb

end JSL
