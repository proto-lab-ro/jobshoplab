import JSL.Inv.EnvReach
import JSL.Inv.DurStoch
import JSL.Props.Example

/-!
# C02 — operations last exactly their configured duration, never ending early or late

The life of one operation record, as the code writes it:

* `c02_begin` – at SETUP → WORKING the record becomes `[now, now + d)` where `d` is the configured
  duration, or for a stochastic duration the value sampled at this very moment, and the machine
  is occupied until `now + d`;
* `c02_never_early` / `c02_on_time` – a timed machine transition is only created when the
  machine's time is up, and in every state of every execution a busy machine whose time is up is
  up *exactly now*, and the end recorded for its operation is now: completion is never late;
* `c02_outage_extends` – at WORKING → OUTAGE (which by `c02_on_time` fires at the recorded end)
  the end becomes that end plus the longest outage that strikes;
* `c02_stamp_keeps` – at OUTAGE → IDLE (on time again) the record is stamped DONE with end = now,
  which is the end already recorded: the final interval is `d` + outage.
-/

namespace JSL

variable {orc : Oracle} {inst : Instance}

/-- the value `update(); .time` yields: the configured constant, or the next sample of the stream -/
def TimeCfg.sampleNow (orc : Oracle) (r : Rng) : TimeCfg → Int
  | .det t => t
  | .stoch sid => orc sid (r sid + 1)

theorem updRead_fst (c : TimeCfg) (r : Rng) : (c.updRead orc r).1 = c.sampleNow orc r := by
  cases c <;> rfl

/-- **Begin.**  When processing begins the record is `[now, now + d)` on this machine with `d`
the configured / freshly sampled duration of exactly this operation, and the machine is occupied
until `now + d`. -/
theorem c02_begin {s s' : State} {r r' : Rng} {tr : Transition} {m : MachineState}
    (h : handleMachineSetupToWorking orc inst s r tr m = .ok (s', r')) :
    ∃ (j : JobState) (op : OpState) (oc : OpCfg),
      j ∈ s.jobs ∧ tr.job = some j.id ∧ j.nextNotDone? = some op ∧
      oc ∈ inst.jobs.flatMap (·.ops) ∧ oc.job = op.job ∧ oc.idx = op.idx ∧
      s' = (s.replaceJob (j.replaceOp
              { job := oc.job, idx := oc.idx, start := some s.time,
                stop := some (s.time + oc.dur.sampleNow orc r), machine := m.id, st := .processing })).replaceMachine
            { m with st := .working, occ := some (s.time + oc.dur.sampleNow orc r) } := by
  obtain ⟨j, op, oc, d, h1, h2, _, h4, h5, h6, h7, h8, h9⟩ := setupToWorking_spec h
  have hd : d = oc.dur.sampleNow orc r := by
    have := congrArg Prod.fst h8; simp only at this; rw [this, updRead_fst]
  subst hd
  exact ⟨j, op, oc, h1, h2, h4, h5, h6, h7, h9⟩

/-- **Never early.**  The transition that ends a machine phase is only ever created when the
machine's `occupied_till` has been reached. -/
theorem c02_never_early {now : Int} {m : MachineState} {tr : Transition}
    (h : timedMachine inst now m = .ok (some tr)) (hb : m.st ≠ .idle) : dueAt m.occ now = true := by
  obtain ⟨_, ⟨_, _, _, hd, _⟩ | ⟨hidle, _⟩⟩ := timedMachine_ok h
  · exact hd
  · exact absurd hidle hb

/-- **Never late.**  Under the schedule invariant – which holds in every state of every execution
(`c02_no_overdue`) – a busy machine whose time is up is up exactly now, and the end
recorded for the operation it runs is now. -/
theorem c02_on_time {s : State} (hS : SchedInv s) {m : MachineState} (hm : m ∈ s.machines) (hb : m.st ≠ .idle)
    (hd : dueAt m.occ s.time = true) :
    m.occ = some s.time ∧ ∃ j ∈ s.jobs, m.buffer.store = [j.id] ∧
      ∃ op, j.processing? = some op ∧ op.machine = m.id ∧ op.stop = some s.time := by
  obtain ⟨j, hj, hst, op, hop, hmid, hstop, hne⟩ := hS.busyHolds m hm hb
  obtain ⟨l1, l2, hl, _, hp⟩ := processing?_split' hop
  have hmem : op ∈ j.ops := by rw [hl]; simp
  obtain ⟨a, b, _, h2, _, _, h5⟩ := (OpsOK_mem _ _ (hS.ops j hj) op hmem).2.1 hp
  cases ho : m.occ with
  | none => exact absurd ho hne
  | some o =>
    rw [ho] at hd hstop
    simp [dueAt] at hd
    rw [h2] at hstop
    have : b = o := by simpa using hstop
    have : o = s.time := by omega
    subst this
    exact ⟨rfl, j, hj, hst, op, hop, hmid, by rw [h2]; simp [*]⟩

/-- **No machine is ever overdue**: in every state of every execution (results while the shop is
not done, sub-states, post-states of every applied transition) a busy machine holds exactly the
job whose running record ends at the machine's `occupied_till`, and that time is not in the past.
So whenever `c02_never_early`'s condition becomes true it is true with equality. -/
theorem c02_no_overdue {cfg : SMConfig} {s0 σ : State} (hst : Start orc inst s0) (h : OccursA orc inst cfg s0 σ)
    {m : MachineState} (hm : m ∈ σ.machines) (hb : m.st ≠ .idle) :
    ∃ j ∈ σ.jobs, m.buffer.store = [j.id] ∧ ∃ op b, j.processing? = some op ∧ op.machine = m.id ∧
      op.stop = some b ∧ m.occ = some b ∧ σ.time ≤ b := by
  obtain ⟨_, _, hS⟩ := occursA_inv hst h
  obtain ⟨j, hj, hst', op, hop, hmid, hstop, hne⟩ := hS.busyHolds m hm hb
  obtain ⟨l1, l2, hl, _, hp⟩ := processing?_split' hop
  have hmem : op ∈ j.ops := by rw [hl]; simp
  obtain ⟨a, b, _, h2, _, _, h5⟩ := (OpsOK_mem _ _ (hS.ops j hj) op hmem).2.1 hp
  exact ⟨j, hj, hst', op, b, hop, hmid, h2, by rw [← hstop, h2], h5⟩

/-- the same coupling at every state the environment exposes (including the final, stamped one) -/
theorem c02_busy_coupled {ec : EnvCfg} {st : RewardStatic} {s0 σ : State} (hst : Start orc inst s0)
    (h : Exposed orc inst ec st s0 σ) {m : MachineState} (hm : m ∈ σ.machines) (hb : m.st ≠ .idle) :
    ∃ j ∈ σ.jobs, m.buffer.store = [j.id] ∧ ∃ op, j.processing? = some op ∧ op.machine = m.id ∧
      op.stop = m.occ ∧ m.occ ≠ none := by
  obtain ⟨_, _, t, hS⟩ := exposed_inv hst h
  exact hS.busyHolds m hm hb

/-- **Outage extends.**  At WORKING → OUTAGE the recorded end and the machine's `occupied_till`
both become now + the longest of the outages that strike now (0 if none does); the start is
untouched. -/
theorem c02_outage_extends {s s' : State} {r r' : Rng} {tr : Transition} {m : MachineState}
    (h : handleMachineWorkingToOutage orc inst s r tr m = .ok (s', r')) :
    ∃ (mc : MachineCfg) (outs : List OutageState) (j : JobState) (op : OpState),
      mc ∈ inst.machines ∧ mc.id = m.id ∧ newOutageStates orc s.time m.outages mc.outages r = .ok (outs, r') ∧
      j ∈ s.jobs ∧ tr.job = some j.id ∧ j.processing? = some op ∧
      s' = (s.replaceMachine { m with st := .outage, outages := outs, occ := some (s.time + occupiedFor outs) }).replaceJob
            (j.replaceOp { op with stop := some (s.time + occupiedFor outs) }) :=
  workingToOutage_spec h

/-- **Stamp.**  At OUTAGE → IDLE the record is marked DONE with end = now; start and machine are
untouched.  With `c02_on_time` now is the end already recorded, so the completed interval is the
duration fixed at `c02_begin` plus the outage added at `c02_outage_extends`. -/
theorem c02_stamp_keeps {s s' : State} {r r' : Rng} {m : MachineState}
    (h : handleMachineOutageToIdle inst s r m = .ok (s', r')) :
    ∃ (j : JobState) (op : OpState), j ∈ s.jobs ∧ m.buffer.store.head? = some j.id ∧ j.processing? = some op ∧
      ∃ j' ∈ s'.jobs, j'.id = j.id ∧ j'.ops = (j.replaceOp { op with stop := some s.time, st := .done }).ops := by
  obtain ⟨j, op, mc, rest, b1, b2, h1, h2, h3, _, _, _, _, h8⟩ := outageToIdle_spec h
  refine ⟨j, op, h2, by simp [h1], h3, (j.replaceOp { op with stop := some s.time, st := .done }).at m.post.id, ?_, rfl, rfl⟩
  subst h8
  exact replaceJob_mem h2 rfl

/-- stamping at the recorded end changes nothing but the state flag -/
theorem c02_stamp_on_time (op : OpState) (now : Int) (h : op.stop = some now) :
    ({ op with stop := some now, st := .done } : OpState) = { op with st := .done } := by
  cases op; simp_all

/-- **C02 at every state the environment exposes, whatever the agent does.**  A completed
operation whose configured duration is the constant `d` has a recorded interval of at least `d`
– the difference is the outage time applied at its completion – and of exactly `d` when its
machine has no outage configured; an operation in progress on a WORKING / OUTAGE machine is
scheduled to end accordingly.  (For a stochastic duration the value is fixed when processing
begins – `c02_begin` – and the same bookkeeping applies to it step by step: `c02_outage_extends`,
`c02_stamp_keeps`, `c02_no_overdue`.) -/
theorem c02_durations {ec : EnvCfg} {st : RewardStatic} {s0 σ : State} (hst : Start orc inst s0)
    (h : Exposed orc inst ec st s0 σ) (j : JobState) (hj : j ∈ σ.jobs) (o : OpState) (ho : o ∈ j.ops)
    (hrun : o.st = .done ∨ (o.st = .processing ∧ ∃ m ∈ σ.machines, m.id = o.machine ∧ (m.st = .working ∨ m.st = .outage)))
    (oc : OpCfg) (hoc : oc ∈ inst.jobs.flatMap (·.ops)) (hk : oc.job = o.job ∧ oc.idx = o.idx) (d : Int)
    (hd : oc.dur = .det d) :
    ∃ a b, o.start = some a ∧ o.stop = some b ∧ a + d ≤ b ∧
      ((∀ mc ∈ inst.machines, mc.id = o.machine → mc.outages = []) → b = a + d) := by
  obtain ⟨a, b, _, _, hab⟩ := exposed_duration hst h hj ho hrun hoc hk
  rw [hd] at hab
  exact ⟨a, b, hab⟩

/-- **Stochastic durations: the value sampled when processing began.**  In every state an episode
exposes, a completed operation whose configured duration is the stochastic object `sid` has a
recorded interval of at least one of that object's samples `orc sid k` for some `k ≥ 1` – exactly
that sample when its machine has no outage configured; an operation in progress on a WORKING /
OUTAGE machine is scheduled to end accordingly.  Which `k` is not part of the statement (the state
does not record it); that it is the sample drawn by the `update()` at the start of processing is
`c02_begin`. -/
theorem c02_stochastic_durations {ec : EnvCfg} {st : RewardStatic} {s0 σ : State} (hst : Start orc inst s0)
    (h : Exposed orc inst ec st s0 σ) (j : JobState) (hj : j ∈ σ.jobs) (o : OpState) (ho : o ∈ j.ops)
    (hrun : o.st = .done ∨ (o.st = .processing ∧ ∃ m ∈ σ.machines, m.id = o.machine ∧ (m.st = .working ∨ m.st = .outage)))
    (oc : OpCfg) (hoc : oc ∈ inst.jobs.flatMap (·.ops)) (hk : oc.job = o.job ∧ oc.idx = o.idx) (sid : Nat)
    (hd : oc.dur = .stoch sid) :
    ∃ a b k, 1 ≤ k ∧ o.start = some a ∧ o.stop = some b ∧ a + orc sid k ≤ b ∧
      ((∀ mc ∈ inst.machines, mc.id = o.machine → mc.outages = []) → b = a + orc sid k) := by
  have hab := exposed_duration hst h hj ho hrun hoc hk
  rw [hd] at hab
  exact hab

end JSL
