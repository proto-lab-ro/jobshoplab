import JSL.Lib.StepSpec
import JSL.Inv.EnvReach

/-!
# C04 — episodes end exactly when all work is delivered

`terminated` is by definition `isDone` of the new state; that `isDone` (every job lies in an
output buffer) implies every operation is done is an invariant of the state machine
(`c04_delivered_is_done`).  Besides: never both flags, refusal after the end, and the allowance
bookkeeping that makes "never both" true.
-/

namespace JSL

variable {orc : Oracle} {inst : Instance} {ec : EnvCfg} {st : RewardStatic}

/-- the environment refuses further steps once done -/
theorem c04_refuses (e : EnvState) (a : AgentAct) (hd : e.done = true) :
    envStep orc inst ec st e a = .error .envDone := by
  simp [envStep, hd]

/-- `terminated` is reported exactly when every job lies in an output buffer -/
theorem c04_terminated_iff_isDone (e : EnvState) (a : AgentAct) (out : StepOut)
    (h : envStep orc inst ec st e a = .ok out) (hs : out.obsRes.success = true) :
    out.env.terminated = isDone inst out.env.res.state := by
  obtain ⟨_, res', mw, r, mic, rew, cnt, _, _, rfl, _, rfl⟩ := envStep_ok h
  simp only at hs
  simp [hs]

/-- whenever a middleware step lowers the allowance, the new result still has offers, hence is
not done -/
theorem mwStep_joker_lt (mc : MwCfg) (cfg : SMConfig) (fuel : Nat) (res : SMResult) (m : MwState) (r : Rng) (a : AgentAct)
    (out : SMResult × MwState × Rng × List State)
    (h : mwStep orc inst cfg mc fuel res m r a = .ok out) (hlt : out.2.1.joker < m.joker) :
    out.1.success = true ∧ isDone inst out.1.state = false := by
  rcases mwStep_spec h with ⟨_, _, _, _, _, rfl⟩ | ⟨_, _, _, _, _, _, _, _, rfl⟩ | ⟨_, res', _, _, _, _, hs, _, rfl⟩
  · simp [MwState.addOp, noOpAction] at hlt
  · simp at hlt
  · by_cases he : res'.possible = []
    · simp [he, MwState.addOp, noOpAction] at hlt
    · rcases (smStep_spec hs).2 with h1 | h1 | h1
      · exact absurd h1.2.2.2 he
      · exact absurd h1.2.2.1 he
      · exact ⟨h1.1, h1.2.2.1⟩

/-- **Never both.**  From an episode whose allowance is not yet exhausted, a step never reports
termination and truncation together. -/
theorem c04_not_both (e : EnvState) (a : AgentAct) (out : StepOut) (hj : 0 ≤ e.mw.joker)
    (h : envStep orc inst ec st e a = .ok out) :
    ¬ (out.env.terminated = true ∧ out.env.truncated = true) := by
  obtain ⟨_, res', mw, r, mic, rew, cnt, _, hm, rfl, _, rfl⟩ := envStep_ok h
  by_cases hs : res'.success = true
  · simp only [hs, if_true]
    intro ⟨ht, hq⟩
    simp at hq
    have := mwStep_joker_lt ec.mw ec.sm ec.fuel e.res e.mw e.rng a (res', mw, r, mic) hm (by simp; omega)
    simp [this.2] at ht
  · simp [hs]

/-- the allowance invariant that `c04_not_both` needs is maintained: after a step the episode is
done or the allowance is still non-negative -/
theorem c04_joker_inv (e : EnvState) (a : AgentAct) (out : StepOut)
    (h : envStep orc inst ec st e a = .ok out) :
    out.env.done = true ∨ 0 ≤ out.env.mw.joker := by
  obtain ⟨_, res', mw, r, mic, rew, cnt, _, _, rfl, _, rfl⟩ := envStep_ok h
  by_cases hs : res'.success = true
  · simp only [hs, if_true]
    by_cases hq : mw.joker < 0
    · left; simp [hq]
    · right; show 0 ≤ mw.joker; omega
  · left; simp [hs]

/-- on termination the reported makespan is the time of the state -/
theorem c04_makespan_is_time (e : EnvState) (a : AgentAct) (out : StepOut)
    (h : envStep orc inst ec st e a = .ok out) (ht : out.env.terminated = true) :
    out.makespan = some out.env.res.state.time := by
  obtain ⟨_, res', mw, r, mic, rew, cnt, _, _, rfl, _, rfl⟩ := envStep_ok h
  simp only at ht ⊢
  rw [if_pos ht]

/-- **A job that lies in an output buffer has every operation done** – at every state the
environment exposes in any episode.  So `terminated` (every job lies in an output buffer) is
equivalent to "every operation of every job is done and every job lies in an output buffer". -/
theorem c04_delivered_is_done {ec : EnvCfg} {s0 σ : State} (hst : Start orc inst s0)
    (h : Exposed orc inst ec st s0 σ) (j : JobState) (hj : j ∈ σ.jobs) (hloc : j.loc ∈ outputIds inst) :
    ∀ o ∈ j.ops, o.st = .done :=
  (exposed_route hst h).delivered j hj hloc

/-- `terminated` says exactly: all work is done and delivered -/
theorem c04_terminated_iff_done_and_delivered {s0 : State} (hst : Start orc inst s0) (e : EnvState)
    (hr : EnvReach orc inst ec st s0 e) (a : AgentAct) (out : StepOut)
    (h : envStep orc inst ec st e a = .ok out) (hs : out.obsRes.success = true) :
    out.env.terminated = true ↔
      (∀ j ∈ out.env.res.state.jobs, j.loc ∈ outputIds inst ∧ ∀ o ∈ j.ops, o.st = .done) := by
  rw [c04_terminated_iff_isDone e a out h hs]
  have hR := exposed_route hst (Exposed.state (EnvReach.step hr h))
  constructor
  · intro hd j hj
    exact ⟨isDone_iff.mp hd j hj, isDone_all_done hR hd j hj⟩
  · intro hall
    exact isDone_iff.mpr fun j hj => (hall j hj).1

end JSL
