import JSL.Inv.Init
import JSL.Inv.EnvReach
import JSL.Props.Example

/-!
# C03 — jobs are conserved and every resource holds what the state says it holds

Conservation part, at full strength: for every instance and initial state satisfying the decidable
guard `initOKB` (what it implies: `c17_wellformed_checker_sound`; its conjuncts are evaluated on
every generated instance by the driver), for every oracle of sampled durations, every
configuration, **every** action sequence through the core step API (offered transitions or not, any
multiplicity and order, any time machine) and every state that occurs – returned states,
sub-states and the post-state of every individual transition.

Holding part (busy / idle machines, AGVs, claims): under the guard `Start`, at every state the
environment exposes in any episode, whatever the agent does.
-/

namespace JSL

variable {orc : Oracle} {inst : Instance} {cfg : SMConfig} {s0 σ : State}

theorem conserved_of_struct (w : WF inst) (hI : StructInv inst σ) :
    ∀ j ∈ σ.jobs, ∃ b ∈ allBufStates σ, j.id ∈ b.store ∧ b.id = j.loc ∧
      ∀ b' ∈ allBufStates σ, j.id ∈ b'.store → b' = b := by
  have c := hI.cons.toM hI.shape w
  intro j hj
  obtain ⟨b, hb, hbi, hin⟩ := c.located j hj
  refine ⟨b, hb, hin, hbi, ?_⟩
  intro b' hb' hin'
  obtain ⟨j', hj', e1, e2⟩ := c.stored b' hb' j.id hin'
  have : j' = j := eq_of_mem_of_key_eq (key := fun (y : JobState) => y.id) (hI.shape.jobsNodup w) hj' hj e1
  subst this
  exact allBufs_inj hI.shape w hb' hb (by rw [← e2, hbi])

/-- Every job is stored in exactly one buffer – a standalone buffer, a machine's pre/internal/post
buffer or an AGV's buffer – and its reported location names that buffer. -/
theorem c03_conserved (h0 : initOKB inst s0 = true) (h : Occurs orc inst cfg s0 σ) :
    ∀ j ∈ σ.jobs, ∃ b ∈ allBufStates σ, j.id ∈ b.store ∧ b.id = j.loc ∧
      ∀ b' ∈ allBufStates σ, j.id ∈ b'.store → b' = b := by
  obtain ⟨w, hI0⟩ := initOKB_sound h0
  exact conserved_of_struct w (occurs_struct w hI0 h)

/-- No job is duplicated inside a buffer and nothing but jobs of the instance is ever stored. -/
theorem c03_no_duplicates_no_strangers (h0 : initOKB inst s0 = true) (h : Occurs orc inst cfg s0 σ) :
    ∀ b ∈ allBufStates σ, b.store.Nodup ∧ ∀ x ∈ b.store, ∃ j ∈ σ.jobs, j.id = x ∧ j.loc = b.id := by
  obtain ⟨w, hI0⟩ := initOKB_sound h0
  have hI := occurs_struct w hI0 h
  have c := hI.cons.toM hI.shape w
  exact fun b hb => ⟨c.nodup b hb, c.stored b hb⟩

/-- The jobs, machines, AGVs and buffers of every occurring state are those of the instance
(no job is lost or invented, identifiers never change). -/
theorem c03_same_components (h0 : initOKB inst s0 = true) (h : Occurs orc inst cfg s0 σ) :
    σ.jobs.map (·.id) = inst.jobs.map (·.id) ∧ σ.machines.map (·.id) = inst.machines.map (·.id) ∧
      σ.transports.map (·.id) = inst.transports.map (·.id) ∧
      (allBufStates σ).map (·.id) = (allBufCfgs inst).map (·.id) := by
  obtain ⟨w, hI0⟩ := initOKB_sound h0
  have hI := occurs_struct w hI0 h
  exact ⟨hI.shape.jobIds, hI.shape.machineIds, hI.shape.transportIds, hI.shape.bufIds⟩

/-- conservation at every state the environment exposes in any episode -/
theorem c03_env_conserved {ec : EnvCfg} {st : RewardStatic} (hst : Start orc inst s0)
    (h : Exposed orc inst ec st s0 σ) :
    ∀ j ∈ σ.jobs, ∃ b ∈ allBufStates σ, j.id ∈ b.store ∧ b.id = j.loc ∧
      ∀ b' ∈ allBufStates σ, j.id ∈ b'.store → b' = b := by
  obtain ⟨w, hI, _⟩ := exposed_inv hst h
  exact conserved_of_struct w hI

/-- **A busy machine holds exactly one job** – the job whose running operation is recorded on
that machine – **and an idle machine holds none.** -/
theorem c03_machine_holding {ec : EnvCfg} {st : RewardStatic} (hst : Start orc inst s0)
    (h : Exposed orc inst ec st s0 σ) (m : MachineState) (hm : m ∈ σ.machines) :
    (m.st = .idle → m.buffer.store = []) ∧
    (m.st ≠ .idle → ∃ j ∈ σ.jobs, m.buffer.store = [j.id] ∧ j.loc = m.buffer.id ∧
        ∃ op, j.processing? = some op ∧ op.machine = m.id) := by
  obtain ⟨w, hI, t, hS⟩ := exposed_inv hst h
  refine ⟨hS.idleEmpty m hm, fun hb => ?_⟩
  obtain ⟨j, hj, hstore, op, hop, hmid, _, _⟩ := hS.busyHolds m hm hb
  refine ⟨j, hj, hstore, ?_, op, hop, hmid⟩
  have hbm : m.buffer ∈ allBufStates σ := by
    unfold allBufStates
    simp only [List.mem_append, List.mem_flatMap]
    exact Or.inl (Or.inr ⟨m, hm, by simp⟩)
  obtain ⟨b, _, _, hbi, huniq⟩ := conserved_of_struct w hI j hj
  rw [huniq m.buffer hbm (by rw [hstore]; simp)]
  exact hbi.symm

/-- an idle AGV (and one in its drop-off outage) claims no job -/
theorem c03_idle_agv_claims_nothing {ec : EnvCfg} {st : RewardStatic} (hst : Start orc inst s0)
    (h : Exposed orc inst ec st s0 σ) (t : TransportState) (ht : t ∈ σ.transports)
    (hi : t.st = .idle ∨ t.st = .outage) : t.job = none := by
  obtain ⟨_, _, _, hS⟩ := exposed_inv hst h
  exact hS.freeNoClaim t ht hi

/-- **An AGV that is not carrying holds nothing** (in particular an idle one); one in transit holds
exactly one job of the shop. -/
theorem c03_agv_holding {ec : EnvCfg} {st : RewardStatic} (hst : Start orc inst s0)
    (h : Exposed orc inst ec st s0 σ) (t : TransportState) (ht : t ∈ σ.transports) :
    (t.st ≠ .transit → t.buffer.store = []) ∧ (t.st = .transit → ∃ j ∈ σ.jobs, t.buffer.store = [j.id]) :=
  ⟨(exposed_agv hst h).empty t ht, (exposed_agv hst h).holds t ht⟩

/-- **A job is claimed by at most one AGV**, and what an AGV claims is a job of the shop. -/
theorem c03_claim_unique {ec : EnvCfg} {st : RewardStatic} (hst : Start orc inst s0)
    (h : Exposed orc inst ec st s0 σ) (t1 t2 : TransportState) (h1 : t1 ∈ σ.transports) (h2 : t2 ∈ σ.transports)
    (x : Nat) (hx1 : t1.job = some x) (hx2 : t2.job = some x) : t1 = t2 ∧ ∃ j ∈ σ.jobs, j.id = x := by
  have hA := exposed_agv hst h
  obtain ⟨w, hI, _⟩ := exposed_inv hst h
  exact ⟨eq_of_mem_of_key_eq (key := fun (y : TransportState) => y.id) (hI.shape.trNodup w) h1 h2 (hA.unique t1 h1 t2 h2 x hx1 hx2),
    hA.claimed t1 h1 x hx1⟩

/-- non-vacuity: a compiled 2×2 instance with one AGV satisfies the guard -/
example : initOKB Ex.inst Ex.s0 = true := Ex.initOK

end JSL
