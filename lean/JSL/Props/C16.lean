import JSL.Inv.CompileLemmas
import JSL.Inv.Placement

/-!
# C16 — the compiled instance is exactly the instance the specification describes

For the three textual matrices of the DSL – the job matrix, the travel-time matrix and the setup
matrices – reading what was written gives back exactly what was written, for every size:

* `c16_job_matrix_read_back` – the rows of (machine, duration) pairs, in text order, whatever the
  numbers; jobs are numbered by position;
* `c16_matrix_read_back` – column names, row names and values of a travel/setup matrix;
* `c16_entry_is_row_then_column` – the value stored for (row name, column name) is the one written
  in that row under that column: the matrix is read in the from → to direction, by name and not by
  position, in whatever order the rows are written;
* `c16_component_carries_its_outage_entries`, `c16_outage_entries_all_kept_in_order` – a component
  carries exactly the entries of the `outages:` section addressed to it, all of them, in document order.

The rest of the compiler (defaults, buffers, outages, id allocation) is compared field by field
with an independent reading of every generated document, and documents with one defect each must
be rejected with a library error (`harness/monitors/compmon.py`, malformed stream).
-/

namespace JSL

open Compile

/-- the job matrix is read back exactly -/
theorem c16_job_matrix_read_back (header : Text) (rows : List (List (Nat × Nat))) (hh : '\n' ∉ header)
    (hj : parseJobLine (stripSpaces header) = none) (hr : ∀ r ∈ rows, r ≠ []) :
    parseJobMatrix (renderJobMatrix header rows) = rows := by
  unfold parseJobMatrix renderJobMatrix
  rw [splitOnC_joinWith (by simp)]
  · simp only [List.map_cons, List.filterMap_cons, hj]
    exact filterMap_jobLines rows 0 hr
  · intro l hl
    rcases List.mem_cons.mp hl with rfl | hl
    · exact hh
    · exact no_newline_jobLines rows 0 l hl

/-- the machine-declaration line of the DSL is not a job line, whatever machines it declares -/
theorem c16_header_is_not_a_job_line (rest : Text) : parseJobLine (stripSpaces ('(' :: rest)) = none := by
  simp [stripSpaces, parseJobLine]

/-- a well-formed matrix: at least one column, usable names -/
structure GoodMatrix (m : Matrix) : Prop where
  cols : m.cols ≠ []
  colNames : ∀ c ∈ m.cols, GoodName c
  rowNames : ∀ r ∈ m.rows, GoodName r.1

/-- a travel / setup matrix is read back exactly -/
theorem c16_matrix_read_back (m : Matrix) (hm : GoodMatrix m) : parseMatrix (renderMatrix m) = some m := by
  unfold parseMatrix renderMatrix
  have hhdr_nl : '\n' ∉ joinWith '|' m.cols := not_mem_joinWith (by decide) (fun c hc => (hm.colNames c hc).2.2.2)
  have hhdr_sp : ' ' ∉ joinWith '|' m.cols := not_mem_joinWith (by decide) (fun c hc => (hm.colNames c hc).2.1)
  have hrow_nl : ∀ r ∈ m.rows, '\n' ∉ renderRow r := by
    intro r hr hc
    unfold renderRow at hc
    rcases List.mem_append.mp hc with e | e
    · exact (hm.rowNames r hr).2.2.2 e
    · rcases List.mem_cons.mp e with e | e
      · revert e; decide
      · exact not_mem_vals (by decide) (by decide) (by decide) r.2 e
  rw [splitOnC_joinWith (by simp)]
  · simp only [List.map_cons, trim_of_no_space hhdr_sp]
    have hhdr_ne : joinWith '|' m.cols ≠ [] := by
      cases hc : m.cols with
      | nil => exact absurd hc hm.cols
      | cons c cs =>
        have hcne := (hm.colNames c (by rw [hc]; simp)).1
        cases cs with
        | nil => simpa [joinWith] using hcne
        | cons c2 cs2 => simp only [joinWith]; intro h0; exact hcne (List.append_eq_nil_iff.mp h0).1
    have hrows : (m.rows.map renderRow).map trim = m.rows.map renderRow := by
      rw [List.map_map]
      apply List.map_congr_left
      intro r hr
      exact renderRow_trim r (hm.rowNames r hr)
    rw [hrows]
    have hfilter : (joinWith '|' m.cols :: m.rows.map renderRow).filter (fun l => !l.isEmpty) =
        joinWith '|' m.cols :: m.rows.map renderRow := by
      apply List.filter_eq_self.mpr
      intro t ht
      rcases List.mem_cons.mp ht with rfl | ht
      · simpa using hhdr_ne
      · obtain ⟨r, hr, rfl⟩ := List.mem_map.mp ht
        have hne : renderRow r ≠ [] := by
          intro h0
          exact (hm.rowNames r hr).1 (List.append_eq_nil_iff.mp h0).1
        simpa using hne
    rw [hfilter]
    simp only
    rw [mapM_rows m.rows hm.rowNames, splitOnC_joinWith hm.cols (fun c hc => (hm.colNames c hc).2.2.1)]
    rfl
  · intro l hl
    rcases List.mem_cons.mp hl with rfl | hl
    · exact hhdr_nl
    · obtain ⟨r, hr, rfl⟩ := List.mem_map.mp hl
      exact hrow_nl r hr

/-- **Direction and naming.**  With distinct row names and distinct column names, of which each
row lists one value per column, the value stored for (row `r`, column `c`) is the value written in
row `r` at the position of column `c` – wherever that row stands in the text. -/
theorem c16_entry_is_row_then_column (m : Matrix) (hrows : (m.rows.map (·.1)).Nodup) (hcols : m.cols.Nodup)
    (r : Text × List Int) (hr : r ∈ m.rows) (hlen : r.2.length = m.cols.length) (k : Nat) (hk : k < m.cols.length) :
    m.lookup r.1 (m.cols[k]) = some (r.2[k]'(by omega)) := by
  unfold Matrix.lookup
  -- the entry is in the dictionary …
  have hmem : ((r.1, m.cols[k]), r.2[k]'(by omega)) ∈ m.entries := by
    unfold Matrix.entries
    apply List.mem_flatMap.mpr
    refine ⟨r, hr, ?_⟩
    apply List.mem_map.mpr
    refine ⟨(m.cols[k], r.2[k]'(by omega)), ?_, rfl⟩
    have : (m.cols.zip r.2)[k]'(by simp [List.length_zip]; omega) = (m.cols[k], r.2[k]'(by omega)) := by simp
    rw [← this]; exact List.getElem_mem _
  -- … and every entry for that key carries that value
  have huniq : ∀ e ∈ m.entries, e.1 = (r.1, m.cols[k]) → e.2 = r.2[k]'(by omega) := by
    intro e he hkey
    unfold Matrix.entries at he
    obtain ⟨r', hr', he⟩ := List.mem_flatMap.mp he
    obtain ⟨⟨c, v⟩, hcv, rfl⟩ := List.mem_map.mp he
    simp only [Prod.mk.injEq] at hkey
    have hrr : r' = r := eq_of_mem_of_fst_eq hrows hr' hr hkey.1
    subst hrr
    obtain ⟨i, hi, hget⟩ := List.getElem_of_mem hcv
    simp only [List.getElem_zip, Prod.mk.injEq] at hget
    have hik : i = k := by
      have hi' : i < m.cols.length := by simp [List.length_zip] at hi; omega
      exact (List.getElem_inj hcols).mp (by rw [hget.1, hkey.2])
    subst hik
    exact hget.2.symm
  cases hf : m.entries.reverse.find? (fun e => e.1 = (r.1, m.cols[k])) with
  | none =>
    have := List.find?_eq_none.mp hf _ (List.mem_reverse.mpr hmem)
    simp at this
  | some e =>
    have he := List.mem_reverse.mp (List.mem_of_find?_eq_some hf)
    have hkey : e.1 = (r.1, m.cols[k]) := by simpa using List.find?_some hf
    simp [huniq e he hkey]

/-- non-vacuity: a 2×2 travel matrix written with its rows in the opposite order of its header -/
example : parseMatrix "a|b\nb|3 0\na|0 7\n".toList =
    some { cols := ["a".toList, "b".toList], rows := [("b".toList, [3, 0]), ("a".toList, [0, 7])] } := by decide +kernel

example : parseJobMatrix "(m0,t)|(m1,t)\nj0|(0,3) (1,12)\nj1|(1,2)(0,4)\n".toList = [[(0, 3), (1, 12)], [(1, 2), (0, 4)]] := by
  decide +kernel

/-! ## outages (`_map_spec_dict_to_outage`; tied by the `CO` lines) -/

open Compile in
/-- **a component carries exactly the entries of the `outages:` section addressed to it**: an entry
is among a component's outages iff its component name is one of the names that address it -/
theorem c16_component_carries_its_outage_entries {α : Type} (names : List Text) (entries : List (Text × α)) (x : α) :
    x ∈ outagesFor names entries ↔ ∃ n, (n, x) ∈ entries ∧ n ∈ names := by
  simp only [outagesFor, List.mem_map, List.mem_filter, List.contains_iff_mem]
  constructor
  · rintro ⟨⟨n, y⟩, ⟨hm, hn⟩, rfl⟩
    exact ⟨n, hm, hn⟩
  · rintro ⟨n, hm, hn⟩
    exact ⟨(n, x), ⟨hm, hn⟩, rfl⟩

open Compile in
/-- ... all of them (as many as there are matching entries, so several entries for one component
are all active), in the order of the document -/
theorem c16_outage_entries_all_kept_in_order {α : Type} (names : List Text) (entries : List (Text × α)) :
    (outagesFor names entries).length = entries.countP (fun e => names.contains e.1) ∧
    (outagesFor names entries).Sublist (entries.map (·.2)) ∧
    ∀ e₁ e₂ : List (Text × α), outagesFor names (e₁ ++ e₂) = outagesFor names e₁ ++ outagesFor names e₂ :=
  ⟨outagesFor_length names entries, outagesFor_sublist names entries, outagesFor_append names⟩

open Compile in
/-- a machine is addressed by `m`, `machine`, … and by its own id, not by another machine's id -/
theorem c16_machine_addressed_by_own_id (id other : Text) (h : other ∉ machineOutageNames id) :
    other ≠ id ∧ other ≠ "m".toList := by
  constructor <;> rintro rfl <;> simp [machineOutageNames] at h

/-- non-vacuity: two entries for `m` and `m-0`, one for `m-1`: machine `m-0` carries the first two -/
example : Compile.outagesFor (Compile.machineOutageNames "m-0".toList)
    [("m".toList, 1), ("m-1".toList, 2), ("m-0".toList, 3)] = [1, 3] := by decide +kernel

end JSL
