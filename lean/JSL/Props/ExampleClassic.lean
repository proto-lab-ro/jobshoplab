import JSL.Props.Example
import JSL.Model.Classic
import JSL.Inv.ClassicDefs

/-!
A classic instance: the example instance with a travel matrix that answers 0 between any two places.
-/

namespace JSL.ExC

def inst : Instance :=
  { Ex.inst with travel := (locsOf Ex.inst).flatMap fun a => (locsOf Ex.inst).map fun b => ((a, b), TimeCfg.det 0) }

theorem classic : classicInstB inst = true := by decide +kernel

theorem startOK : classicStartB inst Ex.s0 = true := by decide +kernel

theorem initOK : initOKB inst Ex.s0 = true ∧ restB Ex.s0 = true ∧ placedB inst Ex.s0 = true ∧ nonnegB inst = true := by
  decide +kernel

end JSL.ExC
