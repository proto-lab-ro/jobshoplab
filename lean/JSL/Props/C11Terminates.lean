import JSL.Props.C05Fuel
import JSL.Props.C11

/-!
# C11 — the always-accept agent terminates (unconditionally, in the class `totalClassB`)

`c11_always_accept_finishes` (`JSL/Props/C11.lean`) is conditional: *if* every step of the run of
accepted offers returns, the run ends with the shop finished within `potBound inst = 2·#operations +
#jobs` steps.  In the class `totalClassB` with fuel `≥ fuelBound inst` every step does return
(`c05_step_returns_in_class`) and succeeds (`c05_no_step_fails_in_class`), so the run exists:

* `c11_accept_run_returns`         – the run of `n` accepted offers from any state of such a run returns;
* **`c11_always_accept_terminates`** – for every state of the counters `r0`: `reset` returns, the run of
  `potBound inst` accepted offers returns (it stops at the first state that is done), and it ends
  terminated, not truncated, with every job in an output buffer, after at most `potBound inst` steps;
* `c11_always_accept_terminates_exact` – the same with the exact number `n ≤ potBound inst` of steps made.

So from `reset` every instance of the class **can** be finished: within `2·#operations + #jobs` accepted
offers.
-/

namespace JSL

variable {orc : Oracle} {inst : Instance}

/-- the class contains the guards of C11's progress theorems -/
theorem totalClassB_flex_agv {s0 : State} (hC : totalClassB inst s0 = true) :
    flexInstB inst = true ∧ hasAgvB inst = true := by
  simp only [totalClassB, totalInstB, Bool.and_eq_true] at hC
  obtain ⟨⟨⟨⟨⟨⟨⟨⟨⟨⟨_, _⟩, _⟩, hagv⟩, _⟩, _⟩, hflex⟩, _⟩, _⟩, _⟩, _⟩ := hC
  refine ⟨hflex, ?_⟩
  unfold agvOnlyB at hagv
  unfold hasAgvB
  cases htr : inst.transports with
  | nil => simp [htr] at hagv
  | cons tc ts =>
    simp only [htr, Bool.and_eq_true, List.all_cons] at hagv
    simp only [List.any_cons, Bool.or_eq_true]
    exact Or.inl hagv.2.1

/-- a returned, successful step makes the history one longer -/
theorem envStep_histLen_succ {ec : EnvCfg} {st : RewardStatic} {e : EnvState} {a : AgentAct} {out : StepOut}
    (h : envStep orc inst ec st e a = .ok out) (hs : out.obsRes.success = true) :
    out.env.histLen = e.histLen + 1 := by
  obtain ⟨_, res', mw, r, mic, rew, cnt, _, _, rfl, _, rfl⟩ := envStep_ok h
  simp only at hs
  simp [hs]

/-- **the run of accepted offers returns**: from any state of an always-accept run, for any number of steps -/
theorem c11_accept_run_returns {ec : EnvCfg} {st : RewardStatic} {s0 : State} (hst : Start orc inst s0)
    (hC : totalClassB inst s0 = true) (hops : st.numOps ≠ 0) (hspan : st.tmax - st.lb ≠ 0)
    (hbias : ec.rw.sparseBias ≠ 0) (hfuel : fuelBound inst ≤ ec.fuel) {e0 : EnvState} :
    ∀ (n : Nat) (e : EnvState), RunInv orc inst ec st s0 e0 e → ∃ e', acceptRun orc inst ec st n e = .ok e' := by
  intro n
  induction n with
  | zero => intro e _; exact ⟨e, rfl⟩
  | succ n ih =>
    intro e hi
    by_cases hd : e.done = true
    · exact ⟨e, acceptRun_of_done hd _⟩
    · have hd' : e.done = false := by simpa using hd
      obtain ⟨out, ho⟩ := c05_step_returns_in_class hst hC hops hspan hbias hfuel hi.reach hd' (Or.inl rfl)
      have hs := c05_no_step_fails_in_class hst hC hi.reach ho
      rw [acceptRun_succ_of_step hd' ho hs]
      exact ih out.env (runInv_step hi ho hs)

/-- the number of steps an always-accept run made -/
theorem acceptRun_histLen {ec : EnvCfg} {st : RewardStatic} :
    ∀ (n : Nat) (e e' : EnvState), acceptRun orc inst ec st n e = .ok e' →
      e.histLen ≤ e'.histLen ∧ e'.histLen ≤ e.histLen + n ∧
      acceptRun orc inst ec st (e'.histLen - e.histLen) e = .ok e' := by
  intro n
  induction n with
  | zero =>
    intro e e' h
    cases h
    exact ⟨Nat.le_refl _, Nat.le_refl _, by rw [Nat.sub_self]; rfl⟩
  | succ n ih =>
    intro e e' h
    rcases acceptRun_succ_ok h with ⟨hd, rfl⟩ | ⟨hd, out, hstep, hs, h⟩
    · exact ⟨Nat.le_refl _, Nat.le_add_right _ _, acceptRun_of_done hd _⟩
    · have hl := envStep_histLen_succ hstep hs
      obtain ⟨h1, h2, h3⟩ := ih out.env e' h
      refine ⟨by omega, by omega, ?_⟩
      have e1 : e'.histLen - e.histLen = (e'.histLen - out.env.histLen) + 1 := by omega
      rw [e1, acceptRun_succ_of_step hd hstep hs]
      exact h3

/-- **The always-accept agent terminates.**  In the class `totalClassB`, with a non-negative truncation
allowance, reward parameters that cannot divide by zero and fuel `≥ fuelBound inst`: for every state of
the counters, `reset` returns, the run of `potBound inst = 2·#operations + #jobs` accepted offers
returns – no step raises, no step fails, the timed loop always ends – and the state it ends in is
terminated, not truncated, every job lies in an output buffer, and at most `potBound inst` steps were made. -/
theorem c11_always_accept_terminates {ec : EnvCfg} {st : RewardStatic} {s0 : State} (hst : Start orc inst s0)
    (hC : totalClassB inst s0 = true) (hjk : 0 ≤ ec.mw.jokerInit) (hops : st.numOps ≠ 0)
    (hspan : st.tmax - st.lb ≠ 0) (hbias : ec.rw.sparseBias ≠ 0) (hfuel : fuelBound inst ≤ ec.fuel) (r0 : Rng) :
    ∃ e0 mic0 e, envReset orc inst ec s0 r0 = .ok (e0, mic0) ∧
      acceptRun orc inst ec st (potBound inst) e0 = .ok e ∧
      e.terminated = true ∧ e.truncated = false ∧ e.done = true ∧ isDone inst e.res.state = true ∧
      e.histLen ≤ potBound inst := by
  obtain ⟨hF, hA⟩ := totalClassB_flex_agv hC
  obtain ⟨e0, mic0, hreset⟩ := c05_reset_returns_in_class (ec := ec) hst hC hfuel r0
  have hr0 : EnvReach orc inst ec st s0 e0 := EnvReach.reset hreset
  obtain ⟨hjok, htr0, hd0, ht0, _⟩ := envReset_flags hreset
  obtain ⟨_, hs0, hnd0⟩ := c05_not_done_is_live_in_class hst hC hr0 hd0
  have hi0 : RunInv orc inst ec st s0 e0 e0 :=
    ⟨hr0, hs0, by rw [hjok]; exact hjk, htr0, by rw [hd0, ht0], Or.inl rfl⟩
  obtain ⟨e, hrun⟩ := c11_accept_run_returns hst hC hops hspan hbias hfuel (potBound inst) e0 hi0
  obtain ⟨hdone, htr, hterm⟩ := c11_always_accept_finishes hst hF hA hjk hreset hrun (Nat.le_refl _)
  have hi := (acceptRun_pot hst (potBound inst) e0 e hi0 hrun).1
  have hlen := (acceptRun_histLen (potBound inst) e0 e hrun).2.1
  have h0len := (c14_reset_initial s0 r0 e0 mic0 hreset).1
  refine ⟨e0, mic0, e, hreset, hrun, hterm hnd0, htr, ?_, hdone, by omega⟩
  rw [hi.done]; exact hterm hnd0

/-- the same with the exact number of steps: the episode is finished after `n ≤ 2·#operations + #jobs`
accepted offers, `n` the length of the history -/
theorem c11_always_accept_terminates_exact {ec : EnvCfg} {st : RewardStatic} {s0 : State} (hst : Start orc inst s0)
    (hC : totalClassB inst s0 = true) (hjk : 0 ≤ ec.mw.jokerInit) (hops : st.numOps ≠ 0)
    (hspan : st.tmax - st.lb ≠ 0) (hbias : ec.rw.sparseBias ≠ 0) (hfuel : fuelBound inst ≤ ec.fuel) (r0 : Rng) :
    ∃ e0 mic0 n e, n ≤ potBound inst ∧ envReset orc inst ec s0 r0 = .ok (e0, mic0) ∧
      acceptRun orc inst ec st n e0 = .ok e ∧ e.histLen = n ∧ e.terminated = true ∧ e.truncated = false := by
  obtain ⟨e0, mic0, e, hreset, hrun, hterm, htr, _, _, hlen⟩ :=
    c11_always_accept_terminates hst hC hjk hops hspan hbias hfuel r0
  have h3 := (acceptRun_histLen (potBound inst) e0 e hrun).2.2
  rw [(c14_reset_initial s0 r0 e0 mic0 hreset).1, Nat.sub_zero] at h3
  exact ⟨e0, mic0, e.histLen, e, hlen, hreset, h3, rfl, hterm, htr⟩

/-- on the example instance (2 jobs × 2 machines, one AGV, early dispatch on): the run exists and ends
terminated within `potBound = 10` steps -/
example : ∃ e0 mic0 e, envReset ExT.orc0 ExT.instT ExT.ec Ex.s0 ExT.r0 = .ok (e0, mic0) ∧
    acceptRun ExT.orc0 ExT.instT ExT.ec ExT.st (potBound ExT.instT) e0 = .ok e ∧
    e.terminated = true ∧ e.truncated = false ∧ e.done = true ∧ isDone ExT.instT e.res.state = true ∧
    e.histLen ≤ potBound ExT.instT :=
  c11_always_accept_terminates ExT.start_exT ExTot.instT_in_class (by decide) (by decide) (by decide) (by decide)
    ExTot.instT_fuel.2.1 ExT.r0

namespace ExB

/-- the hypotheses of `c11_always_accept_finishes` are jointly satisfiable: on the completed
example instance (`ExT.instT`: 2 jobs × 2 machines, one AGV, unordered buffers, total travel matrix)
every one of the `potBound` = 10 steps returns and succeeds, and the run ends with every job delivered -/
theorem ex_accept_run : ∃ e0 mic0 e, envReset ExT.orc0 ExT.instT ExT.ec Ex.s0 ExT.r0 = .ok (e0, mic0) ∧
    acceptRun ExT.orc0 ExT.instT ExT.ec ExT.st (potBound ExT.instT) e0 = .ok e ∧
    isDone ExT.instT e.res.state = true ∧ e.truncated = false := by
  obtain ⟨e0, mic0, e, hreset, hrun, _, htr, _, hdone, _⟩ :=
    c11_always_accept_terminates (ec := ExT.ec) (st := ExT.st) ExT.start_exT ExTot.instT_in_class (by decide)
      (by decide) (by decide) (by decide) ExTot.instT_fuel.2.1 ExT.r0
  exact ⟨e0, mic0, e, hreset, hrun, hdone, htr⟩

end ExB

namespace ExFuel

/-- reset the example and accept ten times, with `k` rounds of fuel per `state.step` -/
def run (k : Nat) : Except Err EnvState :=
  match envReset ExT.orc0 ExT.instT { ExT.ec with fuel := k } Ex.s0 ExT.r0 with
  | .error e => .error e
  | .ok (e0, _) => acceptRun ExT.orc0 ExT.instT { ExT.ec with fuel := k } ExT.st (potBound ExT.instT) e0

def finished (k : Nat) : Bool :=
  match run k with
  | .ok e => e.terminated && !e.truncated
  | .error _ => false

/-- with five rounds the loop of some `state.step` of the run is cut off (`Hang`), with six the run
finishes; `fuelBound ExT.instT = 19` -/
theorem fuel_is_needed : (match run 5 with | .error e => e == .outOfFuel | .ok _ => false) = true ∧
    finished 6 = true ∧ fuelBound ExT.instT = 19 := by decide +kernel

end ExFuel

end JSL
