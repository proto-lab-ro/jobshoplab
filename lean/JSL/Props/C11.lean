import JSL.Inv.Offers
import JSL.Inv.EnvReach
import JSL.Props.Example
import JSL.Inv.ProgressPass
import JSL.Inv.AcceptBound

/-!
# C11 — no deadlock (what is proved, and what is false)

Proved:

* `c11_no_early_dispatch_ready` – with early transport disabled, every AGV dispatch on offer is
  for a job that is ready for pickup *now*: it lies at the release position of a post-buffer or
  standalone buffer (or in an unordered one), is in no machine, and none of its operations runs;
* `c11_offered_agv_idle_job_unclaimed` – a dispatch is only offered for an idle AGV and a job no
  AGV has claimed;
* `c18_decline_last_advances`, `c12_forced_jump_strict` (C18, C12) – declining everything always
  moves the clock strictly forward, so "nothing happens forever at one instant" cannot be caused by
  the agent.

* **`c11_never_out_of_offers`** – for instances whose buffers are all unordered and that have an AGV
  (`flexInstB`, `hasAgvB`: decidable, on the `G` line of every scenario by both sides): every
  environment state held after a successful reset or step that is not finished offers at least one
  transition – the finding "zero offers although not done" cannot occur in this class;
  `c11_something_can_happen` – at state level: a non-finished state has an offer or something is
  pending (an operation in progress or a busy AGV with a fixed arrival time not in the past), also
  with ordered buffers when early transport is allowed (`c11_something_can_happen_early`);
  `c11_an_agv_is_needed` – without an AGV-typed transport the initial state is stuck.
* **`c11_always_accept_finishes`** – in that class, an agent that accepts every offer is done after at
  most `2·(number of operations) + (number of jobs)` steps, provided every step returns and succeeds
  (exceptions such as a delivery into a full buffer are C05's findings); the potential behind it
  (`2·idle records + jobs waiting for a dispatch`) never increases, whatever the agent answers
  (`c11_no_step_increases_the_potential`), and every successful accept strictly decreases it
  (`c11_accept_makes_progress`) – on every instance.

False as stated (genuine, recorded as known findings with replayable inputs): inside the class
the property delimits there are livelocks (an ordered standalone buffer, enough AGVs, early
transport on: an AGV claims a job that is not at the release position and the timed loop repeats
WAITINGPICKUP → WAITINGPICKUP at one instant forever) and deadlocks (early transport off, ordered
post-buffer, fewer AGVs than jobs: a later completion buries the claimed job).
-/

namespace JSL

variable {orc : Oracle} {inst : Instance}

/-- **With early transport disabled an AGV is only ever dispatched to a job that is ready for
pickup.** -/
theorem c11_no_early_dispatch_ready {cfg : SMConfig} {s0 σ : State} (hst : Start orc inst s0)
    (h : OccursA orc inst cfg s0 σ) (hne : cfg.allowEarly = false) {poss : List Transition}
    (hp : possibleTransitions inst cfg σ = .ok poss) (tr : Transition) (htr : tr ∈ poss) (ht : tr.new = .t .working) :
    ∃ j ∈ σ.jobs, tr.job = some j.id ∧ readyForPickup inst σ j = .ok true ∧
      (∀ m ∈ σ.machines, m.buffer.id ≠ j.loc ∧ m.pre.id ≠ j.loc) ∧ (∀ o ∈ j.ops, o.st ≠ .processing) := by
  obtain ⟨w, hI, hS⟩ := occursA_inv hst h
  rcases mem_possibleTransitions hp htr with ⟨_, _, _, _, _, rfl⟩ | ⟨pt, hpt, h1⟩
  · cases ht
  · obtain ⟨t, _, j, hj, rfl, _, _, hr⟩ := possibleTransport_facts hpt tr h1
    exact ⟨j, hj, rfl, hr hne, ready_facts w hI hS hj (hr hne)⟩

/-- a dispatch is offered only for an idle AGV and a job that no AGV has claimed -/
theorem c11_offered_agv_idle_job_unclaimed {cfg : SMConfig} {σ : State} {poss : List Transition}
    (hp : possibleTransitions inst cfg σ = .ok poss) (tr : Transition) (htr : tr ∈ poss) (ht : tr.new = .t .working) :
    ∃ t ∈ σ.transports, tr.comp = .t t.id ∧ t.st = .idle ∧
      ∃ j ∈ σ.jobs, tr.job = some j.id ∧ ∀ x ∈ σ.transports, x.job ≠ some j.id := by
  rcases mem_possibleTransitions hp htr with ⟨_, _, _, _, _, rfl⟩ | ⟨pt, hpt, h1⟩
  · cases ht
  · obtain ⟨t, htm, j, hj, rfl, hidle, hunc, _⟩ := possibleTransport_facts hpt tr h1
    exact ⟨t, htm, rfl, hidle, j, hj, rfl, hunc⟩

/-- **In the class of unordered buffers with an AGV the environment never runs out of offers**
before the shop is done. -/
theorem c11_never_out_of_offers {ec : EnvCfg} {st : RewardStatic} {s0 : State} (hst : Start orc inst s0)
    (hF : flexInstB inst = true) (hA : hasAgvB inst = true) {e : EnvState} (h : EnvReach orc inst ec st s0 e)
    (hs : e.res.success = true) (hnd : isDone inst e.res.state = false) : e.res.possible ≠ [] :=
  env_offers hst hF hA h hs hnd

/-- a non-finished state of an episode has an offer, or something is pending -/
theorem c11_something_can_happen {ec : EnvCfg} {st : RewardStatic} {s0 : State} (hst : Start orc inst s0)
    (hF : flexInstB inst = true) (hA : hasAgvB inst = true) {e : EnvState} (h : EnvReach orc inst ec st s0 e)
    (hnd : isDone inst e.res.state = false) {poss : List Transition}
    (hposs : possibleTransitions inst ec.sm e.res.state = .ok poss) : poss ≠ [] ∨ Pending e.res.state :=
  env_progress hst hF hA h hnd hposs

/-- the same at state level with early transport allowed, whatever the buffer types -/
theorem c11_something_can_happen_early (w : WF inst) (hA : HasAgv inst) {cfg : SMConfig} (he : cfg.allowEarly = true)
    {s : State} (hI : StructInv inst s) (hS : SchedInv s) (hP : AgvFull inst s) (hN : NoDep s)
    (hnd : isDone inst s = false) {poss : List Transition} (hp : possibleTransitions inst cfg s = .ok poss) :
    poss ≠ [] ∨ Pending s :=
  progress_state_early w hA he hI hS hP hN hnd hp

/-- **an AGV is needed**: unordered buffers alone do not give progress -/
theorem c11_an_agv_is_needed : initOKB ExP.instC Ex.s0 = true ∧ restB Ex.s0 = true ∧ placedB ExP.instC Ex.s0 = true ∧
    flexInstB ExP.instC = true ∧ hasAgvB ExP.instC = false ∧ isDone ExP.instC Ex.s0 = false ∧
    possibleTransitions ExP.instC { allowEarly := true } Ex.s0 = .ok [] ∧
    possibleTransitions ExP.instC { allowEarly := false } Ex.s0 = .ok [] ∧ ¬ Pending Ex.s0 :=
  ExP.no_agv_stuck

/-- non-vacuity: the example instance is in the class -/
example : flexInstB Ex.inst = true ∧ hasAgvB Ex.inst = true := by decide

/-- every successful accept makes progress: the potential strictly decreases (any instance) -/
theorem c11_accept_makes_progress {ec : EnvCfg} {st : RewardStatic} {s0 : State} {e : EnvState} {out : StepOut}
    (hst : Start orc inst s0) (hr : EnvReach orc inst ec st s0 e)
    (h : envStep orc inst ec st e .accept = .ok out) (hs : out.obsRes.success = true) :
    pot inst out.env.res.state < pot inst e.res.state :=
  accept_decreases hst hr h hs

/-- no step increases the potential, whatever the agent answers; it is at most
`2·(operations) + (jobs)` – so an episode contains at most that many successful accepts -/
theorem c11_no_step_increases_the_potential {ec : EnvCfg} {st : RewardStatic} {s0 : State} {e : EnvState} {out : StepOut}
    (hst : Start orc inst s0) (hr : EnvReach orc inst ec st s0 e) {a : AgentAct}
    (h : envStep orc inst ec st e a = .ok out) :
    pot inst out.env.res.state ≤ pot inst e.res.state ∧ pot inst e.res.state ≤ potBound inst :=
  ⟨envStep_pot_le hst hr h, pot_le_bound (envReach_inv hst hr).struct.shape⟩

/-- **The always-accept agent finishes within `2·(operations) + (jobs)` steps** (unordered buffers, an
AGV; every step of the run returns and succeeds). -/
theorem c11_always_accept_finishes {ec : EnvCfg} {st : RewardStatic} {s0 : State} (hst : Start orc inst s0)
    (hF : flexInstB inst = true) (hA : hasAgvB inst = true) (hjk : 0 ≤ ec.mw.jokerInit)
    {r0 : Rng} {e0 e : EnvState} {mic0 : List State} (hreset : envReset orc inst ec s0 r0 = .ok (e0, mic0))
    {n : Nat} (hrun : acceptRun orc inst ec st n e0 = .ok e) (hn : potBound inst ≤ n) :
    isDone inst e.res.state = true ∧ e.truncated = false ∧
      (isDone inst e0.res.state = false → e.terminated = true) :=
  always_accept_bound hst (env_offers hst hF hA) hjk hreset hrun hn

end JSL
