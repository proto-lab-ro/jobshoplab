import JSL.Inv.Init
import JSL.Props.Example
import JSL.Inv.Discipline

/-!
# C08 — buffers never exceed capacity; ordered buffers release in discipline order

Table part (the tables generated from the code) and the local contracts of the three buffer
primitives through which every move goes; capacity along all executions: `c08_capacity`.

Discipline over whole episodes (`Inv/StoreStep.lean`, `Inv/DiscGuard.lean`, `Inv/Calls.lean`,
`Inv/Discipline.lean`; `EnvCall σ tr σ'` = "transition `tr` is applied to state `σ` with result `σ'`
somewhere inside `reset` or a `step` of an episode"):
**`c08_arrivals_join_at_the_back`**, **`c08_fifo_releases_oldest_to_agv`** (FIFO / DUMMY post- and
stand-alone buffers), **`c08_machine_takes_release_job`** (FIFO / DUMMY: first, LIFO: last element of
the pre-buffer – whether created by the timed mechanism or accepted by the agent).  For LIFO buffers
emptied by AGVs the property is false (recorded finding).
-/

namespace JSL

/-- the release selector of the code: FIFO and DUMMY release the oldest job, LIFO the newest,
FLEX has no automatic release -/
theorem c08_release_selector :
    releaseSel .fifo = .front ∧ releaseSel .dummy = .front ∧ releaseSel .lifo = .back ∧ releaseSel .flex = .none := by
  decide

/-- the hand-written closed form of `is_correct_position_for_buffer_type` agrees with the code on
the whole probed range (positions 0..4, lengths 0..5, all buffer types) -/
theorem c08_posOk_matches_code :
    ∀ t ∈ BufType.all, ∀ p ∈ List.range 5, ∀ l ∈ List.range 6,
      posOk t p l = (decide (p < l) && posOkTable t (p + 1) l) := by
  decide +kernel

/-- a job is ready for AGV pickup from a FIFO/DUMMY buffer only at the front, from a LIFO buffer
only at the back (closed form, all sizes) -/
theorem c08_posOk_discipline (t : BufType) (p l : Nat) (h : posOk t p l = true) :
    p < l ∧ (t = .fifo ∨ t = .dummy → p = 0) ∧ (t = .lifo → p + 1 = l) := by
  unfold posOk at h
  by_cases hl : l = 0
  · simp [hl] at h
  · cases t <;> simp_all <;> omega

/-- `put_in_buffer` appends at the back, never exceeds the capacity, and sets the location -/
theorem c08_put_contract (b : BufState) (c : BufCfg) (j : JobState) (b' : BufState) (j' : JobState)
    (h : putInBuffer b c j = .ok (b', j')) :
    b'.store = b.store ++ [j.id] ∧ (b'.store.length : Int) ≤ c.cap ∧ b'.id = b.id ∧ j'.loc = b.id ∧
      j'.id = j.id ∧ j'.ops = j.ops := by
  obtain ⟨hlt, bss, rfl, rfl⟩ := putInBuffer_spec h
  refine ⟨rfl, ?_, rfl, rfl, rfl, rfl⟩
  simp only [BufState.withBack, List.length_append, List.length_singleton]
  omega

/-- `put_in_buffer` refuses exactly when the buffer is full -/
theorem c08_put_full (b : BufState) (c : BufCfg) (j : JobState) (h : (b.store.length : Int) ≥ c.cap) :
    putInBuffer b c j = .error .bufferFull := by
  simp [putInBuffer, h]

/-- `remove_from_buffer` removes exactly the named job and keeps the order of the others -/
theorem c08_remove_contract (b : BufState) (j : Nat) (b' : BufState) (h : removeFromBuffer b j = .ok b') :
    b'.store = b.store.filter (· != j) ∧ b'.id = b.id ∧ j ∈ b.store := by
  obtain ⟨hin, bss, rfl⟩ := removeFromBuffer_spec h
  exact ⟨rfl, rfl, hin⟩

/-- the machine behind an ordered pre-buffer is auto-started with the job the discipline names:
the front job for FIFO/DUMMY, the back job for LIFO, nothing for FLEX -/
theorem c08_auto_start_discipline (b : BufState) (c : BufCfg) :
    nextJobFromBuffer b c =
      (match c.type with
       | .fifo | .dummy => b.store.head?
       | .lifo => b.store.getLast?
       | .flex => none) := by
  unfold nextJobFromBuffer
  cases c.type <;> rfl

/-- **Capacity along all executions.**  In every state that occurs – after every individual
transition of every step of every action sequence (offered or not) – no buffer holds more jobs
than its configured capacity; machine internal buffers and AGV buffers (capacity 1 in compiled
instances) therefore hold at most one job. -/
theorem c08_capacity {orc : Oracle} {inst : Instance} {cfg : SMConfig} {s0 σ : State}
    (h0 : initOKB inst s0 = true) (h : Occurs orc inst cfg s0 σ) :
    ∀ b ∈ allBufStates σ, ∀ c ∈ allBufCfgs inst, c.id = b.id → (b.store.length : Int) ≤ c.cap := by
  obtain ⟨w, hI0⟩ := initOKB_sound h0
  have hI := occurs_struct w hI0 h
  intro b hb c hc hid
  have := hI.cap c hc
  rwa [hid, storeAt_of_mem (hI.shape.bufNodup w) hb] at this

/-- every buffer of every occurring state has a configuration (so `c08_capacity` is not vacuous) -/
theorem c08_every_buffer_configured {orc : Oracle} {inst : Instance} {cfg : SMConfig} {s0 σ : State}
    (h0 : initOKB inst s0 = true) (h : Occurs orc inst cfg s0 σ) :
    ∀ b ∈ allBufStates σ, ∃ c ∈ allBufCfgs inst, c.id = b.id := by
  obtain ⟨w, hI0⟩ := initOKB_sound h0
  have hI := occurs_struct w hI0 h
  intro b hb
  have : b.id ∈ (allBufCfgs inst).map (·.id) := by
    rw [← hI.shape.bufIds]; exact List.mem_map.mpr ⟨b, hb, rfl⟩
  obtain ⟨c, hc, e⟩ := List.mem_map.mp this
  exact ⟨c, hc, e⟩

example : initOKB Ex.inst Ex.s0 = true := Ex.initOK

/-- **Arriving jobs join at the back**: every transition applied during an episode either leaves all
buffer contents as they are, or takes exactly one job out of one buffer (the others keep their
order) and appends it at the back of another; no other buffer changes. -/
theorem c08_arrivals_join_at_the_back {orc : Oracle} {inst : Instance} {ec : EnvCfg} {st : RewardStatic} {s0 : State}
    (hst : Start orc inst s0) {σ σ' : State} {tr : Transition} (hc : EnvCall orc inst ec st s0 σ tr σ') :
    (∀ i, storeAt σ' i = storeAt σ i) ∨
    ∃ x a b, a ≠ b ∧ x ∈ storeAt σ a ∧ storeAt σ' a = (storeAt σ a).filter (· != x) ∧
      storeAt σ' b = storeAt σ b ++ [x] ∧ ∀ i, i ≠ a → i ≠ b → storeAt σ' i = storeAt σ i := by
  rcases (envCall_released hst hc).eff.moved_or_same with h | ⟨x, a, b, h⟩
  · exact Or.inl h
  · exact Or.inr ⟨x, a, b, h.ne, h.was, h.storeA, h.storeB, h.storeO⟩

/-- **A FIFO (or DUMMY) buffer releases only its oldest job to an AGV**: whenever a pickup (→ TRANSIT)
is applied during an episode, the job leaves a post-buffer or stand-alone buffer `i` for the back of
the AGV's buffer, and if `i` is configured FIFO or DUMMY the job is the first element of `i` in the
state right before the application. -/
theorem c08_fifo_releases_oldest_to_agv {orc : Oracle} {inst : Instance} {ec : EnvCfg} {st : RewardStatic} {s0 : State}
    (hst : Start orc inst s0) {σ σ' : State} {tr : Transition} (hc : EnvCall orc inst ec st s0 σ tr σ')
    (hn : tr.new = .t .transit) :
    ∃ t ∈ σ.transports, ∃ x i, tr.comp = .t t.id ∧ tr.job = some x ∧ pickupBufferKind inst i = true ∧
      x ∈ storeAt σ i ∧ storeAt σ' i = (storeAt σ i).filter (· != x) ∧
      storeAt σ' t.buffer.id = storeAt σ t.buffer.id ++ [x] ∧
      ∀ bc ∈ allBufCfgs inst, bc.id = i → (bc.type = .fifo ∨ bc.type = .dummy) → storeAt σ i = x :: storeAt σ' i := by
  obtain ⟨t, ht, x, i, h1, h2, h3, hmv, hf⟩ := (envCall_released hst hc).agv hn
  refine ⟨t, ht, x, i, h1, h2, h3, hmv.was, hmv.storeA, hmv.storeB, ?_⟩
  intro bc hbc hid hty
  apply hf
  exact ⟨bc, hbc, hid, by rcases hty with e | e <;> rw [e] <;> rfl⟩

/-- **The machine behind a pre-buffer takes the job the discipline names**: whenever IDLE → SETUP is
applied during an episode – timed or accepted by the agent – the job leaves the machine's pre-buffer,
and it is its first element if the pre-buffer is FIFO or DUMMY, its last if LIFO. -/
theorem c08_machine_takes_release_job {orc : Oracle} {inst : Instance} {ec : EnvCfg} {st : RewardStatic} {s0 : State}
    (hst : Start orc inst s0) {σ σ' : State} {tr : Transition} (hc : EnvCall orc inst ec st s0 σ tr σ')
    (hn : tr.new = .m .setup) :
    ∃ m ∈ σ.machines, ∃ x, tr.comp = .m m.id ∧ m.st = .idle ∧ tr.job = some x ∧ x ∈ m.pre.store ∧
      storeAt σ m.pre.id = m.pre.store ∧ storeAt σ' m.pre.id = m.pre.store.filter (· != x) ∧
      storeAt σ' m.buffer.id = storeAt σ m.buffer.id ++ [x] ∧
      ∀ bc ∈ allBufCfgs inst, bc.id = m.pre.id →
        ((bc.type = .fifo ∨ bc.type = .dummy) → m.pre.store.head? = some x) ∧
        (bc.type = .lifo → m.pre.store.getLast? = some x) := by
  obtain ⟨m, hm, x, h1, h2, h3, h4, h5, hmv, hnx⟩ := (envCall_released hst hc).machine hn
  refine ⟨m, hm, x, h1, h2, h3, h4, h5, by rw [hmv.storeA, h5], hmv.storeB, ?_⟩
  intro bc hbc hid
  have := hnx bc hbc hid
  unfold nextJobFromBuffer at this
  constructor
  · intro hty
    rcases hty with e | e <;> rw [e] at this <;> simpa [releaseSel] using this
  · intro e
    rw [e] at this
    simpa [releaseSel] using this

/-- every post-state recorded during an episode step is the result of such an application (the
recorded transitions are covered) -/
theorem c08_recorded_applications_are_covered {orc : Oracle} {inst : Instance} {ec : EnvCfg} {st : RewardStatic} {s0 : State}
    {e : EnvState} (he : EnvReach orc inst ec st s0 e) {a : AgentAct} {out : StepOut}
    (h : envStep orc inst ec st e a = .ok out) : ∀ σ' ∈ out.micro, ∃ σ x, EnvCall orc inst ec st s0 σ x σ' := by
  obtain ⟨_, res', mw, r, mic, rew, cnt, _, hm, _, _, rfl⟩ := envStep_ok h
  intro σ' hσ
  rcases mwStep_cases hm with ⟨_, _, _, _, _, _, _, _, _, _, e6, _⟩ | ⟨act, _, hk, hs⟩
  · rw [show mic = [] from e6] at hσ
    cases hσ
  · obtain ⟨σ, x, hc⟩ := stepCall_of_micro hs σ' hσ
    exact ⟨σ, x, .step he hk hc⟩

end JSL
