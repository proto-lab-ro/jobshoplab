import JSL.Inv.ObsIndex
import JSL.Inv.ObsRead

/-!
# C15 — observations faithfully encode the state and identify the pending offer

* positions vs. numbers: the factory sorts jobs and machines by their numeric id and then uses
  list positions as job / machine numbers.  `c15_positions_are_numbers`: for jobs (machines)
  numbered 0 … n-1 position k holds number k, so every per-job / per-machine array is indexed by
  number, whatever the internal order.  `c15_string_order_misindexes_eleven`: sorted by id string –
  what the code did before the repair "fix: sort jobs and machines by numeric id" – position 2 of
  eleven holds number 10;
* **every field equals the independent reading of the state**, indexed by number:
  `c15_job_running_by_number`, `c15_job_progression_by_number`, `c15_available_by_number`,
  `c15_executed_by_number`, `c15_machine_running_by_number`, `c15_machine_progression_by_number`,
  `c15_current_time`; for the operation-array factory `c15_operation_progress_read` (idle 0, done 1,
  elapsed fraction while processing) and `c15_job_locations_read` – the latter in the *internal*
  order of the jobs, not by job number;
* the offer encoding is injective over the offers of one instance (`c15_offer_injective`, exact
  rationals; float32 rounding is checked per instance on the implementation side);
* the observation is a function of the state and the head offer (`c15_offer_depends_on_head`).

The readings of the single fields for a job of the state are in `Inv/ObsRead.lean`.
-/

namespace JSL

/-- **Positions are numbers**: the factory uses positions in the id-sorted list as job / machine
numbers; for ids 0 … n-1 in any order, position k of the sorted list holds id k. -/
theorem c15_positions_are_numbers {α} (id : α → Nat) (l : List α) (n : Nat)
    (hids : (l.map id).Perm (List.range n)) : (sortById id l).map id = List.range n :=
  ix_positions_are_numbers id l n hids

theorem c15_job_running_by_number (nm : Nat) (tmax : Int) (s : State) (obs : SimpleObs)
    (h : simpleObs nm tmax s = .ok obs) (n : Nat)
    (hids : (s.jobs.map (·.id)).Perm (List.range n)) (k : Nat) (hk : k < n) :
    ∃ j ∈ s.jobs, j.id = k ∧ obs.jobRunning[k]? = some j.running := by
  obtain ⟨j, hj, rfl, _⟩ := sorted_getElem (fun (x : JobState) => x.id) s.jobs n hids k hk
  exact ⟨j, hj, rfl, obs_job_running_of_mem nm tmax s obs h n hids j hj⟩

theorem c15_machine_running_by_number (nm : Nat) (tmax : Int) (s : State) (obs : SimpleObs)
    (h : simpleObs nm tmax s = .ok obs) (n : Nat)
    (hids : (s.machines.map (·.id)).Perm (List.range n)) (k : Nat) (hk : k < n) :
    ∃ m ∈ s.machines, m.id = k ∧ obs.machineRunning[k]? = some (m.st == .working) := by
  obtain ⟨m, hm, rfl, _⟩ := sorted_getElem (fun (x : MachineState) => x.id) s.machines n hids k hk
  refine ⟨m, hm, rfl, ?_⟩
  rw [(simpleObs_ok h).2.mrun]
  exact sortById_map_getElem_of_mem (fun (x : MachineState) => x.id) _ s.machines n hids m hm

theorem c15_machine_progression_by_number (nm : Nat) (tmax : Int) (s : State) (obs : SimpleObs)
    (h : simpleObs nm tmax s = .ok obs) (n : Nat)
    (hids : (s.machines.map (·.id)).Perm (List.range n)) (k : Nat) (hk : k < n) :
    obs.machineProgression[k]? =
      some (((sortById (·.id) s.jobs).flatMap (·.ops)).filter fun o => o.machine == k && o.st == .done).length := by
  obtain ⟨m, hm, rfl, _⟩ := sorted_getElem (fun (x : MachineState) => x.id) s.machines n hids k hk
  rw [(simpleObs_ok h).2.mprog]
  exact sortById_map_getElem_of_mem (fun (x : MachineState) => x.id) _ s.machines n hids m hm

/-- per-job progress: position `k` holds the number of finished operations of job number `k` -/
theorem c15_job_progression_by_number (nm : Nat) (tmax : Int) (s : State) (obs : SimpleObs)
    (h : simpleObs nm tmax s = .ok obs) (n : Nat)
    (hids : (s.jobs.map (·.id)).Perm (List.range n)) (k : Nat) (hk : k < n) :
    ∃ j ∈ s.jobs, j.id = k ∧ obs.jobProgression[k]? = some (j.ops.filter (·.st == .done)).length := by
  obtain ⟨j, hj, rfl, _⟩ := sorted_getElem (fun (x : JobState) => x.id) s.jobs n hids k hk
  exact ⟨j, hj, rfl, obs_job_progression_of_mem nm tmax s obs h n hids j hj⟩

/-- availability: job number `k` is available iff it has an idle operation and none in progress -/
theorem c15_available_by_number (nm : Nat) (tmax : Int) (s : State) (obs : SimpleObs)
    (h : simpleObs nm tmax s = .ok obs) (n : Nat)
    (hids : (s.jobs.map (·.id)).Perm (List.range n)) (k : Nat) (hk : k < n) :
    ∃ j ∈ s.jobs, j.id = k ∧ obs.availableJobs[k]? = some (j.ops.any (·.st == .idle) && !j.running) := by
  obtain ⟨j, hj, rfl, _⟩ := sorted_getElem (fun (x : JobState) => x.id) s.jobs n hids k hk
  exact ⟨j, hj, rfl, obs_available_of_mem nm tmax s obs h n hids j hj⟩

/-- row `k`, column `μ`: job number `k` has a finished operation on machine number `μ` -/
theorem c15_executed_by_number (nm : Nat) (tmax : Int) (s : State) (obs : SimpleObs)
    (h : simpleObs nm tmax s = .ok obs) (n : Nat)
    (hids : (s.jobs.map (·.id)).Perm (List.range n)) (k : Nat) (hk : k < n) :
    ∃ j ∈ s.jobs, j.id = k ∧ ∃ row, obs.jobExecutedOnMachine[k]? = some row ∧ row.length = nm ∧
      ∀ μ, μ < nm → row[μ]? = some (j.ops.any fun o => o.st == .done && o.machine == μ) := by
  obtain ⟨j, hj, rfl, _⟩ := sorted_getElem (fun (x : JobState) => x.id) s.jobs n hids k hk
  exact ⟨j, hj, rfl, obs_executed_of_mem nm tmax s obs h n hids j hj⟩

/-- normalised time -/
theorem c15_current_time (nm : Nat) (tmax : Int) (s : State) (obs : SimpleObs)
    (h : simpleObs nm tmax s = .ok obs) :
    obs.currentTime = (s.time : Rat) / (tmax : Rat) ∧ tmax ≠ 0 :=
  ⟨(simpleObs_ok h).2.time, (simpleObs_ok h).2.tmaxNe⟩

/-- operation-array factory: one entry per operation record in internal order: 0 idle, 1 done, the
elapsed fraction while processing -/
theorem c15_operation_progress_read (inst : Instance) (s : State) (ops locs : List Rat)
    (h : opArrayObs inst s = .ok (ops, locs)) :
    ops.length = (s.jobs.flatMap (·.ops)).length ∧
    List.Forall₂ (OpEntryRead s.time) (s.jobs.flatMap (·.ops)) ops :=
  opArray_ops_read inst s ops locs h

/-- operation-array factory: job locations divided by the number of buffer slots minus one – in the
internal order of the jobs (this array is *not* indexed by job number: the factory iterates
`state.jobs` without sorting).  The divisor is non-zero as soon as there is a job (with no jobs the
factory returns two empty arrays whatever the divisor). -/
theorem c15_job_locations_read (inst : Instance) (s : State) (ops locs : List Rat)
    (h : opArrayObs inst s = .ok (ops, locs)) :
    locs.length = s.jobs.length ∧
    List.Forall₂ (fun (j : JobState) (v : Rat) => v = (j.loc : Rat) / (opArrayMaxBuf inst : Rat)) s.jobs locs ∧
    (s.jobs ≠ [] → opArrayMaxBuf inst ≠ 0) := by
  have p := (opArrayObs_parts h).2
  refine ⟨p.length_eq.symm, p.imp (fun _ _ h => h.2), ?_⟩
  revert p
  generalize s.jobs = l
  intro p hne
  cases p with
  | nil => exact absurd rfl hne
  | cons hab _ => exact hab.1

/-- **Regression: why the sort key matters.**  Sorted by id *string* – as the factory did before
the repair – number 10 comes third among eleven, so position 2 of every per-job array described
job 10 and positions 3 … 10 described jobs 2 … 9. -/
theorem c15_string_order_misindexes_eleven :
    sortByIdStr (fun (x : Nat) => x) (List.range 11) = [0, 1, 10, 2, 3, 4, 5, 6, 7, 8, 9] := by
  have hperm := sortByIdStr_perm (fun (x : Nat) => x) (List.range 11)
  -- the claimed list is in string order, which is antisymmetric on its members
  have hL : [0, 1, 10, 2, 3, 4, 5, 6, 7, 8, 9].Pairwise
      (fun a b => idStrLe a b = true ∧ (idStrLe b a = true → a = b)) := by decide +kernel
  have hpermL : (sortByIdStr (fun (x : Nat) => x) (List.range 11)).Perm
      [0, 1, 10, 2, 3, 4, 5, 6, 7, 8, 9] := hperm.trans (by decide)
  refine List.Perm.eq_of_pairwise (le := fun a b => idStrLe a b = true) ?_
    (sortByIdStr_sorted _ _) (hL.imp And.left) hpermL
  intro a b ha hb h1 h2
  have hanti := List.Pairwise.forall_of_forall_of_flip
    (R := fun a b => idStrLe a b = true → idStrLe b a = true → a = b)
    (fun _ _ _ _ => rfl) (hL.imp fun h h1 h2 => h.2 h2) (hL.imp fun h h1 h2 => (h.2 h1).symm)
  exact hanti (hpermL.subset ha) hb h1 h2

/-- **The offer encoding distinguishes any two different offers of one instance**: head offers with
equal codes have the same component and the same job (job numbers below `n`; the target state is not
encoded – a machine is only ever offered `→ SETUP`, an AGV `→ WORKING`). -/
theorem c15_offer_injective (inst : Instance) (n : Nat) (res res' : SMResult) (tr tr' : Transition)
    (rest rest' : List Transition) (hp : res.possible = tr :: rest) (hp' : res'.possible = tr' :: rest')
    (hj : ∀ j, tr.job = some j → j < n) (hj' : ∀ j, tr'.job = some j → j < n)
    (code : Rat × Rat × Rat)
    (h : currentTransition inst n res false = .ok code) (h' : currentTransition inst n res' false = .ok code) :
    tr.comp = tr'.comp ∧ tr.job = tr'.job := by
  obtain ⟨a, b, c⟩ := code
  obtain ⟨t, _, i, ht, hn, hi, hlt, ha, hb, _⟩ := currentTransition_parts h
  obtain ⟨t', _, i', ht', _, hi', _, ha', hb', _⟩ := currentTransition_parts h'
  obtain ⟨rfl, _⟩ := List.cons.inj (hp.symm.trans ht)
  obtain ⟨rfl, _⟩ := List.cons.inj (hp'.symm.trans ht')
  have hlen : ((offerComps inst).length : Rat) ≠ 0 := Nat.cast_ne_zero.mpr (by omega)
  have hnq : (n : Rat) ≠ 0 := Nat.cast_ne_zero.mpr hn
  -- equal quotients by the same non-zero divisor: equal index, equal encoded job number
  have hii : i = i' := Nat.cast_injective ((div_left_inj' hlen).mp (ha.symm.trans ha'))
  have hjj : offerJobNum n tr = offerJobNum n tr' :=
    Nat.cast_injective ((div_left_inj' hnq).mp (hb.symm.trans hb'))
  subst hii
  refine ⟨idxOf_inj hi hi', ?_⟩
  -- a job number is below `n`, so it is never confused with the code `n` for "no job"
  unfold offerJobNum at hjj
  cases e1 : tr.job with
  | none =>
    cases e2 : tr'.job with
    | none => rfl
    | some j2 => simp only [e1, e2] at hjj; have := hj' j2 e2; omega
  | some j1 =>
    cases e2 : tr'.job with
    | none => simp only [e1, e2] at hjj; have := hj j1 e1; omega
    | some j2 => simp only [e1, e2] at hjj; rw [hjj]

/-- equal head offers give equal encodings -/
theorem c15_offer_depends_on_head (inst : Instance) (n : Nat) (res res' : SMResult) (d : Bool)
    (h : res.possible.head? = res'.possible.head?) :
    currentTransition inst n res d = currentTransition inst n res' d := by
  unfold currentTransition
  cases hp : res.possible with
  | nil => cases hp' : res'.possible with
    | nil => rfl
    | cons a as => rw [hp, hp'] at h; simp at h
  | cons a as => cases hp' : res'.possible with
    | nil => rw [hp, hp'] at h; simp at h
    | cons b bs => rw [hp, hp'] at h; simp at h; subst h; rfl

end JSL
