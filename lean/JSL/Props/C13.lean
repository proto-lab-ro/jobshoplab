import JSL.Model.Env
import JSL.Inv.Blind
import JSL.Props.Example

/-!
# C13 — same configuration, seed and actions give the same episode

In the model an episode is a function of (instance, initial state, configuration, oracle of
sampled values, agent actions): determinism is the fact that `envStep` is a function.  The seed
enters only through the oracle (the values each stochastic duration object yields, one per
`update()`), and a time configuration that is a constant never consults it.

For an instance **without stochastic elements** (`DetInst`: every duration, setup, travel and
outage time or frequency a constant) the sampled values are never consulted at all:
`c13_deterministic_reset_ignores_seed`, `c13_deterministic_step_ignores_seed` and, for whole
episodes under any action sequence, `c13_deterministic_episode_ignores_seed`.

What the model cannot exhibit – interpreter hash randomisation, process-global random state,
other environment objects alive – is checked on the implementation by replaying episodes in fresh
interpreters (`harness/twin_c13.py`); see DESIGN.md.
-/

namespace JSL

/-- a constant time configuration yields its constant whatever the oracle and the counters are,
and never advances a counter -/
theorem c13_det_time_ignores_seed (orc orc' : Oracle) (r r' : Rng) (t : Int) :
    (TimeCfg.det t).cur orc r = (TimeCfg.det t).cur orc' r' ∧
    ((TimeCfg.det t).updRead orc r).1 = ((TimeCfg.det t).updRead orc' r').1 ∧
    ((TimeCfg.det t).readUpd orc r).1 = ((TimeCfg.det t).readUpd orc' r').1 ∧
    ((TimeCfg.det t).updRead orc r).2 = r ∧ ((TimeCfg.det t).readUpd orc r).2 = r :=
  ⟨rfl, rfl, rfl, rfl, rfl⟩

/-- whether a deterministic-frequency outage strikes does not depend on the oracle -/
theorem c13_det_frequency_ignores_seed (orc orc' : Oracle) (r r' : Rng) (f since : Int) :
    (shouldApply orc r (.det f) since).1 = (shouldApply orc' r' (.det f) since).1 := rfl

/-- a stochastic value depends on the seed only through the oracle entry for (object, number of
updates so far) -/
theorem c13_stoch_value_is_oracle_entry (orc : Oracle) (r : Rng) (sid : Nat) :
    (TimeCfg.stoch sid).cur orc r = orc sid (r sid) ∧
    ((TimeCfg.stoch sid).updRead orc r).1 = orc sid (r sid + 1) ∧
    ((TimeCfg.stoch sid).readUpd orc r).1 = orc sid (r sid) := ⟨rfl, rfl, rfl⟩

/-- oracles that agree give the same step (function extensionality: the episode depends on the
seed through nothing but the sampled values) -/
theorem c13_same_samples_same_step (orc orc' : Oracle) (h : ∀ sid k, orc sid k = orc' sid k) (inst : Instance)
    (ec : EnvCfg) (st : RewardStatic) (e : EnvState) (a : AgentAct) :
    (envStep orc inst ec st e a).map (fun o => (o.env.res, o.reward, o.env.terminated, o.env.truncated)) =
    (envStep orc' inst ec st e a).map (fun o => (o.env.res, o.reward, o.env.terminated, o.env.truncated)) := by
  have : orc = orc' := funext fun sid => funext fun k => h sid k
  subst this; rfl

/-- everything an episode step shows to the outside (the update counters are internal) -/
def StepOut.view (o : StepOut) : SMResult × SMResult × Bool × Rat × Bool × Bool × Bool × Option Int × MwState × List State :=
  (o.env.res, o.obsRes, o.obsDone, o.reward, o.env.terminated, o.env.truncated, o.env.done, o.makespan, o.env.mw, o.micro)

/-- an episode from an environment state on: every agent action gives what the step shows, or
the error it raises (which leaves the episode where it was) -/
def runFrom (orc : Oracle) (inst : Instance) (ec : EnvCfg) (st : RewardStatic) :
    EnvState → List AgentAct → List (Except Err (SMResult × SMResult × Bool × Rat × Bool × Bool × Bool × Option Int × MwState × List State))
  | _, [] => []
  | e, a :: as =>
    match envStep orc inst ec st e a with
    | .error er => .error er :: runFrom orc inst ec st e as
    | .ok o => .ok o.view :: runFrom orc inst ec st o.env as

/-- `reset`, then the actions -/
def episode (orc : Oracle) (inst : Instance) (ec : EnvCfg) (st : RewardStatic) (s0 : State) (r : Rng) (as : List AgentAct) :
    Except Err (SMResult × List (Except Err (SMResult × SMResult × Bool × Rat × Bool × Bool × Bool × Option Int × MwState × List State))) :=
  (envReset orc inst ec s0 r).map fun p => (p.1.res, runFrom orc inst ec st p.1 as)

/-- **C13, deterministic instances: `reset` does not depend on the seed** (neither on the sampled
values nor on how many were drawn before): same state, offers and flags; the counters come back
untouched. -/
theorem c13_deterministic_reset_ignores_seed {inst : Instance} (hd : DetInst inst) (orc orc' : Oracle) (r r' : Rng)
    (ec : EnvCfg) (s0 : State) :
    envReset orc' inst ec s0 r' = (envReset orc inst ec s0 r).map (fun p => ({ p.1 with rng := r' }, p.2)) := by
  unfold envReset
  exact bind_map_peel (mwReset_blind orc orc' r r' hd ec.sm ec.mw ec.fuel s0) fun q => rfl

/-- **C13, deterministic instances: a step does not depend on the seed.** -/
theorem c13_deterministic_step_ignores_seed {inst : Instance} (hd : DetInst inst) (orc orc' : Oracle) (r' : Rng)
    (ec : EnvCfg) (st : RewardStatic) (e : EnvState) (a : AgentAct) :
    envStep orc' inst ec st { e with rng := r' } a =
      (envStep orc inst ec st e a).map (fun o => { o with env := { o.env with rng := r' } }) := by
  unfold envStep
  refine ite_peel rfl ?_
  refine bind_map_peel (mwStep_blind orc orc' e.rng r' hd ec.sm ec.mw ec.fuel e.res e.mw a)
    fun ⟨res', mw, r1, mic⟩ => ?_
  dsimp only
  -- the reward is computed from fields of the new environment state that the counters do not enter
  cases res'.success
  · exact bind_peel _ _ _ _ fun p => rfl
  · exact bind_peel _ _ _ _ fun p => rfl

theorem runFrom_ignores_seed {inst : Instance} (hd : DetInst inst) (orc orc' : Oracle) (ec : EnvCfg) (st : RewardStatic) :
    ∀ (as : List AgentAct) (e : EnvState) (r' : Rng),
      runFrom orc' inst ec st { e with rng := r' } as = runFrom orc inst ec st e as
  | [], _, _ => rfl
  | a :: as, e, r' => by
    unfold runFrom
    rw [c13_deterministic_step_ignores_seed hd orc orc' r' ec st e a]
    cases envStep orc inst ec st e a with
    | error er =>
      simp only [except_map'_error]
      rw [runFrom_ignores_seed hd orc orc' ec st as e r']
    | ok o =>
      simp only [except_map'_ok]
      rw [runFrom_ignores_seed hd orc orc' ec st as o.env r']
      rfl

/-- **C13, deterministic instances: the whole episode does not depend on the seed** – for every
action sequence (declines, accepts, actions outside the space), two oracles of sampled values and
two histories of earlier draws give the same reset result and the same outcome of every step. -/
theorem c13_deterministic_episode_ignores_seed {inst : Instance} (hd : DetInst inst) (orc orc' : Oracle) (r r' : Rng)
    (ec : EnvCfg) (st : RewardStatic) (s0 : State) (as : List AgentAct) :
    episode orc' inst ec st s0 r' as = episode orc inst ec st s0 r as := by
  unfold episode
  rw [c13_deterministic_reset_ignores_seed hd orc orc' r r' ec s0]
  generalize envReset orc inst ec s0 r = x
  cases x with
  | error e => simp only [except_map'_error]
  | ok p =>
    obtain ⟨e0, mic⟩ := p
    simp only [except_map'_ok]
    rw [runFrom_ignores_seed hd orc orc' ec st as e0 r']

/-- non-vacuity: the example instance has no stochastic element -/
example : DetInst Ex.inst := detInstB_sound (by decide)

end JSL
