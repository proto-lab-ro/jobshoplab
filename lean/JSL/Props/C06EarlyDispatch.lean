import JSL.Props.C06Global
import JSL.Inv.IdleStart

/-!
# C06, a finding: with early dispatch and fewer AGVs than jobs the optimum is missed

`ExE.inst` is a classic instance (3 machines, one AGV, 2 jobs: job 0 = one operation of 5 time units
on machine 0; job 1 = three operations of 1 time unit on machines 1, 2, 1).  Its optimal makespan is 5.

* With `allowEarly = false` (the hypothesis of `c06_optimum_reachable`) the optimum is reached:
  `ExE.optimum_reached`.
* With `allowEarly = true` the single AGV is claimed, at the beginning of the first `state.step` in
  which it is idle, by the running job 0 (the teleport filter takes the first dispatch on offer, and
  running jobs come first) and waits for it until time 5; job 1, finished on machine 2 at time 2,
  cannot be brought back to machine 1 before 5.  What is proved is a statement about the decision tree
  from `reset` with the fixed counters `ExT.r0`: `search true d` – the least makespan reported with
  `terminated` over all accept / decline sequences of length at most `d` from there (`best` enumerates
  them) – is never below 6, for any `d` (`ExE.early_dispatch_at_least_six`), and one sequence of 8
  decisions reports 6: `ExE.early_dispatch_misses_optimum`.

  `best` is not evaluated.  An operation still idle at a state cannot end before that state's clock
  plus its duration, and a reported makespan is at or after every end (`idleEndsGe_sound`); so the
  decision tree need not be searched below a state in which some idle operation can no longer end
  before 6: job 0 still idle after time 0, or an operation of job 1 still idle at time 5 (`allGE`,
  `best_ge`).  What is left of the tree is finite, 9 decisions deep; it and the one sequence that
  reports 6 (`along`, `best_le_along`) are evaluated by the kernel (`tree_and_path`).

The repair is the hypothesis `ec.sm.allowEarly = false` (`C06Global.lean`) or at least as many AGVs as
jobs (`C06GlobalEarly.lean`).
-/

namespace JSL.ExE

def zeroTravel (locs : List Loc) : List ((Loc × Loc) × TimeCfg) :=
  locs.flatMap fun a => locs.map fun b => ((a, b), TimeCfg.det 0)

def inst : Instance :=
  { jobs := [{ id := 0, ops := [{ job := 0, idx := 0, machine := 0, dur := .det 5, tool := 0 }] },
             { id := 1, ops := [{ job := 1, idx := 0, machine := 1, dur := .det 1, tool := 0 },
                                { job := 1, idx := 1, machine := 2, dur := .det 1, tool := 0 },
                                { job := 1, idx := 2, machine := 1, dur := .det 1, tool := 0 }] }],
    travel := zeroTravel [.m 0, .m 1, .m 2, .b 20, .b 21],
    machines := [Ex.mc 0 0 1 2, Ex.mc 1 3 4 5, Ex.mc 2 6 7 8],
    buffers := [Ex.bc 20 Ex.big .input none, Ex.bc 21 Ex.big .output none],
    transports := [{ id := 0, type := .agv, outages := [], buf := Ex.bc 9 1 .component (some (.t 0)) }] }

def s0 : State :=
  { jobs := [{ id := 0, ops := [Ex.op 0 0 0], loc := 20 },
             { id := 1, ops := [Ex.op 1 0 1, Ex.op 1 1 2, Ex.op 1 2 1], loc := 20 }],
    time := 0,
    machines := [Ex.ms 0 0 1 2, Ex.ms 1 3 4 5, Ex.ms 2 6 7 8],
    transports := [{ st := .idle, id := 0, occ := .none, buffer := Ex.eb 9, loc := .at (.m 0), outages := [], job := none }],
    buffers := [{ id := 20, bss := .notEmpty, store := [0, 1] }, Ex.eb 21] }

def st : RewardStatic := { tmax := 100, lb := 1, numJobs := 2, numOps := 4 }

def ec (early : Bool) : EnvCfg := ⟨{ allowEarly := early }, { jokerInit := 1000, truncActive := false },
  { sparseBias := 1, denseBias := 1, truncBias := 1 }, 60⟩

theorem classic : classicInstB inst = true := by decide +kernel

theorem run : ClassicRun ExT.orc0 inst (ec false) st s0 where
  start := ⟨by decide +kernel, by decide +kernel, by decide +kernel, by decide +kernel, fun _ _ => Int.le_refl 0⟩
  classic := classicInstB_sound classic
  startOK := by decide +kernel
  early := rfl
  trunc := rfl
  joker := by decide
  numOps := by decide
  norm := by decide
  fuel := by decide
  jobs := by decide

/-- without early dispatch the optimum 5 is reached (list order `[0, 1, 1, 1]`) -/
theorem optimum_reached : ∃ e0 mic acts e, envReset ExT.orc0 inst (ec false) s0 ExT.r0 = .ok (e0, mic) ∧
    envRun ExT.orc0 inst (ec false) st e0 acts = .ok e ∧ e.terminated = true ∧ e.truncated = false ∧
    e.res.state.time = 5 := by
  obtain ⟨e0, mic, acts, e, h1, h2, _, h4, h5, _, h7⟩ :=
    c06_list_schedule_reachable run (π := [0, 1, 1, 1]) (by decide) ExT.r0
  refine ⟨e0, mic, acts, e, h1, h2, h4, h5, ?_⟩
  rw [h7]
  decide +kernel

def omin : Option Int → Option Int → Option Int
  | some a, some b => some (min a b)
  | some a, none => some a
  | none, b => b

/-- the least makespan reported with `terminated` over all accept / decline sequences of length at
most `d` from `e` (`none`: no such sequence ends terminated) -/
def best (ec : EnvCfg) : Nat → EnvState → Option Int
  | 0, _ => none
  | d + 1, e =>
    let go (a : AgentAct) : Option Int :=
      match envStep ExT.orc0 inst ec st e a with
      | .error _ => none
      | .ok out => if out.env.terminated then out.makespan else if out.env.done then none else best ec d out.env
    omin (go .accept) (go .decline)

def search (early : Bool) (d : Nat) : Option Int :=
  match envReset ExT.orc0 inst (ec early) s0 ExT.r0 with
  | .error _ => none
  | .ok (e, _) => best (ec early) d e

/-- what `best` makes of one decision: the makespan if the step ends the episode terminated,
otherwise what `k` makes of the episode after it -/
def branch (ec : EnvCfg) (k : EnvState → Option Int) (e : EnvState) (a : AgentAct) : Option Int :=
  match envStep ExT.orc0 inst ec st e a with
  | .error _ => none
  | .ok out => if out.env.terminated then out.makespan else if out.env.done then none else k out.env

theorem best_succ (ec : EnvCfg) (d : Nat) (e : EnvState) :
    best ec (d + 1) e = omin (branch ec (best ec d) e .accept) (branch ec (best ec d) e .decline) := rfl

theorem omin_eq_some : ∀ {x y : Option Int} {m : Int}, omin x y = some m → x = some m ∨ y = some m
  | none, _, _, h => Or.inr h
  | some _, none, _, h => Or.inl h
  | some a, some b, _, h => by
    simp only [omin, Option.some.injEq] at h
    subst h
    rcases Int.le_total a b with hab | hab
    · left; rw [Int.min_eq_left hab]
    · right; rw [Int.min_eq_right hab]

theorem omin_le : ∀ {x y : Option Int} {m : Int}, x = some m ∨ y = some m → ∃ m', m' ≤ m ∧ omin x y = some m'
  | none, _, m, h => ⟨m, Int.le_refl m, by simpa [omin] using h⟩
  | some a, none, m, h => ⟨m, Int.le_refl m, by simpa [omin] using h⟩
  | some a, some b, m, h => by
    refine ⟨min a b, ?_, rfl⟩
    simp only [Option.some.injEq] at h
    omega

/-- a makespan `branch` returns was reported by the step itself or comes from `k` after it -/
theorem branch_eq_some {ec : EnvCfg} {k : EnvState → Option Int} {e : EnvState} {a : AgentAct} {m : Int}
    (h : branch ec k e a = some m) : ∃ out, envStep ExT.orc0 inst ec st e a = .ok out ∧
      (out.env.terminated = true ∧ out.makespan = some m ∨
        out.env.terminated = false ∧ out.env.done = false ∧ k out.env = some m) := by
  unfold branch at h
  split at h
  · cases h
  · rename_i out hs
    refine ⟨out, hs, ?_⟩
    by_cases ht : out.env.terminated = true
    · rw [if_pos ht] at h; exact Or.inl ⟨ht, h⟩
    · rw [if_neg ht] at h
      by_cases hd : out.env.done = true
      · rw [if_pos hd] at h; cases h
      · rw [if_neg hd] at h; exact Or.inr ⟨by simpa using ht, by simpa using hd, h⟩

/-- `best` returns only makespans that some run from `e` reports -/
theorem best_reported {ec : EnvCfg} : ∀ {d : Nat} {e : EnvState} {m : Int}, best ec d e = some m →
    ∃ acts e' a out, envRun ExT.orc0 inst ec st e acts = .ok e' ∧ envStep ExT.orc0 inst ec st e' a = .ok out ∧
      out.makespan = some m
  | 0, _, _, h => by cases h
  | d + 1, e, m, h => by
    rw [best_succ] at h
    have key : ∀ a, branch ec (best ec d) e a = some m → ∃ acts e' a out,
        envRun ExT.orc0 inst ec st e acts = .ok e' ∧ envStep ExT.orc0 inst ec st e' a = .ok out ∧ out.makespan = some m := by
      intro a hb
      obtain ⟨out, hs, ⟨_, hm⟩ | ⟨_, _, hk⟩⟩ := branch_eq_some hb
      · exact ⟨[], e, a, out, rfl, hs, hm⟩
      · obtain ⟨acts, e', a', out', h1, h2, h3⟩ := best_reported hk
        exact ⟨a :: acts, e', a', out', by simp [envRun, hs, h1], h2, h3⟩
    exact (omin_eq_some h).elim (key _) (key _)

/-- `branch` for the question whether every makespan is at least `bound` -/
def branchGE (ec : EnvCfg) (bound : Int) (k : EnvState → Bool) (e : EnvState) (a : AgentAct) : Bool :=
  match envStep ExT.orc0 inst ec st e a with
  | .error _ => true
  | .ok out => if out.env.terminated then out.makespan.all (bound ≤ ·) else out.env.done || k out.env

/-- whether every makespan `best ec d e` could return, for any `d`, is at least `bound`: decided by
walking the decision tree as `best` does, at most `f` decisions deep (`false` if that does not
reach the end of every branch), but not below a state in which some idle operation cannot end before
`bound` -/
def allGE (ec : EnvCfg) (bound : Int) : Nat → EnvState → Bool
  | 0, _ => false
  | f + 1, e => idleEndsGe inst bound e.res.state ||
      (branchGE ec bound (allGE ec bound f) e .accept && branchGE ec bound (allGE ec bound f) e .decline)

theorem best_ge {ec : EnvCfg} {s0 : State} {bound : Int} (hst : Start ExT.orc0 inst s0) :
    ∀ {f : Nat} {e : EnvState}, EnvReach ExT.orc0 inst ec st s0 e → allGE ec bound f e = true →
      ∀ {d : Nat} {m : Int}, best ec d e = some m → bound ≤ m
  | 0, _, _, hall, _, _, _ => by cases hall
  | _ + 1, _, _, _, 0, _, h => by cases h
  | f + 1, e, hr, hall, d + 1, m, h => by
    simp only [allGE, Bool.or_eq_true, Bool.and_eq_true] at hall
    rcases hall with hlate | hall
    · obtain ⟨acts, e', a, out, hrun, hstep, hm⟩ := best_reported h
      exact idleEndsGe_sound hst hr hlate hrun hstep hm
    · rw [best_succ] at h
      have key : ∀ a, branchGE ec bound (allGE ec bound f) e a = true → branch ec (best ec d) e a = some m →
          bound ≤ m := by
        intro a hc hb
        obtain ⟨out, hs, ⟨ht, hm⟩ | ⟨ht, hd, hk⟩⟩ := branch_eq_some hb
        · simpa [branchGE, hs, ht, hm] using hc
        · simp only [branchGE, hs, ht, hd, Bool.false_eq_true, if_false, Bool.false_or] at hc
          exact best_ge hst (EnvReach.step hr hs) hc hk
      exact (omin_eq_some h).elim (key _ hall.1) (key _ hall.2)

/-- the makespan reported along one sequence of decisions -/
def along (ec : EnvCfg) : List AgentAct → EnvState → Option Int
  | .accept :: as, e => branch ec (along ec as) e .accept
  | .decline :: as, e => branch ec (along ec as) e .decline
  | _, _ => none

theorem branch_mono {ec : EnvCfg} {k k' : EnvState → Option Int} {e : EnvState} {a : AgentAct} {m : Int}
    (hk : ∀ e' m, k e' = some m → ∃ m', m' ≤ m ∧ k' e' = some m') (h : branch ec k e a = some m) :
    ∃ m', m' ≤ m ∧ branch ec k' e a = some m' := by
  obtain ⟨out, hs, ⟨ht, hm⟩ | ⟨ht, hd, hk1⟩⟩ := branch_eq_some h
  · exact ⟨m, Int.le_refl m, by simp [branch, hs, ht, hm]⟩
  · obtain ⟨m', hle, hk2⟩ := hk _ _ hk1
    exact ⟨m', hle, by simp [branch, hs, ht, hd, hk2]⟩

theorem best_le_along {ec : EnvCfg} : ∀ {acts : List AgentAct} {e : EnvState} {m : Int}, along ec acts e = some m →
    ∃ m', m' ≤ m ∧ best ec acts.length e = some m'
  | [], _, _, h => by cases h
  | .outside :: _, _, _, h => by cases h
  | .accept :: as, e, m, h => by
    obtain ⟨m1, h1, hb⟩ := branch_mono (fun _ _ => best_le_along) h
    obtain ⟨m2, h2, ho⟩ := omin_le (y := branch ec (best ec as.length) e .decline) (Or.inl hb)
    exact ⟨m2, Int.le_trans h2 h1, ho⟩
  | .decline :: as, e, m, h => by
    obtain ⟨m1, h1, hb⟩ := branch_mono (fun _ _ => best_le_along) h
    obtain ⟨m2, h2, ho⟩ := omin_le (x := branch ec (best ec as.length) e .accept) (Or.inr hb)
    exact ⟨m2, Int.le_trans h2 h1, ho⟩

/-- the two facts the kernel evaluates: no branch of the decision tree, cut where an idle operation can
no longer end before 6, reports less than 6, and every branch ends within 9 decisions; one sequence
of 8 decisions reports 6 -/
theorem tree_and_path : ∃ e mic, envReset ExT.orc0 inst (ec true) s0 ExT.r0 = .ok (e, mic) ∧
    allGE (ec true) 6 9 e = true ∧
    along (ec true) [.decline, .accept, .decline, .accept, .accept, .accept, .accept, .accept] e = some 6 := by
  have h : (match envReset ExT.orc0 inst (ec true) s0 ExT.r0 with
      | .error _ => false
      | .ok (e, _) => allGE (ec true) 6 9 e &&
          along (ec true) [.decline, .accept, .decline, .accept, .accept, .accept, .accept, .accept] e == some 6) = true := by
    decide +kernel
  split at h
  · cases h
  · rename_i e mic hreset
    simp only [Bool.and_eq_true, beq_iff_eq] at h
    exact ⟨e, mic, hreset, h⟩

/-- with early dispatch, from `reset` with the counters `ExT.r0`, no sequence of decisions, of whatever
length, reports a makespan below 6 -/
theorem early_dispatch_at_least_six (d : Nat) (m : Int) (h : search true d = some m) : 6 ≤ m := by
  obtain ⟨e, mic, hreset, hall, _⟩ := tree_and_path
  unfold search at h
  rw [hreset] at h
  exact best_ge run.start (EnvReach.reset hreset) hall h

/-- **with early dispatch the optimum is missed**: over all sequences of at most 8 decisions the best
makespan reported with `terminated` is 6 (such a sequence exists: with early dispatch most transports
need no decision), while the optimum – reached without early dispatch, `optimum_reached`, and with
early dispatch and two AGVs, `C06GlobalEarly.lean` – is 5. -/
theorem early_dispatch_misses_optimum : search true 8 = some 6 := by
  obtain ⟨e, mic, hreset, _, hpath⟩ := tree_and_path
  obtain ⟨m, hle, hb⟩ := best_le_along hpath
  have hs : search true 8 = some m := by unfold search; rw [hreset]; exact hb
  have := early_dispatch_at_least_six 8 m hs
  have : m = 6 := by omega
  rw [hs, this]

end JSL.ExE
