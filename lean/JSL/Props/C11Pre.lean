import JSL.Props.C05Pre
import JSL.Props.C11

/-!
# C11 for the wider class `totalClassPB`: the offers never run out

With an ordered pre-buffer the machine takes the job its discipline names by itself (a timed transition), so a
job waiting in a pre-buffer is worked off inside the `while timed_transitions` loop.  The statement the
environment needs survives: **a successful `state.step` ends with the shop finished or with an offer** – the
loop runs on while something is due, a forced jump lands on an instant at which something is due, and a quiet
state that is not finished holds an offer (`is_action_possible` does not read the type of the pre-buffer,
dispatch offers need unordered *pickup* buffers only).

* `c11_state_step_done_or_offer_pre` – the statement for `state.step`;
* `c11_never_out_of_offers_pre`      – every environment state of an episode whose result is successful and
  whose shop is not finished holds an offer;
* `c11_progress_pre`                 – in every such state, unless finished, a transition is on offer or
  something is pending.

* `c11_always_accept_finishes_pre`   – the always-accept agent: **if** the run of `n ≥ potBound inst` accepted
  offers returns, it ends with every job in an output buffer, not truncated, terminated (the potential argument
  of `JSL/Inv/AcceptBound.lean` needs the class only for "no offers ⇒ finished").

Not proved for the wider class: that the run returns for a given fuel (`c11_always_accept_terminates` uses the
fuel bound `c05_step_returns_in_class`, whose measure does not count the operations a machine with an ordered
pre-buffer starts inside the timed loop).  Without a fuel bound: every step of the run returns or runs out of
fuel (`c05_step_never_raises_with_offer_pre`).
-/

namespace JSL

variable {orc : Oracle} {inst : Instance}

/-- **a successful `state.step` of the wider class ends finished or with an offer** -/
theorem c11_state_step_done_or_offer_pre {cfg : SMConfig} {s0 s : State} (hst : Start orc inst s0)
    (hC : totalClassPB inst s0 = true) (h : OccursF orc inst cfg s0 s) {a : Action} (ha : Admissible a)
    (hadm : AdmOffer inst cfg s a) {fuel : Nat} {r r' : Rng} {res : SMResult} {mic : List State}
    (hstep : smStep orc inst cfg fuel s r a = .ok (res, r', mic)) (hs : res.success = true) :
    isDone inst res.state = true ∨ res.possible ≠ [] := by
  obtain ⟨C, _, _⟩ := totalClassPB_sound hC
  have hg := (smStep_good hst C.pflex C.hasAgv h ha hadm hstep).2 hs
  cases hd : isDone inst res.state with
  | true => exact Or.inl rfl
  | false => exact Or.inr (hg hd)

/-- **the offers never run out in the wider class**: every environment state of an episode whose result is
successful and whose shop is not finished holds at least one offer -/
theorem c11_never_out_of_offers_pre {ec : EnvCfg} {st : RewardStatic} {s0 : State} (hst : Start orc inst s0)
    (hC : totalClassPB inst s0 = true) {e : EnvState} (h : EnvReach orc inst ec st s0 e)
    (hs : e.res.success = true) (hnd : isDone inst e.res.state = false) : e.res.possible ≠ [] := by
  obtain ⟨C, _, _⟩ := totalClassPB_sound hC
  exact (envReach_good hst C.pflex C.hasAgv h).offers hs hnd

/-- **progress (state form)**: unless the shop is finished, a transition is on offer or something is pending -/
theorem c11_progress_pre {ec : EnvCfg} {st : RewardStatic} {s0 : State} (hst : Start orc inst s0)
    (hC : totalClassPB inst s0 = true) {e : EnvState} (h : EnvReach orc inst ec st s0 e)
    (hnd : isDone inst e.res.state = false) {poss : List Transition}
    (hposs : possibleTransitions inst ec.sm e.res.state = .ok poss) : poss ≠ [] ∨ Pending e.res.state := by
  obtain ⟨C, _, _⟩ := totalClassPB_sound hC
  have hO := (envReach_good hst C.pflex C.hasAgv h).occ hnd
  obtain ⟨w, hI, hS⟩ := occursA_inv hst hO.toA
  have hP := occursF_progress hst C.pflex hO
  exact progress_state w C.pflex C.hasAgv hI hS hP.1 hP.2 hnd hposs

/-- **The always-accept agent finishes within `potBound inst = 2·#operations + #jobs` steps, if every step
returns** – in the wider class -/
theorem c11_always_accept_finishes_pre {ec : EnvCfg} {st : RewardStatic} {s0 : State} (hst : Start orc inst s0)
    (hC : totalClassPB inst s0 = true) (hjk : 0 ≤ ec.mw.jokerInit)
    {r0 : Rng} {e0 e : EnvState} {mic0 : List State} (hreset : envReset orc inst ec s0 r0 = .ok (e0, mic0))
    {n : Nat} (hrun : acceptRun orc inst ec st n e0 = .ok e) (hn : potBound inst ≤ n) :
    isDone inst e.res.state = true ∧ e.truncated = false ∧
      (isDone inst e0.res.state = false → e.terminated = true) :=
  always_accept_bound hst (c11_never_out_of_offers_pre hst hC) hjk hreset hrun hn

/-- on `ExFifo.inst` with the fuel of the example configuration (40 rounds): `reset` returns, the run of
`potBound = 10` accepted offers returns, and it ends terminated -/
theorem c11_fifo_accept_run : ∃ e0 mic0 e, envReset ExT.orc0 ExFifo.inst ExT.ec Ex.s0 ExT.r0 = .ok (e0, mic0) ∧
    acceptRun ExT.orc0 ExFifo.inst ExT.ec ExT.st (potBound ExFifo.inst) e0 = .ok e ∧
    isDone ExFifo.inst e.res.state = true ∧ e.truncated = false ∧ e.terminated = true := by
  have h : (match envReset ExT.orc0 ExFifo.inst ExT.ec Ex.s0 ExT.r0 with
      | .error _ => false
      | .ok (e0, _) => !isDone ExFifo.inst e0.res.state &&
        match acceptRun ExT.orc0 ExFifo.inst ExT.ec ExT.st (potBound ExFifo.inst) e0 with
        | .error _ => false
        | .ok _ => true) = true := by decide +kernel
  split at h
  · cases h
  · rename_i e0 mic0 hreset
    simp only [Bool.and_eq_true, Bool.not_eq_true'] at h
    obtain ⟨h0, h⟩ := h
    split at h
    · cases h
    · rename_i e hrun
      have := c11_always_accept_finishes_pre ExFifo.start ExPre.fifo_in_class.1 (by decide) hreset hrun (Nat.le_refl _)
      exact ⟨e0, mic0, e, hreset, hrun, this.1, this.2.1, this.2.2 h0⟩


/-- on `ExFifo.inst` (FIFO pre-buffers) no episode ever holds a successful, unfinished result without offers -/
example {e : EnvState} (h : EnvReach ExT.orc0 ExFifo.inst ExT.ec ExT.st Ex.s0 e)
    (hs : e.res.success = true) (hnd : isDone ExFifo.inst e.res.state = false) : e.res.possible ≠ [] :=
  c11_never_out_of_offers_pre ExFifo.start ExPre.fifo_in_class.1 h hs hnd

/-- unordered pickup buffers are needed: with FIFO **post**-buffers (`ExPre.pickup_buffers_must_be_unordered`)
an episode reaches a state that is not done in which `accept` raises `InvalidValue` (`interpret` finds no
transition to accept) -/
theorem c11_pickup_buffers_must_be_unordered : ∃ e, EnvReach ExT.orc0 ExTot.instPostFifo ExT.ec ExT.st Ex.s0 e ∧
    e.done = false ∧ envStep ExT.orc0 ExTot.instPostFifo ExT.ec ExT.st e .accept = .error .invalidValue :=
  ExPre.pickup_buffers_must_be_unordered

end JSL
