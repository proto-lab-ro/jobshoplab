import JSL.Inv.EnvReach
import JSL.Props.C02
import JSL.Inv.OutagePast

/-!
# C10 — outages block a component for exactly their duration, then release it

* `c10_duration_nonneg` – the blocking time computed when outages are sampled is never negative;
* `c10_longest_active` – it is the longest of the outages active at that moment, 0 if none is;
* `c10_machine_outage` / `c10_agv_outage` – at WORKING → OUTAGE (TRANSIT → OUTAGE) the component
  becomes occupied until now + that time; `c10_machine_blocked` / `c10_agv_blocked` – the tables
  admit nothing but OUTAGE → IDLE from OUTAGE, so no work is accepted, and a machine's job is not
  released before (`c10_not_released_before`);
* `c10_machine_release` / `c10_agv_release`, `c10_release_record` – OUTAGE → IDLE returns the
  component to IDLE with every outage record inactive and the end time of those that struck
  remembered;
* `c10_no_outage_immediate` – with no outage due the component is occupied until *now*, i.e. the
  release transition is due in the same instant.

Composed over whole episodes (`Inv/OutageInv.lean`, `Inv/OutagePast.lean`):
**`c10_outage_records`** – in every exposed state a component that is not in OUTAGE carries only
inactive records, and one in OUTAGE is occupied exactly until the strike instant plus its longest
active outage, every active record having started at the strike; `c10_blocked_window`,
`c10_blocked_window_agv` – while in OUTAGE a machine still holds its job, an AGV claims none, and the
clock lies in that window;
`c10_remembered_ends_are_past` – every remembered end is an instant that has passed.  They need
the initial records to be inactive (`outRestB`, `outPastB` – what the compiler produces; printed on
the `G` line by both sides).
-/

namespace JSL

variable {orc : Oracle} {inst : Instance}

/-- outage durations are never negative -/
theorem c10_duration_nonneg {now : Int} {comp : List OutageState} (hn : ∀ sid k, 0 ≤ orc sid k)
    {cfgs : List OutageCfg} {r r' : Rng} {outs : List OutageState}
    (hd : ∀ o ∈ cfgs, ∀ t, o.dur = .det t → 0 ≤ t)
    (h : newOutageStates orc now comp cfgs r = .ok (outs, r')) :
    0 ≤ occupiedFor outs ∧ ∀ x ∈ outs, ∀ a b, x.st = .active a b → a = now ∧ a ≤ b := by
  have hs := struckAt_new hn hd h
  exact ⟨hs.1, fun x hx a b hst => ⟨(hs.2 x hx a b hst).1, (hs.2 x hx a b hst).2.1⟩⟩

/-- the component is blocked for the longest simultaneously active outage (0 if none) -/
theorem c10_longest_active (l : List OutageState) :
    (∀ d ∈ activeDurations l, d ≤ occupiedFor l) ∧
    ((activeDurations l = [] ∧ occupiedFor l = 0) ∨ occupiedFor l ∈ activeDurations l) :=
  ⟨occupiedFor_ge l, occupiedFor_attained l⟩

/-- from OUTAGE the only transition either table admits is the release to IDLE -/
theorem c10_machine_blocked (b : MSt) : machineValid .outage b = true ↔ b = .idle := by
  cases b <;> decide

theorem c10_agv_blocked (b : TSt) : transportValid .outage b = true ↔ b = .idle := by
  cases b <;> decide

/-- a machine struck at the end of processing is occupied until now + the longest active outage,
its records are the freshly sampled ones, and its job stays in its buffer -/
theorem c10_machine_outage {s s' : State} {r r' : Rng} {tr : Transition} {m : MachineState} (hm : m ∈ s.machines)
    (h : handleMachineWorkingToOutage orc inst s r tr m = .ok (s', r')) :
    ∃ (mc : MachineCfg) (outs : List OutageState), mc ∈ inst.machines ∧ mc.id = m.id ∧
      newOutageStates orc s.time m.outages mc.outages r = .ok (outs, r') ∧
      ∃ m' ∈ s'.machines, m'.id = m.id ∧ m'.st = .outage ∧ m'.outages = outs ∧
        m'.occ = some (s.time + occupiedFor outs) ∧ m'.buffer = m.buffer := by
  obtain ⟨mc, outs, j, op, h1, h2, h3, _, _, _, rfl⟩ := workingToOutage_spec h
  refine ⟨mc, outs, h1, h2, h3, m.toOutage outs (s.time + occupiedFor outs), ?_, rfl, rfl, rfl, rfl, rfl⟩
  exact replaceMachine_mem hm rfl

/-- an AGV struck at delivery: same bookkeeping -/
theorem c10_agv_outage {s s' : State} {r r' : Rng} {tr : Transition} {t : TransportState} (ht : t ∈ s.transports)
    (h : handleAgvTransitToOutage orc inst s r tr t = .ok (s', r')) :
    ∃ (tc : TransportCfg) (outs : List OutageState), tc ∈ inst.transports ∧ tc.id = t.id ∧
      newOutageStates orc s.time t.outages tc.outages r = .ok (outs, r') ∧
      ∃ t' ∈ s'.transports, t'.id = t.id ∧ t'.st = .outage ∧ t'.outages = outs ∧
        t'.occ = .at (s.time + occupiedFor outs) ∧ t'.job = none := by
  obtain ⟨j, cur, pick, drop, tc, outs, b1, b2, _, _, _, _, h5, h6, h7, hcase⟩ := transitToOutage_spec h
  refine ⟨tc, outs, h5, h6, h7, t.toOutage j.id b1 outs (s.time + occupiedFor outs) drop, ?_, rfl, rfl, rfl, rfl, rfl⟩
  rcases hcase with ⟨mid, ms, _, _, _, _, rfl⟩ | ⟨bid, b, _, _, _, _, rfl⟩
  · exact replaceTransport_mem ht rfl
  · exact replaceTransport_mem ht rfl

/-- releasing makes every record inactive; one that struck remembers its end -/
theorem c10_release_record (o : OutageState) :
    (∀ a b, o.st = .active a b → (releaseOutage o).st = .inactive (some b)) ∧
    (∀ l, o.st = .inactive l → releaseOutage o = o) ∧ (releaseOutage o).id = o.id ∧
    ∃ l, (releaseOutage o).st = .inactive l := by
  unfold releaseOutage
  cases h : o.st with
  | active a b => simp
  | inactive l => simp [h]

/-- **Release.**  OUTAGE → IDLE on a machine: the machine is IDLE, every record is inactive again,
and the job has left the machine's buffer for its post-buffer. -/
theorem c10_machine_release {s s' : State} {r r' : Rng} {m : MachineState} (hm : m ∈ s.machines)
    (h : handleMachineOutageToIdle inst s r m = .ok (s', r')) :
    ∃ m' ∈ s'.machines, m'.id = m.id ∧ m'.st = .idle ∧ m'.outages = m.outages.map releaseOutage ∧
      ∃ j, m.buffer.store.head? = some j ∧ m'.post.store = m.post.store ++ [j] := by
  obtain ⟨j, op, mc, rest, b1, b2, h1, _, _, _, _, _, _, rfl⟩ := outageToIdle_spec h
  refine ⟨m.toIdle j.id b1 b2, ?_, rfl, rfl, rfl, j.id, by simp [h1], rfl⟩
  exact replaceMachine_mem hm rfl

theorem c10_agv_release {s s' : State} {r r' : Rng} {t : TransportState} (ht : t ∈ s.transports)
    (h : handleAgvOutageToIdle s r t = .ok (s', r')) :
    ∃ t' ∈ s'.transports, t'.id = t.id ∧ t'.st = .idle ∧ t'.outages = t.outages.map releaseOutage := by
  obtain ⟨_, rfl⟩ := agvOutageToIdle_spec h
  refine ⟨t.toIdle, ?_, rfl, rfl, rfl⟩
  exact replaceTransport_mem ht rfl

/-- with no outage due the blocking time is 0: the component is occupied until *now*, so its
release is due in the very same instant -/
theorem c10_no_outage_immediate (outs : List OutageState) (h : ∀ o ∈ outs, ∃ l, o.st = .inactive l) (now : Int) :
    occupiedFor outs = 0 ∧ dueAt (some (now + occupiedFor outs)) now = true := by
  have h0 : occupiedFor outs = 0 := occupiedFor_allInactive h
  exact ⟨h0, by simp [h0, dueAt]⟩

/-- the release is never late: in every state of every execution a machine in OUTAGE is not
overdue, and its job is still in its buffer (not released before) -/
theorem c10_not_released_before {cfg : SMConfig} {s0 σ : State} (hst : Start orc inst s0)
    (h : OccursA orc inst cfg s0 σ) {m : MachineState} (hm : m ∈ σ.machines) (hs : m.st = .outage) :
    ∃ j ∈ σ.jobs, m.buffer.store = [j.id] ∧ ∃ b, m.occ = some b ∧ σ.time ≤ b := by
  obtain ⟨j, hj, hstore, op, b, _, _, _, hocc, hle⟩ := c02_no_overdue hst h hm (by rw [hs]; simp)
  exact ⟨j, hj, hstore, b, hocc, hle⟩

/-- **Outage bookkeeping in every exposed state** (`OutageRec`): a component that is not in OUTAGE
carries only inactive records; one in OUTAGE is occupied exactly until the strike instant plus its
longest active outage, every active record having started at the strike. -/
theorem c10_outage_records {ec : EnvCfg} {st : RewardStatic} {s0 σ : State} (hst : Start orc inst s0)
    (h0 : outRestB s0 = true) (h : Exposed orc inst ec st s0 σ) : OutageRec σ := by
  obtain ⟨w, _⟩ := initOKB_sound hst.init
  have nn := nonnegB_sound hst.samples hst.nonneg
  obtain ⟨t, ht⟩ := exposed_pass (OutagePass orc inst ec.sm w nn) hst (OutageInv.of_rest hst.rest h0)
    (fun _ _ _ => trivial) h
  exact OutageRec.of_time ht

/-- a machine in OUTAGE: the clock lies between the strike and the strike plus the longest active
outage, the machine is occupied exactly until then and still holds its job -/
theorem c10_blocked_window {cfg : SMConfig} {s0 σ : State} (hst : Start orc inst s0) (h0 : outRestB s0 = true)
    (h : OccursA orc inst cfg s0 σ) {m : MachineState} (hm : m ∈ σ.machines) (hs : m.st = .outage) :
    ∃ a, m.occ = some (a + occupiedFor m.outages) ∧ a ≤ σ.time ∧ σ.time ≤ a + occupiedFor m.outages ∧
      StruckAt m.outages a ∧ ∃ j ∈ σ.jobs, m.buffer.store = [j.id] := by
  obtain ⟨a, hocc, hle, hstruck⟩ := (occursA_outage hst h0 h).machOut m hm hs
  obtain ⟨_, _, hS⟩ := occursA_inv hst h
  obtain ⟨j, hj, hstore, op, hop, _, hstop, _⟩ := hS.busyHolds m hm (by rw [hs]; simp)
  obtain ⟨l1, l2, hl, _, hp⟩ := processing?_split' hop
  have hmem : op ∈ j.ops := by rw [hl]; simp
  obtain ⟨_, b, _, h2, _, _, h5⟩ := (OpsOK_mem _ _ (hS.ops j hj) op hmem).2.1 hp
  rw [h2, hocc] at hstop
  simp at hstop
  exact ⟨a, hocc, hle, by omega, hstruck, j, hj, hstore⟩

/-- an AGV in OUTAGE: the same window, and it claims no job -/
theorem c10_blocked_window_agv {cfg : SMConfig} {s0 σ : State} (hst : Start orc inst s0) (h0 : outRestB s0 = true)
    (h : OccursA orc inst cfg s0 σ) {t : TransportState} (ht : t ∈ σ.transports) (hs : t.st = .outage) :
    ∃ a, t.occ = .at (a + occupiedFor t.outages) ∧ a ≤ σ.time ∧ σ.time ≤ a + occupiedFor t.outages ∧
      StruckAt t.outages a ∧ t.job = none := by
  obtain ⟨a, hocc, hle, hstruck⟩ := (occursA_outage hst h0 h).agvOut t ht hs
  obtain ⟨_, _, hS⟩ := occursA_inv hst h
  exact ⟨a, hocc, hle, hS.agvPending t ht (by rw [hs]; simp) _ hocc, hstruck, hS.freeNoClaim t ht (Or.inr hs)⟩

/-- every remembered outage end lies in the past -/
theorem c10_remembered_ends_are_past {cfg : SMConfig} {s0 σ : State} (hst : Start orc inst s0) (h0 : outRestB s0 = true)
    (h1 : outPastB s0 = true) (h : OccursA orc inst cfg s0 σ) : OutagePast σ := by
  obtain ⟨w, _⟩ := initOKB_sound hst.init
  have nn := nonnegB_sound hst.samples hst.nonneg
  exact occursA_pass (OutagePastPass orc inst cfg w nn) hst (OutagePast.of_rest hst.rest h0 h1) (fun _ _ ha => ha.shaped) h

/-- non-vacuity: the example initial state has its outage records at rest -/
example : outRestB Ex.s0 = true ∧ outPastB Ex.s0 = true := by decide

end JSL
