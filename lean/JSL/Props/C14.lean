import JSL.Lib.StepSpec
import JSL.Inv.EnvReach
import JSL.Inv.ObsSpace
import JSL.Inv.OpArraySpace

/-!
# C14 — the environment honours the Gymnasium contract

Action-space and episode-end part, and – for the `SimpleJssp`-based observation factories – that
the observation lies in the declared space: `maxOpsPerJob`, `maxOpsPerMachine` and the shapes are
the model of the declared `gym.spaces.Dict` (compared with the implementation's declared space on
the `B` line of every scenario; the `in=` flag of every `V` line compares the model's membership
test with the implementation's).
-/

namespace JSL

variable {orc : Oracle} {inst : Instance} {ec : EnvCfg} {st : RewardStatic}

/-- An action outside `Discrete(2)` is rejected with the dedicated error (while offers exist);
the model being a function, the episode `e` is unchanged. -/
theorem c14_reject (e : EnvState) (hd : e.done = false) (hp : e.res.possible ≠ []) :
    envStep orc inst ec st e .outside = .error .actionOutOfSpace := by
  unfold envStep mwStep interpret
  cases h : e.res.possible with
  | nil => exact absurd h hp
  | cons o rest => simp [hd]

/-- Stepping a finished episode raises the dedicated error, whatever the action. -/
theorem c14_done_raises (e : EnvState) (a : AgentAct) (hd : e.done = true) :
    envStep orc inst ec st e a = .error .envDone := by
  simp [envStep, hd]

/-- `reset` returns to the instance's initial situation with empty history and cleared flags,
independently of anything that happened before (it is a function of the compiled initial state). -/
theorem c14_reset_initial (s0 : State) (r : Rng) (e : EnvState) (mic : List State)
    (h : envReset orc inst ec s0 r = .ok (e, mic)) :
    e.histLen = 0 ∧ e.histNoOps = 0 ∧ e.terminated = false ∧ e.truncated = false ∧ e.done = false ∧
      e.mw.joker = ec.mw.jokerInit ∧ e.mw.actCnt = 0 ∧ e.mw.noOpCnt = 0 ∧ e.rwCnt = 0 := by
  obtain ⟨res, r', _, rfl⟩ := envReset_ok h
  exact ⟨rfl, rfl, rfl, rfl, rfl, rfl, rfl, rfl, rfl⟩

/-- **The integer and boolean fields of every observation lie in the declared space**, with the
declared shapes: in every state an episode exposes (reset, then any agent actions), whenever the
factory returns, `job_running`, `available_jobs`, `job_executed_on_machine`, `machine_running` have
the declared shapes, and `job_progression` / `machine_progression` have the declared shapes and stay
within `[0, max_ops_per_job]` / `[0, max_ops_per_machine]`. -/
theorem c14_observation_integer_fields_in_space {s0 σ : State} (hst : Start orc inst s0)
    (h : Exposed orc inst ec st s0 σ) {tmax : Int} {o : SimpleObs}
    (ho : simpleObs inst.machines.length tmax σ = .ok o) :
    o.intFieldsInSpaceB inst.jobs.length inst.machines.length (maxOpsPerJob inst) (maxOpsPerMachine inst) = true :=
  simpleObs_int_fields_in_space (exposed_inv hst h).2.1.shape ho

/-- **The whole observation lies in the declared space** as long as the clock has not passed the
normalisation constant (`0 ≤ time ≤ max_allowed_time`); beyond it `current_time` exceeds 1 – the
recorded finding of C14. -/
theorem c14_observation_in_space {s0 σ : State} (hst : Start orc inst s0)
    (h : Exposed orc inst ec st s0 σ) {tmax : Int} {o : SimpleObs}
    (ho : simpleObs inst.machines.length tmax σ = .ok o) (h0 : 0 ≤ σ.time) (h1 : σ.time ≤ tmax) :
    o.inSpaceB inst.jobs.length inst.machines.length (maxOpsPerJob inst) (maxOpsPerMachine inst) = true :=
  simpleObs_in_space (exposed_inv hst h).2.1.shape ho h0 h1

/-- past the normalisation constant the observation leaves the space (witness of the finding) -/
theorem c14_current_time_leaves_space : ∃ (s : State) (o : SimpleObs), simpleObs 0 5 s = .ok o ∧ o.timeInSpaceB = false :=
by
  refine ⟨{ jobs := [], time := 6, machines := [], transports := [], buffers := [] },
    { jobRunning := [], jobExecutedOnMachine := [], jobProgression := [], machineRunning := [],
      machineProgression := [], availableJobs := [], currentTime := 6 / 5 }, ?_, by decide +kernel⟩
  simp [simpleObs, sortById, List.mergeSort_nil, List.mapM_nil, List.foldlM_nil]

/-- **`operation_state` lies in `[0,1]`** in every environment state of every episode (idle 0, done 1,
the elapsed fraction of an operation in progress – the clock lies within its interval). -/
theorem c14_operation_state_in_unit {s0 : State} (hst : Start orc inst s0) {e : EnvState}
    (he : EnvReach orc inst ec st s0 e) (ops locs : List Rat) (h : opArrayObs inst e.res.state = .ok (ops, locs)) :
    (∀ v ∈ ops, 0 ≤ v ∧ v ≤ 1) ∧ ops.length = (e.res.state.jobs.flatMap (·.ops)).length := by
  rcases envReach_live_or_done hst he with hl | hd
  · obtain ⟨_, _, hS⟩ := occursA_inv hst hl
    exact opArray_operation_state_in_unit inst e.res.state ops locs hS h
  · have hdone := isDone_all_done (envReach_inv hst he).full.route hd
    exact ⟨opArray_operation_state_all_done_in_unit inst e.res.state ops locs hdone h,
      (opArray_ops_read inst e.res.state ops locs h).1⟩

/-- **`job_locations` lies in `[0,1]`** when the configured buffer ids are `0 … n-1` in some order (what
the compiler produces when it numbers every buffer itself). -/
theorem c14_job_locations_in_unit {s0 : State} (hst : Start orc inst s0) {e : EnvState}
    (he : EnvReach orc inst ec st s0 e)
    (hids : ((allBufCfgs inst).map (·.id)).Perm (List.range (allBufCfgs inst).length))
    (ops locs : List Rat) (h : opArrayObs inst e.res.state = .ok (ops, locs)) :
    (∀ v ∈ locs, 0 ≤ v ∧ v ≤ 1) ∧ locs.length = e.res.state.jobs.length :=
  opArray_job_locations_in_unit inst e.res.state ops locs h
    (structInv_loc_le_maxBuf (envReach_inv hst he).struct hids)

/-- …and exceeds 1 when a buffer id is beyond the number of buffers (witness of the recorded finding) -/
theorem c14_job_locations_leave_space :
    let inst : Instance := { jobs := [], travel := [], machines := [],
                             buffers := [default, { (default : BufCfg) with id := 5 }], transports := [] }
    let s : State := { jobs := [{ id := 0, ops := [], loc := 5 }], time := 0, machines := [],
                       transports := [], buffers := [default, { (default : BufState) with id := 5, store := [0] }] }
    opArrayMaxBuf inst = 1 ∧ (∃ j ∈ s.jobs, opArrayMaxBuf inst < (j.loc : Int)) ∧
    ∃ ops locs, opArrayObs inst s = .ok (ops, locs) ∧ ∃ v ∈ locs, 1 < v := by
  intro inst s
  refine ⟨by decide, ⟨_, List.mem_cons_self, by decide⟩, [], [(5 : Rat) / ((1 : Int) : Rat)], ?_, ?_⟩
  · rfl
  · exact ⟨_, List.mem_cons_self, by norm_num⟩

/-- **the offer encoding lies in `[0,1]³`** (and is `(1,1,1)` exactly for a finished episode) as long as
job numbers do not exceed the number of jobs -/
theorem c14_offer_encoding_in_unit (inst : Instance) (n : Nat) (res : SMResult) (done : Bool)
    (a b c : Rat) (h : currentTransition inst n res done = .ok (a, b, c))
    (hj : ∀ tr rest, res.possible = tr :: rest → ∀ j, tr.job = some j → j ≤ n) :
    (0 ≤ a ∧ a ≤ 1) ∧ (0 ≤ b ∧ b ≤ 1) ∧ (0 ≤ c ∧ c ≤ 1) ∧
    (done = true → a = 1 ∧ b = 1 ∧ c = 1) ∧ (done = false → a < 1) := by
  cases done with
  | true =>
    rw [currentTransition_done] at h
    simp only [Except.ok.injEq, Prod.mk.injEq] at h
    obtain ⟨rfl, rfl, rfl⟩ := h
    exact ⟨⟨zero_le_one, le_refl _⟩, ⟨zero_le_one, le_refl _⟩, ⟨zero_le_one, le_refl _⟩,
      fun _ => ⟨rfl, rfl, rfl⟩, fun hf => (by cases hf)⟩
  | false =>
    obtain ⟨tr, rest, hp, ha, hb0, hc, _, hb1⟩ := currentTransition_offer_in_unit inst n res a b c h
    exact ⟨⟨ha.1, le_of_lt ha.2⟩, ⟨hb0, hb1 (hj tr rest hp)⟩, hc, fun hf => (by cases hf), fun _ => ha.2⟩

end JSL
