import JSL.Inv.EnvReach
import JSL.Props.Example
import JSL.Inv.TravelStoch

/-!
# C07 — transport takes the configured travel time and never moves an unready job

Per transition (every execution applies exactly these handlers):

* `c07_dispatch` – IDLE → WORKING: the AGV reaches the pickup point at now + travel(where it
  stands → component holding the job), destination = machine of the job's next idle operation,
  or the output buffer when no operation is idle;
* `c07_pickup_only_when_ready` – a pickup (→ TRANSIT) is only ever created for a job that is ready:
  it lies in a post-buffer or standalone buffer at the release position, not in a machine, and no
  operation of it is being processed;
* `c07_transit_time` – WAITINGPICKUP → TRANSIT: arrival = now + travel(source → destination), the
  matrix entry read in that direction (freshly sampled if stochastic), job moved into the AGV;
* `c07_delivery` – TRANSIT → OUTAGE: the job joins the back of the destination machine's pre-buffer
  or of the output buffer, the AGV stands at the destination and no longer claims the job;
* `c07_arrival_on_time` – in every execution a busy AGV's arrival time is never in the past, so
  the delivery (created only when due) fires exactly at the arrival time.

Composed over whole episodes: `c07_route_destination` (where a claimed job is taken) and
**`c07_start_after_predecessor_plus_travel`** – the "hence" of the property: an operation never
starts earlier than its predecessor's end plus the (constant) travel time between the two machines.
-/

namespace JSL

variable {orc : Oracle} {inst : Instance}

theorem c07_dispatch {s s' : State} {r r' : Rng} {tr : Transition} {t : TransportState} (ht : t ∈ s.transports)
    (h : handleAgvIdleToWorking orc inst s r tr t = .ok (s', r')) :
    ∃ (j : JobState) (cur target src : Loc) (bc : BufCfg) (c : TimeCfg),
      j ∈ s.jobs ∧ tr.job = some j.id ∧ t.loc = .at cur ∧
      -- destination: output buffer iff no operation is idle, else the next idle operation's machine
      ((j.noOpIdle = true ∧ ∃ o, firstOutput inst = .ok o ∧ target = .b o) ∨
       (j.noOpIdle = false ∧ ∃ op, j.nextIdle? = some op ∧ target = .m op.machine)) ∧
      -- source: the component whose buffer holds the job
      bc ∈ allBufCfgs inst ∧ bc.id = j.loc ∧
      (bc.parent = none ∧ src = .b j.loc ∨ ∃ mid, bc.parent = some (.m mid) ∧ src = .m mid) ∧
      -- travel time: the matrix entry (where the AGV stands → source)
      inst.travel.lookup (cur, src) = some c ∧
      ∃ t' ∈ s'.transports, t'.id = t.id ∧ t'.st = .pickup ∧ t'.job = some j.id ∧
        t'.occ = .at (s.time + c.cur orc r) ∧ t'.loc = .route cur bc.id target ∧ t'.buffer = t.buffer := by
  obtain ⟨j, cur, target, src, bc, c, h1, h2, h3, h4, h5, h6, h7, h8, _, rfl⟩ := idleToWorking_spec h
  refine ⟨j, cur, target, src, bc, c, h1, h2, h3, h4, h5, h6, h7, h8,
    t.toPickup cur bc.id target (s.time + c.cur orc r) j.id, ?_, rfl, rfl, rfl, rfl, rfl, rfl⟩
  exact replaceTransport_mem ht rfl

/-- **Never an unready job.**  The transitions `create_timed_transport_transitions` builds in a
state of any execution: one into TRANSIT exists only for a job that is ready for pickup – it is
in no machine's internal or pre-buffer and none of its operations is being processed. -/
theorem c07_pickup_only_when_ready {cfg : SMConfig} {s0 σ : State} (hst : Start orc inst s0)
    (h : OccursA orc inst cfg s0 σ) {t : TransportState} (ht : t ∈ σ.transports) {tr : Transition}
    (hc : timedTransport inst σ t = .ok (some tr)) (hn : tr.new = .t .transit) :
    ∃ j ∈ σ.jobs, tr.job = some j.id ∧ readyForPickup inst σ j = .ok true ∧
      (∀ m ∈ σ.machines, m.buffer.id ≠ j.loc ∧ m.pre.id ≠ j.loc) ∧ (∀ o ∈ j.ops, o.st ≠ .processing) := by
  obtain ⟨w, hI, hS⟩ := occursA_inv hst h
  obtain ⟨j, hj, htj, hr⟩ := (timedTransport_spec hS ht hc).2 hn
  exact ⟨j, hj, htj, hr, ready_facts w hI hS hj hr⟩

/-- a parked time dependency never leads straight into TRANSIT: what is parked is always a
"keep waiting" transition, so readiness is re-examined before every pickup -/
theorem c07_dependency_rechecks {cfg : SMConfig} {s0 σ : State} (hst : Start orc inst s0)
    (h : OccursA orc inst cfg s0 σ) {t : TransportState} (ht : t ∈ σ.transports) {b j : Nat} {tr : Transition}
    (ho : t.occ = .dep b j tr) : tr.new = .t .waitingpickup :=
  (occursA_inv hst h).2.2.depWaiting t ht b j tr ho

theorem c07_transit_time {s s' : State} {r r' : Rng} {tr : Transition} {t : TransportState} (ht : t ∈ s.transports)
    (h : handleAgvPickupToTransit orc inst s r tr t = .ok (s', r')) :
    ∃ (j : JobState) (src dst : Loc) (c : TimeCfg) (tt : Int),
      j ∈ s.jobs ∧ tr.job = some j.id ∧
      ((j.noOpIdle = true ∧ ∃ o, firstOutput inst = .ok o ∧ dst = .b o) ∨
       (j.noOpIdle = false ∧ ∃ op, j.nextNotDone? = some op ∧ dst = .m op.machine)) ∧
      (src = .b j.loc ∧ machineIdOfBuffer inst.machines j.loc = none ∨
       ∃ mid, src = .m mid ∧ machineIdOfBuffer inst.machines j.loc = some mid) ∧
      inst.travel.lookup (src, dst) = some c ∧ (tt, r') = c.updRead orc r ∧
      ∃ t' ∈ s'.transports, t'.id = t.id ∧ t'.st = .transit ∧ t'.occ = .at (s.time + tt) ∧
        t'.buffer.store = t.buffer.store ++ [j.id] ∧
        ∃ j' ∈ s'.jobs, j'.id = j.id ∧ j'.loc = t.buffer.id := by
  obtain ⟨j, src, dst, tt, b1, b2, h1, h2, h3, h4, _, hcase⟩ := pickupToTransit_spec h
  obtain ⟨c, hc1, hc2⟩ := travelTimeFromSpec_ok h4
  have hsrc : (src = .b j.loc ∧ machineIdOfBuffer inst.machines j.loc = none ∨
       ∃ mid, src = .m mid ∧ machineIdOfBuffer inst.machines j.loc = some mid) := by
    rcases hcase with ⟨fb, e1, e2, _⟩ | ⟨mid, ms, bs, ms', e1, e2, _⟩
    · exact Or.inl ⟨e1, e2⟩
    · exact Or.inr ⟨mid, e1, e2⟩
  refine ⟨j, src, dst, c, tt, h1, h2, h3, hsrc, hc1, hc2, t.toTransit (s.time + tt) j.id b2, ?_, rfl, rfl, rfl, rfl,
    j.at t.buffer.id, ?_, rfl, rfl⟩
  · rcases hcase with ⟨fb, _, _, _, _, _, rfl⟩ | ⟨mid, ms, bs, ms', _, _, _, _, _, _, _, rfl⟩ <;>
      exact replaceTransport_mem ht rfl
  · rcases hcase with ⟨fb, _, _, _, _, _, rfl⟩ | ⟨mid, ms, bs, ms', _, _, _, _, _, _, _, rfl⟩ <;>
      exact replaceJob_mem h1 rfl

theorem c07_delivery {s s' : State} {r r' : Rng} {tr : Transition} {t : TransportState} (ht : t ∈ s.transports)
    (h : handleAgvTransitToOutage orc inst s r tr t = .ok (s', r')) :
    ∃ (j : JobState) (cur : Loc) (pick : Nat) (drop : Loc),
      j ∈ s.jobs ∧ tr.job = some j.id ∧ t.loc = .route cur pick drop ∧ j.id ∈ t.buffer.store ∧
      (∃ t' ∈ s'.transports, t'.id = t.id ∧ t'.st = .outage ∧ t'.loc = .at drop ∧ t'.job = none ∧
          t'.buffer.store = t.buffer.store.filter (· != j.id)) ∧
      ((∃ ms ∈ s.machines, drop = .m ms.id ∧ ∃ ms' ∈ s'.machines, ms'.id = ms.id ∧
            ms'.pre.store = ms.pre.store ++ [j.id] ∧ ∃ j' ∈ s'.jobs, j'.id = j.id ∧ j'.loc = ms.pre.id) ∨
       (∃ b ∈ s.buffers, drop = .b b.id ∧ ∃ b' ∈ s'.buffers, b'.id = b.id ∧
            b'.store = b.store ++ [j.id] ∧ ∃ j' ∈ s'.jobs, j'.id = j.id ∧ j'.loc = b.id)) := by
  obtain ⟨j, cur, pick, drop, tc, outs, b1, b2, h1, h2, h3, h4, _, _, _, hcase⟩ := transitToOutage_spec h
  refine ⟨j, cur, pick, drop, h1, h2, h3, h4, ?_, ?_⟩
  · refine ⟨t.toOutage j.id b1 outs (s.time + occupiedFor outs) drop, ?_, rfl, rfl, rfl, rfl, rfl⟩
    rcases hcase with ⟨mid, ms, _, _, _, _, rfl⟩ | ⟨bid, b, _, _, _, _, rfl⟩ <;>
      exact replaceTransport_mem ht rfl
  · rcases hcase with ⟨mid, ms, e1, hms, e2, _, rfl⟩ | ⟨bid, b, e1, hb, e2, _, rfl⟩
    · left
      subst e2
      refine ⟨ms, hms, e1, ms.withPre j.id b2, ?_, rfl, rfl, j.at ms.pre.id, ?_, rfl, rfl⟩
      · exact replaceMachine_mem hms rfl
      · exact replaceJob_mem h1 rfl
    · right
      subst e2
      refine ⟨b, hb, e1, b.withBack j.id b2, ?_, rfl, rfl, j.at b.id, ?_, rfl, rfl⟩
      · exact replaceBuffer_mem hb rfl
      · exact replaceJob_mem h1 rfl

/-- **Arrival on time.**  In every state of every execution a busy AGV's arrival / waiting time
is not in the past; the timed transition that ends its phase is created only when that time has
been reached – hence exactly then. -/
theorem c07_arrival_on_time {cfg : SMConfig} {s0 σ : State} (hst : Start orc inst s0)
    (h : OccursA orc inst cfg s0 σ) {t : TransportState} (ht : t ∈ σ.transports) (hb : t.st ≠ .idle)
    {o : Int} (ho : t.occ = .at o) :
    σ.time ≤ o ∧ (∀ tr, timedTransport inst σ t = .ok (some tr) → o = σ.time) := by
  obtain ⟨_, _, hS⟩ := occursA_inv hst h
  have hle := hS.agvPending t ht hb o ho
  refine ⟨hle, ?_⟩
  intro tr hc
  rcases timedTransport_ok hc with ⟨b, j, hocc, _⟩ | ⟨o', hocc, hle', _⟩
  · rw [ho] at hocc; cases hocc
  · rw [ho] at hocc
    cases hocc
    omega

/-- **Where a claimed job is taken.**  In every state the environment exposes, an AGV that has
claimed a job is routed to the machine of that job's next idle operation, or – exactly when no
operation of the job is idle any more – to the output buffer; and the job an AGV carries is the
job it claimed. -/
theorem c07_route_destination {ec : EnvCfg} {st : RewardStatic} {s0 σ : State} (hst : Start orc inst s0)
    (h : Exposed orc inst ec st s0 σ) (t : TransportState) (ht : t ∈ σ.transports) (j : JobState) (hj : j ∈ σ.jobs)
    (hc : t.job = some j.id) :
    (∃ cur pick drop, t.loc = .route cur pick drop ∧
      ((j.noOpIdle = true ∧ ∃ o, firstOutput inst = .ok o ∧ drop = .b o) ∨
       (j.noOpIdle = false ∧ ∃ op, j.nextIdle? = some op ∧ drop = .m op.machine))) ∧
    (t.st = .transit → t.buffer.store = [j.id]) := by
  have hR := exposed_route hst h
  have hA := exposed_agv hst h
  refine ⟨hR.route t ht j.id hc j hj rfl, ?_⟩
  intro hst'
  obtain ⟨j', _, hstore⟩ := hA.holds t ht hst'
  have := hR.transitOwn t ht hst' j'.id (by rw [hstore]; simp)
  rw [hc] at this
  simp at this
  rw [hstore, this]

/-- **An operation never starts earlier than its predecessor's end plus the travel time between
the two machines.**  In every state an episode exposes (reset, then any agent actions; sub-states
and the post-state of every applied transition included): for consecutive operations `a`, `b` of a
job, `a` finished at `e`, `b` started at `x` (its setup, once it is processed its processing), and
a constant travel time `d` configured from `a`'s machine to `b`'s machine – the matrix entry for the
direction actually travelled – `e + d ≤ x`.  (Proved from the invariant that, before `b` starts, the
job lies in the post-buffer of `a`'s machine, or on an AGV that arrives no earlier than `e + d`, or
in the pre-buffer of `b`'s machine at a time no earlier than `e + d`: `Inv/Travel.lean`.) -/
theorem c07_start_after_predecessor_plus_travel {ec : EnvCfg} {st : RewardStatic} {s0 σ : State} (hst : Start orc inst s0)
    (h : Exposed orc inst ec st s0 σ) (j : JobState) (hj : j ∈ σ.jobs) (a b : OpState) (l1 l2 : List OpState)
    (hadj : j.ops = l1 ++ a :: b :: l2) (ha : a.st = .done) (e : Int) (he : a.stop = some e) (d : Int)
    (hd : travelCfg inst (.m a.machine) (.m b.machine) = some (.det d)) (hb : b.st ≠ .idle) (x : Int)
    (hx : b.start = some x) : e + d ≤ x := by
  obtain ⟨_, _, hk⟩ := exposed_travel_at hst h hj ⟨l1, l2, hadj⟩ ha he hd hb hx
  exact hk

/-- non-vacuity: the example instance has a constant travel time between its machines -/
example : travelCfg Ex.inst (.m 0) (.m 1) = some (.det 2) := by decide

/-- the same for a **stochastic** travel entry: the gap is at least one of the object's samples
`orc sid k` for some `k ≥ 1`; which `k` is not part of the statement (that it is the value drawn by
the `update()` at pickup is `c07_transit_time`) -/
theorem c07_start_after_predecessor_plus_sampled_travel {ec : EnvCfg} {st : RewardStatic} {s0 σ : State}
    (hst : Start orc inst s0) (h : Exposed orc inst ec st s0 σ) (j : JobState) (hj : j ∈ σ.jobs) (a b : OpState)
    (l1 l2 : List OpState) (hadj : j.ops = l1 ++ a :: b :: l2) (ha : a.st = .done) (e : Int) (he : a.stop = some e)
    (sid : Nat) (hd : travelCfg inst (.m a.machine) (.m b.machine) = some (.stoch sid)) (hb : b.st ≠ .idle) (x : Int)
    (hx : b.start = some x) : ∃ k, 1 ≤ k ∧ e + orc sid k ≤ x :=
  exposed_travel_at hst h hj ⟨l1, l2, hadj⟩ ha he hd hb hx

end JSL
