import JSL.Inv.ClassicIfaceE
import JSL.Inv.ClassicSteer
import JSL.Props.C06Global

/-!
# C06, global half, with early dispatch (the default configuration)

The default configuration of the environment dispatches early (`allowEarly = true`) and, when the
document has no logistics section, the compiler creates as many AGVs as there are jobs.  The
theorems of `C06Global.lean` hold in that setting too – in fact for ANY value of `allowEarly` – when
the hypothesis `allowEarly = false` is replaced by **at least as many AGVs as jobs**
(`ClassicRunEarly.agvs : inst.jobs.length ≤ inst.transports.length`; with fewer AGVs and early
dispatch the optimum can be missed: `ExE.early_dispatch_at_least_six` in `C06EarlyDispatch.lean`, for
one instance and the decision tree `ExE.search` from `reset` with one fixed seed).  The fuel bound becomes
`6·#machines + 11·#AGVs + 2`.

What changes inside: the teleport pass at the beginning of a step also sends AGVs to RUNNING jobs; such
an AGV waits (WAITINGPICKUP, `occupied_till` = the end of the running operation) and carries the job
to its next machine by itself when the operation ends.  So at a decision point an AGV is idle or
waits for a running job (`c06_classic_settled_early`), and "every AGV is idle" is replaced by "a
waiting job always finds an idle AGV" (pigeonhole: busy AGVs claim pairwise different running jobs).
The steering agent is the same: accept every dispatch (early ones included), accept a machine start
iff its target start is now, decline otherwise.
-/

namespace JSL

section

variable {orc : Oracle} {inst : Instance} {ec : EnvCfg} {st : RewardStatic} {s0 : State}

/-- **settledness with early dispatch**: at every decision point every AGV is idle (unclaimed, empty)
or waits, empty, for a running job until the end of its processing record, which lies ahead; every
machine is idle or working; and the invariants hold. -/
theorem c06_classic_settled_early (hR : ClassicRunEarly orc inst ec st s0) {e : EnvState}
    (h : EnvReach orc inst ec st s0 e) (hne : e.res.possible ≠ []) :
    (∀ t ∈ e.res.state.transports, (t.st = .idle ∧ t.job = none ∧ t.buffer.store = []) ∨
       (t.st = .waitingpickup ∧ t.buffer.store = [] ∧ ∃ j ∈ e.res.state.jobs, t.job = some j.id ∧ j.running = true ∧
          ∃ c, t.occ = .at c ∧ e.res.state.time < c ∧ ∃ o ∈ j.ops, o.st = .processing ∧ o.stop = some c)) ∧
    (∀ m ∈ e.res.state.machines, m.st = .idle ∨ m.st = .working) ∧
    BundleE inst e.res.state ∧ DurInv inst e.res.state :=
  classic_settled_any hR.toAny h hne

/-- **no `env.step` of a classic run with early dispatch ever raises** -/
theorem c06_classic_step_returns_early (hR : ClassicRunEarly orc inst ec st s0) {e : EnvState}
    (h : EnvReach orc inst ec st s0 e) (hd : e.done = false) (hs : e.res.success = true) (hj : 0 ≤ e.mw.joker)
    (a : AgentAct) (ha : a = .accept ∨ a = .decline) :
    ∃ out, envStep orc inst ec st e a = .ok out ∧ EnvReach orc inst ec st s0 out.env ∧
      out.env.res.success = true ∧ 0 ≤ out.env.mw.joker ∧ out.env.truncated = false ∧
      out.env.done = isDone inst out.env.res.state := by
  obtain ⟨out, hout, h1, h2, h4, h5, _⟩ :=
    hR.toAny.pass.stepReturns (cpassE_total_true hR.wf hR.nn hR.classic) hR.fuel h hd hs hj ha
  exact ⟨out, hout, EnvReach.step h hout, h1, by rw [h5]; exact hj, h2, h4⟩

theorem c06_classic_reset_returns_early (hR : ClassicRunEarly orc inst ec st s0) (r0 : Rng) :
    ∃ e0 mic, envReset orc inst ec s0 r0 = .ok (e0, mic) ∧ e0.res.success = true ∧ e0.done = false ∧
      0 ≤ e0.mw.joker :=
  hR.toAny.pass.resetReturns (cpassE_total_true hR.wf hR.nn hR.classic) hR.fuel r0

/-- **every event-aligned feasible schedule is reached exactly, with early dispatch** -/
theorem c06_target_reachable_early (hR : ClassicRunEarly orc inst ec st s0) {S : Nat → Nat → Int}
    (hT : TargetOK inst S) (r0 : Rng) :
    ∃ e0 mic acts e, envReset orc inst ec s0 r0 = .ok (e0, mic) ∧ envRun orc inst ec st e0 acts = .ok e ∧
      EnvReach orc inst ec st s0 e ∧ e.terminated = true ∧ e.truncated = false ∧
      planOf inst e.res.state = planOfTarget inst S ∧ e.res.state.time = targetMakespan inst S := by
  obtain ⟨e0, mic, acts, e, hreset, hrun, hreach, hterm, htrunc, hdone, t, hsync⟩ :=
    steer hR.start hR.classic hR.joker hR.numOps hR.jobs (stepIfaceG_early hR hT) r0
  exact ⟨e0, mic, acts, e, hreset, hrun, hreach, hterm, htrunc,
    target_of_steered hR.start hR.classic hR.jobs hT hreach hterm hdone hsync⟩

theorem c06_list_schedule_reachable_early (hR : ClassicRunEarly orc inst ec st s0) {π : List Nat}
    (hπ : ValidOrder inst π) (r0 : Rng) :
    ∃ e0 mic acts e, envReset orc inst ec s0 r0 = .ok (e0, mic) ∧ envRun orc inst ec st e0 acts = .ok e ∧
      EnvReach orc inst ec st s0 e ∧ e.terminated = true ∧ e.truncated = false ∧
      planOf inst e.res.state = planOfTarget inst (listStarts inst π) ∧
      e.res.state.time = targetMakespan inst (listStarts inst π) :=
  c06_target_reachable_early hR (listStarts_targetOK hR.wf hR.classic.posDur hπ) r0

/-- **C06 with early dispatch: the optimum is reachable** -/
theorem c06_optimum_reachable_early (hR : ClassicRunEarly orc inst ec st s0) (r0 : Rng) {p : Plan} {C : Int}
    (hf : FeasiblePlan p C) {orc' : Oracle} {r' : Rng} (hproj : p.proj = schedOf orc' r' inst) :
    ∃ e0 mic acts e, envReset orc inst ec s0 r0 = .ok (e0, mic) ∧ envRun orc inst ec st e0 acts = .ok e ∧
      EnvReach orc inst ec st s0 e ∧ e.terminated = true ∧ e.truncated = false ∧ e.res.state.time ≤ C ∧
      FeasiblePlan (planOf inst e.res.state) e.res.state.time := by
  have w := hR.wf
  obtain ⟨π, hπ, hT, hle⟩ := feasible_dominated_target w hR.classic.posDur hf hproj (Or.inr (allOps_ne_nil hR.classic hR.jobs))
  obtain ⟨e0, mic, acts, e, h1, h2, h3, h4, h5, h6, h7⟩ := c06_target_reachable_early hR hT r0
  refine ⟨e0, mic, acts, e, h1, h2, h3, h4, h5, by rw [h7]; exact hle, ?_⟩
  rw [h6, h7]
  exact targetOK_feasible w hT

end

namespace ExE2

def zeroTravel (locs : List Loc) : List ((Loc × Loc) × TimeCfg) :=
  locs.flatMap fun a => locs.map fun b => ((a, b), TimeCfg.det 0)

/-- `ExE.inst` of `C06EarlyDispatch.lean` with a second AGV: 3 machines, 2 jobs (job 0: 5 on m0;
job 1: 1 on m1, 1 on m2, 1 on m1), TWO AGVs -/
def inst : Instance :=
  { jobs := [{ id := 0, ops := [{ job := 0, idx := 0, machine := 0, dur := .det 5, tool := 0 }] },
             { id := 1, ops := [{ job := 1, idx := 0, machine := 1, dur := .det 1, tool := 0 },
                                { job := 1, idx := 1, machine := 2, dur := .det 1, tool := 0 },
                                { job := 1, idx := 2, machine := 1, dur := .det 1, tool := 0 }] }],
    travel := zeroTravel [.m 0, .m 1, .m 2, .b 20, .b 21],
    machines := [Ex.mc 0 0 1 2, Ex.mc 1 3 4 5, Ex.mc 2 6 7 8],
    buffers := [Ex.bc 20 Ex.big .input none, Ex.bc 21 Ex.big .output none],
    transports := [{ id := 0, type := .agv, outages := [], buf := Ex.bc 9 1 .component (some (.t 0)) },
                   { id := 1, type := .agv, outages := [], buf := Ex.bc 10 1 .component (some (.t 1)) }] }

def s0 : State :=
  { jobs := [{ id := 0, ops := [Ex.op 0 0 0], loc := 20 },
             { id := 1, ops := [Ex.op 1 0 1, Ex.op 1 1 2, Ex.op 1 2 1], loc := 20 }],
    time := 0,
    machines := [Ex.ms 0 0 1 2, Ex.ms 1 3 4 5, Ex.ms 2 6 7 8],
    transports := [{ st := .idle, id := 0, occ := .none, buffer := Ex.eb 9, loc := .at (.m 0), outages := [], job := none },
                   { st := .idle, id := 1, occ := .none, buffer := Ex.eb 10, loc := .at (.m 0), outages := [], job := none }],
    buffers := [{ id := 20, bss := .notEmpty, store := [0, 1] }, Ex.eb 21] }

def st : RewardStatic := { tmax := 100, lb := 1, numJobs := 2, numOps := 4 }

/-- the default configuration: early dispatch -/
def ec : EnvCfg := ⟨{ allowEarly := true }, { jokerInit := 1000, truncActive := false },
  { sparseBias := 1, denseBias := 1, truncBias := 1 }, 60⟩

theorem run : ClassicRunEarly ExT.orc0 inst ec st s0 where
  start := ⟨by decide +kernel, by decide +kernel, by decide +kernel, by decide +kernel, fun _ _ => Int.le_refl 0⟩
  classic := classicInstB_sound (by decide +kernel)
  startOK := by decide +kernel
  agvs := by decide
  trunc := rfl
  joker := by decide
  numOps := by decide
  norm := by decide
  fuel := by decide
  jobs := by decide

/-- with early dispatch and as many AGVs as jobs the optimum 5 is reached (list order `[0, 1, 1, 1]`) -/
example : ∃ e0 mic acts e, envReset ExT.orc0 inst ec s0 ExT.r0 = .ok (e0, mic) ∧
    envRun ExT.orc0 inst ec st e0 acts = .ok e ∧ e.terminated = true ∧ e.truncated = false ∧
    e.res.state.time = 5 := by
  obtain ⟨e0, mic, acts, e, h1, h2, _, h4, h5, _, h7⟩ :=
    c06_list_schedule_reachable_early run (π := [0, 1, 1, 1]) (by decide) ExT.r0
  refine ⟨e0, mic, acts, e, h1, h2, h4, h5, ?_⟩
  rw [h7]
  decide +kernel

end ExE2

/-- the two remaining guards the driver evaluates on every classic scenario (`K` line) are the
hypotheses `fuel` and `agvs` of `ClassicRunEarly` -/
theorem classicEarly_guards_eq (inst : Instance) (fuel : Nat) :
    (classicFuelEarlyB inst fuel = true ↔ 6 * inst.machines.length + 11 * inst.transports.length + 2 ≤ fuel) ∧
    (enoughAgvsB inst = true ↔ inst.jobs.length ≤ inst.transports.length) := by
  simp [classicFuelEarlyB, enoughAgvsB]

end JSL
