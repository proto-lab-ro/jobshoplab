import JSL.Inv.ClassicIface
import JSL.Inv.ClassicSteer
import JSL.Inv.ClassicStamp
import JSL.Inv.ReachListPlan
import JSL.Props.ExampleClassic
import JSL.Props.C06

/-!
# C06, global half: for classic job-shop instances the optimum is reachable through accept / decline

**Class.**  `classicInstB inst` (`JSL/Model/Classic.lean`, propositional form `Classic inst`): every
buffer FLEX, capacities that never block, at least one transport and every transport an AGV, the
travel matrix answers the constant 0 between any two places, no outages, every setup entry the
constant 0 (with the tables total where the handlers read them: `tablesTotalB`), buffers owned as the
compiler makes them, every duration a positive constant, every job has an operation.

**Run hypotheses** (`ClassicRun`): the `Start` guards (jobs neither in pre-buffers nor in output buffers, machines and
AGVs at rest), `classicStartB` (tables ready for the initial state, AGVs parked at places of the shop,
clock 0), `allowEarly = false` (dispatches are offered for jobs that are ready for pickup only – with
early dispatch and fewer AGVs than jobs the optimum can be missed: `ExE.early_dispatch_at_least_six` in
`C06EarlyDispatch.lean`, for one instance and the decision tree `ExE.search` from `reset` with one
fixed seed; with at least as many AGVs as jobs see `C06GlobalEarly.lean`), truncation inactive, a non-negative allowance, `numOps ≠ 0` and `tmax ≠ lb` (the reward divides by them), at
least one job, and fuel `≥ 3·#machines + 5·#AGVs + 2` for the timed loop of one `state.step`.

**Statements.**
* `c06_classic_step_returns`, `c06_classic_reset_returns` – in a classic run **no `env.step` ever
  raises** (accept or decline, whatever the agent did before); the episode is never truncated.
* `c06_dispatch_completes` (Stage B), `c06_decline_all_advances` (Stage C).
* `c06_classic_settled` (Stage A) – at every decision point every AGV is idle, unclaimed and empty and
  every busy machine is WORKING (never caught in SETUP or OUTAGE), and the classic invariant holds.
* `c06_target_reachable` (Stage D) – **every event-aligned feasible schedule `S` is reached exactly**:
  some list of accept / decline decisions runs without an exception, ends terminated and not
  truncated, the recorded schedule is `S` and the reported makespan (the final clock) is that of `S`.
* `c06_list_schedule_reachable` – in particular every list schedule.
* `c06_optimum_reachable` – for every feasible schedule of the instance with makespan at most `C`
  some decision list ends terminated with makespan `≤ C` and a recorded schedule that is itself
  feasible.  (For "the minimum over episodes is the optimum" one also needs that the recorded
  schedule of *every* terminated episode is feasible: `feasiblePlan_of_state`, as used in
  `c06_env_makespan_at_least_bound`; not restated here.)
-/

namespace JSL

section

variable {orc : Oracle} {inst : Instance} {ec : EnvCfg} {st : RewardStatic} {s0 : State}

/-- **Stage A – settledness.**  At every decision point of every episode of a classic run: every
AGV is idle, claims nothing and carries nothing; every machine is idle or working (a machine is never
caught in SETUP or OUTAGE: both take no time); and the full AGV invariant, readiness of the tables,
the classic invariant `CInv` and the duration invariant hold. -/
theorem c06_classic_settled (hR : ClassicRun orc inst ec st s0) {e : EnvState} (h : EnvReach orc inst ec st s0 e)
    (hne : e.res.possible ≠ []) :
    (∀ t ∈ e.res.state.transports, t.st = .idle ∧ t.job = none ∧ t.buffer.store = []) ∧
    (∀ m ∈ e.res.state.machines, m.st = .idle ∨ m.st = .working) ∧
    Bundle inst e.res.state ∧ DurInv inst e.res.state :=
  classic_settled hR h hne

/-- **No `env.step` of a classic run ever raises** – neither an exception of the state machine nor
running out of fuel – whatever the agent answers (accept or decline) in whatever state of whatever
episode; the result is successful, the episode is not truncated, and the returned environment state
again satisfies the hypotheses (so this iterates along every decision sequence until the shop is
finished). -/
theorem c06_classic_step_returns (hR : ClassicRun orc inst ec st s0) {e : EnvState} (h : EnvReach orc inst ec st s0 e)
    (hd : e.done = false) (hs : e.res.success = true) (hj : 0 ≤ e.mw.joker) (a : AgentAct)
    (ha : a = .accept ∨ a = .decline) :
    ∃ out, envStep orc inst ec st e a = .ok out ∧ EnvReach orc inst ec st s0 out.env ∧
      out.env.res.success = true ∧ 0 ≤ out.env.mw.joker ∧ out.env.truncated = false ∧
      out.env.done = isDone inst out.env.res.state := by
  obtain ⟨out, hout, h1, h2, h4, h5, _⟩ :=
    hR.pass.stepReturns (cpass_total_true hR.wf hR.nn hR.classic hR.early).toR hR.fuel h hd hs hj ha
  exact ⟨out, hout, EnvReach.step h hout, h1, by rw [h5]; exact hj, h2, h4⟩

/-- … and `reset` returns, successfully, with the episode open -/
theorem c06_classic_reset_returns (hR : ClassicRun orc inst ec st s0) (r0 : Rng) :
    ∃ e0 mic, envReset orc inst ec s0 r0 = .ok (e0, mic) ∧ e0.res.success = true ∧ e0.done = false ∧
      0 ≤ e0.mw.joker :=
  hR.pass.resetReturns (cpass_total_true hR.wf hR.nn hR.classic hR.early).toR hR.fuel r0

/-- **Stage B – a dispatch can always be completed.**  Accepting a dispatch at the head of the offers
returns, starts no operation, does not truncate, and – if the episode goes on – leaves the
environment at a decision point where again every AGV is idle, unclaimed and empty: the transport
(pickup, transit, delivery) was carried out completely inside the step. -/
theorem c06_dispatch_completes (hR : ClassicRun orc inst ec st s0) {e : EnvState} (h : EnvReach orc inst ec st s0 e)
    (hd : e.done = false) (hs : e.res.success = true) (hj : 0 ≤ e.mw.joker) {tr : Transition} {rest : List Transition}
    (hp : e.res.possible = tr :: rest) (hdisp : tr.new = .t .working) :
    ∃ out, envStep orc inst ec st e .accept = .ok out ∧ out.env.truncated = false ∧
      NoStartSince e.res.state out.env.res.state ∧
      (out.env.done = false → out.env.res.possible ≠ [] ∧
        ∀ t ∈ out.env.res.state.transports, t.st = .idle ∧ t.job = none ∧ t.buffer.store = []) := by
  obtain ⟨out, hout, hs', e2, e4, _, hrun⟩ :=
    hR.pass.stepReturns (cpass_total_true hR.wf hR.nn hR.classic hR.early).toR hR.fuel h hd hs hj (Or.inl rfl)
  have hne : e.res.possible ≠ [] := by rw [hp]; simp
  obtain ⟨hI, hS, _⟩ := hR.pass.live h hne
  have hl := (envReach_inv hR.start h).live hne
  have htr : tr ∈ e.res.possible := by rw [hp]; simp
  have hsm : smStep orc inst ec.sm ec.fuel e.res.state e.rng { transitions := [tr], noOp := false, tm := .jumpToEvent } =
      .ok (out.env.res, out.env.rng, out.micro) := by
    rcases hrun with ⟨_, _, _, hdec, _⟩ | ⟨act, ⟨_, rfl⟩ | ⟨hdec, _⟩, hsm⟩
    · cases hdec
    · rw [hp] at hsm; exact hsm
    · cases hdec
  have hadmA : Admissible { transitions := [tr], noOp := false, tm := .jumpToEvent } :=
    ⟨fun x hx => by simp at hx; subst hx; exact hl.2 x htr, by simp⟩
  have hns : NoSetup ({ transitions := [tr], noOp := false, tm := .jumpToEvent } : Action).transitions := by
    intro x hx
    simp at hx; subst hx
    rw [hdisp]; simp
  have hno := (smStep_starts_nothing hR.wf hR.nn (preFlex_of_classic hR.classic) hI hS hadmA hns hsm).1
  refine ⟨out, hout, e2, hno, fun hdone => ?_⟩
  have hne' := envReach_offers hR.start hR.classic hR.jobs (EnvReach.step h hout) hdone hs'
  exact ⟨hne', (classic_settled hR (EnvReach.step h hout) hne').1⟩

/-- **Stage C – declining everything moves the clock to the earliest end of a running operation.**
Declining the last offer returns, starts nothing, and the forced jump it performs goes to a time `t`
strictly after now that is the end of a running operation and not later than the end of any running
operation (or `now + 1` when nothing runs); the clock of the returned state is at least `t`. -/
theorem c06_decline_all_advances (hR : ClassicRun orc inst ec st s0) {e : EnvState} (h : EnvReach orc inst ec st s0 e)
    (hd : e.done = false) (hs : e.res.success = true) (hj : 0 ≤ e.mw.joker) {tr : Transition}
    (hp : e.res.possible = [tr]) :
    ∃ out t, envStep orc inst ec st e .decline = .ok out ∧ out.env.truncated = false ∧
      NoStartSince e.res.state out.env.res.state ∧ forceJump e.res.state = .ok t ∧ e.res.state.time < t ∧
      (out.env.done = false → t ≤ out.env.res.state.time) ∧
      ((∃ j ∈ e.res.state.jobs, ∃ o ∈ j.ops, o.st = .processing ∧ o.stop = some t ∧
          ∀ j' ∈ e.res.state.jobs, ∀ o' ∈ j'.ops, o'.st = .processing → ∀ b, o'.stop = some b → t ≤ b) ∨
       ((∀ j ∈ e.res.state.jobs, ∀ o ∈ j.ops, o.st ≠ .processing) ∧ t = e.res.state.time + 1)) := by
  obtain ⟨out, hout, hs', e2, e4, _, hrun⟩ :=
    hR.pass.stepReturns (cpass_total_true hR.wf hR.nn hR.classic hR.early).toR hR.fuel h hd hs hj (Or.inr rfl)
  have hne : e.res.possible ≠ [] := by rw [hp]; simp
  obtain ⟨hI, hS, _⟩ := hR.pass.live h hne
  have hsm : smStep orc inst ec.sm ec.fuel e.res.state e.rng { transitions := [], noOp := true, tm := .forceJump } =
      .ok (out.env.res, out.env.rng, out.micro) := by
    rcases hrun with ⟨_, _, _, _, hp', _⟩ | ⟨act, ⟨hacc, _⟩ | ⟨_, _, rfl⟩, hsm⟩
    · rw [hp] at hp'; simp at hp'
    · cases hacc
    · exact hsm
  have hidle := (classic_settled hR h hne).1
  have hadmA : Admissible { transitions := [], noOp := true, tm := .forceJump } :=
    ⟨fun x hx => by simp at hx, by simp⟩
  have hno := (smStep_starts_nothing hR.wf hR.nn (preFlex_of_classic hR.classic) hI hS hadmA
    (by simp; exact NoSetup.nil) hsm).1
  obtain ⟨t, ht⟩ := forceJump_total hS (fun x hx hb => absurd (hidle x hx).1 hb)
  have hlt := c12_forced_jump_strict hR.start h hne ht
  obtain ⟨_, hmin, _, hcase⟩ := c12_jump_exact hS ht
  refine ⟨out, t, hout, e2, hno, ht, hlt, fun hdone => ?_, ?_⟩
  · have hnd : isDone inst out.env.res.state = false := by rw [← e4]; exact hdone
    have hrd : out.env.res.done = false := by
      rcases (smStep_spec hsm).2 with h1 | h1 | h1
      · exact h1.2.1
      · rw [hnd] at h1; cases h1.2.2.2
      · exact h1.2.1
    obtain ⟨p, t', hp', ht', hle⟩ := (smStep_clock hR.wf hR.nn hI hS hadmA hsm).2.2.2.2 hs' hrd
    have hps := process_nil_state hp'
    rw [hps] at ht'
    simp only [runTimeMachine] at ht'
    rw [ht] at ht'
    cases ht'
    exact hle
  · rcases hcase with ⟨j, hjm, o, ho, hst, hstop⟩ | ⟨x, hx, hb, _⟩ | ⟨h1, _, h3⟩
    · exact Or.inl ⟨j, hjm, o, ho, hst, hstop, hmin⟩
    · exact absurd (hidle x hx).1 hb
    · exact Or.inr ⟨h1, h3⟩

/-- **Stage D – every event-aligned feasible schedule is reached exactly.**  For a classic run and a
target schedule `S` (`TargetOK`: feasible, every start 0 or the end of an operation) there is a list
of accept / decline decisions such that `reset` followed by these decisions never raises, ends in an
environment state that is terminated and not truncated, whose recorded schedule is `S` and whose
clock – the makespan `env.step` reports with `terminated` – is the makespan of `S`. -/
theorem c06_target_reachable (hR : ClassicRun orc inst ec st s0) {S : Nat → Nat → Int} (hT : TargetOK inst S) (r0 : Rng) :
    ∃ e0 mic acts e, envReset orc inst ec s0 r0 = .ok (e0, mic) ∧ envRun orc inst ec st e0 acts = .ok e ∧
      EnvReach orc inst ec st s0 e ∧ e.terminated = true ∧ e.truncated = false ∧
      planOf inst e.res.state = planOfTarget inst S ∧ e.res.state.time = targetMakespan inst S := by
  obtain ⟨e0, mic, acts, e, hreset, hrun, hreach, hterm, htrunc, hdone, t, hsync⟩ :=
    steer hR.start hR.classic hR.joker hR.numOps hR.jobs ((stepIface hR hT).toG hR.start hR.classic) r0
  exact ⟨e0, mic, acts, e, hreset, hrun, hreach, hterm, htrunc,
    target_of_steered hR.start hR.classic hR.jobs hT hreach hterm hdone hsync⟩

/-- **every list schedule is reachable**: `π` a sequence of job ids in which every job occurs as often
as it has operations; the episode ends with the starts of `listStarts inst π` and its makespan -/
theorem c06_list_schedule_reachable (hR : ClassicRun orc inst ec st s0) {π : List Nat} (hπ : ValidOrder inst π)
    (r0 : Rng) :
    ∃ e0 mic acts e, envReset orc inst ec s0 r0 = .ok (e0, mic) ∧ envRun orc inst ec st e0 acts = .ok e ∧
      EnvReach orc inst ec st s0 e ∧ e.terminated = true ∧ e.truncated = false ∧
      planOf inst e.res.state = planOfTarget inst (listStarts inst π) ∧
      e.res.state.time = targetMakespan inst (listStarts inst π) :=
  c06_target_reachable hR (listStarts_targetOK hR.wf hR.classic.posDur hπ) r0

/-- **C06: the optimum is reachable.**  For every feasible schedule `p` of the instance
(`FeasiblePlan p C`, `p.proj = schedOf …`: the machines and durations are those of the instance) with
makespan at most `C`, some list of accept / decline decisions leads – without any exception – to a
terminated, not truncated episode whose reported makespan is at most `C`, and whose recorded schedule
is itself a feasible schedule of the instance. -/
theorem c06_optimum_reachable (hR : ClassicRun orc inst ec st s0) (r0 : Rng) {p : Plan} {C : Int}
    (hf : FeasiblePlan p C) {orc' : Oracle} {r' : Rng} (hproj : p.proj = schedOf orc' r' inst) :
    ∃ e0 mic acts e, envReset orc inst ec s0 r0 = .ok (e0, mic) ∧ envRun orc inst ec st e0 acts = .ok e ∧
      EnvReach orc inst ec st s0 e ∧ e.terminated = true ∧ e.truncated = false ∧ e.res.state.time ≤ C ∧
      FeasiblePlan (planOf inst e.res.state) e.res.state.time := by
  obtain ⟨π, hπ, hT, hle⟩ := feasible_dominated_target hR.wf hR.classic.posDur hf hproj (Or.inr (allOps_ne_nil hR.classic hR.jobs))
  obtain ⟨e0, mic, acts, e, h1, h2, h3, h4, h5, h6, h7⟩ := c06_target_reachable hR hT r0
  refine ⟨e0, mic, acts, e, h1, h2, h3, h4, h5, by rw [h7]; exact hle, ?_⟩
  rw [h6, h7]
  exact targetOK_feasible hR.wf hT

end

namespace ExC

def ec : EnvCfg := ⟨{ allowEarly := false }, { jokerInit := 1000, truncActive := false },
  { sparseBias := 1, denseBias := 1, truncBias := 1 }, 40⟩

theorem run : ClassicRun ExT.orc0 inst ec ExT.st Ex.s0 where
  start := ⟨initOK.1, initOK.2.1, initOK.2.2.1, initOK.2.2.2, fun _ _ => Int.le_refl 0⟩
  classic := classicInstB_sound classic
  startOK := startOK
  early := rfl
  trunc := rfl
  joker := by decide
  numOps := by decide
  norm := by decide
  fuel := by decide
  jobs := by decide

/-- the example instance is classic, `[0, 1, 0, 1]` is a list order for it with makespan 6 – so some
decision list ends the episode terminated with makespan 6 (which is the lower bound: the optimum) -/
example : ∃ e0 mic acts e, envReset ExT.orc0 inst ec Ex.s0 ExT.r0 = .ok (e0, mic) ∧
    envRun ExT.orc0 inst ec ExT.st e0 acts = .ok e ∧ e.terminated = true ∧ e.truncated = false ∧
    e.res.state.time = 6 := by
  obtain ⟨e0, mic, acts, e, h1, h2, _, h4, h5, _, h7⟩ :=
    c06_list_schedule_reachable run (π := [0, 1, 0, 1]) (by decide) ExT.r0
  refine ⟨e0, mic, acts, e, h1, h2, h4, h5, ?_⟩
  rw [h7]
  decide

end ExC

/-- the start guard the driver evaluates on every classic scenario is the one of `ClassicRun` -/
theorem classicStart_guard_eq : classicStartModelB = classicStartB := rfl

/-- … and so is the fuel guard -/
theorem classicFuel_guard_eq (inst : Instance) (fuel : Nat) :
    classicFuelB inst fuel = true ↔ 3 * inst.machines.length + 5 * inst.transports.length + 2 ≤ fuel := by
  simp [classicFuelB]

end JSL
