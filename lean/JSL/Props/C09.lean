import JSL.Inv.EnvReach
import JSL.Props.C02
import JSL.Inv.SetupSep

/-!
# C09 — sequence-dependent setup times are always paid, using the right matrix entry

* `c09_setup_paid` – IDLE → SETUP reads the machine's matrix at (mounted tool, tool of the new
  operation) – from-tool first – occupies the machine until now + that time and mounts the new
  tool; the value is the configured constant or, for a stochastic entry, its current sample;
* `c09_only_idle_accepts` – the transition table admits a new job on an IDLE machine only, so
  during setup (and processing, and outage) the machine is unavailable to every other job;
* `c09_processing_after_setup` – SETUP → WORKING is only created once the setup time is up
  (`c02_never_early`) and in every execution it then fires exactly at that instant
  (`c02_on_time`): processing starts exactly the setup time after the job was accepted.

Composed over whole episodes (`Inv/Setup*.lean`, invariant `SetupInvG` carried through every
handler): `c09_mounted_tool` (the mounted tool is the tool of the operation the machine processes /
processed last), `c09_setup_interval` (while a machine is in SETUP the record of the new operation
spans exactly the constant matrix entry (tool of the last operation → tool of the new one)), and
**`c09_consecutive_operations_separated`** – the "so" of the property: consecutive finished
operations of one machine are separated by at least the setup time, read from-tool → to-tool.
-/

namespace JSL

variable {orc : Oracle} {inst : Instance}

/-- the value `.time; update()` yields: the configured constant or the current sample -/
def TimeCfg.sampleCur (orc : Oracle) (r : Rng) : TimeCfg → Int
  | .det t => t
  | .stoch sid => orc sid (r sid)

theorem readUpd_fst (c : TimeCfg) (r : Rng) : (c.readUpd orc r).1 = c.sampleCur orc r := by
  cases c <;> rfl

/-- **Setup is paid, from-tool → to-tool.** -/
theorem c09_setup_paid {s s' : State} {r r' : Rng} {tr : Transition} {m : MachineState}
    (hm : m ∈ s.machines) (h : handleMachineIdleToSetup orc inst s r tr m = .ok (s', r')) :
    ∃ (j : JobState) (op : OpState) (oc : OpCfg) (mc : MachineCfg) (c : TimeCfg),
      j ∈ s.jobs ∧ tr.job = some j.id ∧ j.id ∈ m.pre.store ∧ j.nextNotDone? = some op ∧
      oc ∈ inst.jobs.flatMap (·.ops) ∧ oc.job = op.job ∧ oc.idx = op.idx ∧
      mc ∈ inst.machines ∧ mc.id = m.id ∧
      mc.setup.lookup (m.tool, oc.tool) = some c ∧
      ∃ m' ∈ s'.machines, m'.id = m.id ∧ m'.st = .setup ∧ m'.tool = oc.tool ∧
        m'.occ = some (s.time + c.sampleCur orc r) ∧ m'.buffer.store = m.buffer.store ++ [j.id] := by
  obtain ⟨j, op, oc, mc, sd, b1, b2, h1, h2, h3, h4, h5, h6, h7, h8, h9, _, ⟨c, hc, hsd⟩, hs'⟩ := idleToSetup_spec h
  have hd : sd = c.sampleCur orc r := by
    have := congrArg Prod.fst hsd; simp only at this; rw [this, readUpd_fst]
  subst hd
  refine ⟨j, op, oc, mc, c, h1, h2, h3, h4, h5, h6, h7, h8, h9, hc,
    m.toSetup j.id b1 b2 (s.time + c.sampleCur orc r) oc.tool, ?_, rfl, rfl, rfl, rfl, rfl⟩
  subst hs'
  exact replaceMachine_mem hm rfl

/-- only an IDLE machine accepts a job: from SETUP, WORKING and OUTAGE the table admits exactly
the next phase of the cycle, and the transition into SETUP exists from IDLE only -/
theorem c09_only_idle_accepts (a : MSt) : machineValid a .setup = true ↔ a = .idle := by
  cases a <;> decide

/-- the setup phase ends exactly when the setup time is up: the SETUP → WORKING transition is
created only when due, and in every state of every execution a due machine is due exactly now,
so processing starts at (acceptance time + setup time) -/
theorem c09_processing_after_setup {cfg : SMConfig} {s0 σ : State} (hst : Start orc inst s0)
    (h : OccursA orc inst cfg s0 σ) {m : MachineState} (hm : m ∈ σ.machines) (hs : m.st = .setup)
    {tr : Transition} (ht : timedMachine inst σ.time m = .ok (some tr)) :
    m.occ = some σ.time ∧ tr.new = .m .working := by
  obtain ⟨_, _, hS⟩ := occursA_inv hst h
  have hb : m.st ≠ .idle := by rw [hs]; simp
  have hd := c02_never_early ht hb
  refine ⟨(c02_on_time hS hm hb hd).1, ?_⟩
  obtain ⟨_, ⟨ns, _, _, _, hns, _, hn, _⟩ | ⟨hidle, _⟩⟩ := timedMachine_ok ht
  · rw [hs] at hns
    cases hns
    exact hn
  · exact absurd hidle hb

/-- the mounted tool of a busy machine is the tool of the operation it works on; of an idle one
the tool of the operation it finished last -/
theorem c09_mounted_tool {ec : EnvCfg} {st : RewardStatic} {s0 σ : State} (hst : Start orc inst s0)
    (h : Exposed orc inst ec st s0 σ) {m : MachineState} (hm : m ∈ σ.machines) :
    (m.st ≠ .idle → ∀ b, ProcOn (recs σ) m.id b → toolOf inst b = some m.tool) ∧
    (m.st = .idle → ∀ p, LastDoneOn σ m.id p → toolOf inst p = some m.tool) :=
  have hM := (exposed_setup (f := id) hst h).mach m hm
  ⟨hM.mounted, fun hms p hp => hp.pick (Φ := fun q => toolOf inst q = some m.tool) (hM.mountedIdle hms p hp.1)⟩

/-- while a machine is in SETUP, the record of the new operation spans exactly the constant matrix
entry (tool of the operation finished last on it → tool of the new operation), and the machine is
occupied until then -/
theorem c09_setup_interval {ec : EnvCfg} {st : RewardStatic} {s0 σ : State} (hst : Start orc inst s0)
    (h : Exposed orc inst ec st s0 σ) {m : MachineState} (hm : m ∈ σ.machines) (hms : m.st = .setup)
    {b p : OpState} (hb : ProcOn (recs σ) m.id b) (hp : LastDoneOn σ m.id p) {d : Int} (hd : detSetup inst m.id p b d) :
    tE p ≤ tS b ∧ b.start = some (tS b) ∧ b.stop = some (tS b + d) ∧ m.occ = some (tS b + d) :=
  (setup_interval hst h hm hms hb hp hd).elim fun _ hk => hk

/-- **Consecutive operations on one machine are separated by at least the setup time**, the matrix
read from-tool → to-tool: in every state an episode exposes, for finished operations `a`, `b` of one
machine, `a` ending no later than `b` starts (one of them of positive length), with no third finished
operation of that machine in between, and a constant entry `d` at (tool of `a`, tool of `b`):
`end(a) + d ≤ start(b)`. -/
theorem c09_consecutive_operations_separated {ec : EnvCfg} {st : RewardStatic} {s0 σ : State} (hst : Start orc inst s0)
    (h : Exposed orc inst ec st s0 σ)
    {ja jb : JobState} (hja : ja ∈ σ.jobs) (hjb : jb ∈ σ.jobs) {a b : OpState} (ha : a ∈ ja.ops) (hb : b ∈ jb.ops)
    (hda : a.st = .done) (hdb : b.st = .done) (hm : a.machine = b.machine)
    {sa ea sb eb : Int} (hsa : a.start = some sa) (hea : a.stop = some ea) (hsb : b.start = some sb) (heb : b.stop = some eb)
    (hab : ea ≤ sb) (hpos : sa < ea ∨ sb < eb)
    (hnone : ∀ jc ∈ σ.jobs, ∀ c ∈ jc.ops, c.st = .done → c.machine = b.machine → c ≠ a → c ≠ b →
      ∀ sc ec', c.start = some sc → c.stop = some ec' → ¬ (ea ≤ sc ∧ ec' ≤ sb))
    {mc : MachineCfg} (hmc : mc ∈ inst.machines) (hmcid : mc.id = b.machine)
    {ta tb : Nat} (hta : toolOf inst a = some ta) (htb : toolOf inst b = some tb)
    {d : Int} (hd : mc.setup.lookup (ta, tb) = some (.det d)) : ea + d ≤ sb :=
  (setup_separates hst h hja hjb ha hb hda hdb hm hsa hea hsb heb hab hpos hnone hmc hmcid hta htb hd).elim fun _ hk => hk

/-- the same separation for a **stochastic** setup entry: the gap is at least one of its samples -/
theorem c09_consecutive_operations_separated_sampled {ec : EnvCfg} {st : RewardStatic} {s0 σ : State} (hst : Start orc inst s0)
    (h : Exposed orc inst ec st s0 σ)
    {ja jb : JobState} (hja : ja ∈ σ.jobs) (hjb : jb ∈ σ.jobs) {a b : OpState} (ha : a ∈ ja.ops) (hb : b ∈ jb.ops)
    (hda : a.st = .done) (hdb : b.st = .done) (hm : a.machine = b.machine)
    {sa ea sb eb : Int} (hsa : a.start = some sa) (hea : a.stop = some ea) (hsb : b.start = some sb) (heb : b.stop = some eb)
    (hab : ea ≤ sb) (hpos : sa < ea ∨ sb < eb)
    (hnone : ∀ jc ∈ σ.jobs, ∀ c ∈ jc.ops, c.st = .done → c.machine = b.machine → c ≠ a → c ≠ b →
      ∀ sc ec', c.start = some sc → c.stop = some ec' → ¬ (ea ≤ sc ∧ ec' ≤ sb))
    {mc : MachineCfg} (hmc : mc ∈ inst.machines) (hmcid : mc.id = b.machine)
    {ta tb : Nat} (hta : toolOf inst a = some ta) (htb : toolOf inst b = some tb)
    {sid : Nat} (hd : mc.setup.lookup (ta, tb) = some (.stoch sid)) : ∃ k, ea + orc sid k ≤ sb :=
  setup_separates hst h hja hjb ha hb hda hdb hm hsa hea hsb heb hab hpos hnone hmc hmcid hta htb hd

end JSL
