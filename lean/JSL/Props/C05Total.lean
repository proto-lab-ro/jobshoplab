import JSL.Inv.TotalReset
import JSL.Props.C14

/-!
# C05 for a class of instances — every action the action space allows is handled

In general the property is false (`JSL/Props/C05.lean`: deliveries and releases into full buffers
raise, …).  Here it is **proved for a class of instances given by decidable guards**
(`totalClassB`, `JSL/Model/Roomy.lean`, evaluated by the driver):

* `tablesTotalB`, `readyB` – the tables are total where the two start handlers read them;
* `roomyTotB`        – the first output buffer and every pre- and post-buffer take all jobs, a machine's
                    internal buffer and an AGV's buffer take one job;
* `parentsTotB`      – `parent` of a stand-alone buffer is `None`, of a machine's buffers the machine;
* `agvOnlyB`      – there is a transport and every transport is an AGV;
* `routesB`       – the travel matrix has an entry from every pickup place to every place of delivery;
* `jobsHaveOpsB`, `hasJobsB` – there is a job and every job has an operation;
* `flexInstB`     – every buffer is unordered;
* `outShapeB`, `outRestB` – every configured outage has a record in the initial state, all inactive.

For every episode of such an instance (`Start`: the guards of all schedule theorems) and reward
parameters that cannot divide by zero:

* `c05_step_never_raises_in_class`   – in every environment state that is not done, the actions 0 and
  1 are handled: `env.step` returns, or the `while timed_transitions` loop of `state.step` runs out of
  fuel (the model of a loop that does not end; nothing else can happen);
* `c05_outside_action_rejected_in_class` – any other action raises exactly `ActionOutOfActionSpace`;
* `c05_reset_never_raises_in_class`  – the same for `reset`;
* `c05_no_step_fails_in_class`       – no step of an episode returns a failed result (no transition
  fails validation);
* `c05_state_step_never_raises_in_class` – the statement for `state.step` itself.

The class is inhabited (`ExT.instT`), and the examples at the end show, for each of `roomyTotB`,
`hasJobsB`, `outShapeB`, `outRestB`, `parentsTotB`, `flexInstB`, `jobsHaveOpsB`, `routesB` and `agvOnlyB`, an
instance that meets every other guard and raises (for `tablesTotalB` see `c05_tables_must_be_total`).
-/

namespace JSL

variable {orc : Oracle} {inst : Instance}

/-- what the decidable guard of the class says -/
theorem totalClassB_sound {s0 : State} (h : totalClassB inst s0 = true) :
    TotClass inst ∧ inst.jobs ≠ [] ∧ Ready inst s0 ∧ OutShape inst s0 ∧ outRestB s0 = true := by
  simp only [totalClassB, Bool.and_eq_true] at h
  obtain ⟨⟨⟨⟨h1, h2⟩, h3⟩, h4⟩, h5⟩ := h
  refine ⟨totalInstB_sound h1, ?_, readyB_sound h3, outShapeB_sound h4, h5⟩
  simpa [hasJobsB] using h2

theorem totP_of_guards {s0 : State} (hst : Start orc inst s0) (h : totalClassB inst s0 = true) : TotP inst s0 :=
  pb_totP_of_guards hst (totalClassPB_of_totalClassB h)

/-- **C05 in the class: `env.step` handles the actions 0 and 1.**  In every environment state of
every episode that is not done, the step returns – or the timed loop runs out of fuel. -/
theorem c05_step_never_raises_in_class {ec : EnvCfg} {st : RewardStatic} {s0 : State} (hst : Start orc inst s0)
    (hC : totalClassB inst s0 = true) (hops : st.numOps ≠ 0) (hspan : st.tmax - st.lb ≠ 0)
    (hbias : ec.rw.sparseBias ≠ 0) {e : EnvState} (h : EnvReach orc inst ec st s0 e) (hd : e.done = false)
    {a : AgentAct} (ha : a = .accept ∨ a = .decline) :
    (∃ out, envStep orc inst ec st e a = .ok out) ∨ envStep orc inst ec st e a = .error .outOfFuel := by
  obtain ⟨C, hJ, _⟩ := totalClassB_sound hC
  have H := stepTotal_of_class (cfg := ec.sm) hst C.toP (totP_of_guards hst hC) ec.fuel
  have hne := envReach_has_offer hst C.flex.pick C.toP.hasAgv H (resetLive_of_preFlex hst C.jobsOps C.flex.preFlex hJ) h hd
  exact (envStep_of_stepTotal hst C.flex.pick C.toP.hasAgv H ⟨hops, hspan, hbias⟩ h hd hne ha).imp id And.right

/-- the same with the guards of the class listed one by one -/
theorem c05_step_never_raises_guards {ec : EnvCfg} {st : RewardStatic} {s0 : State} (hst : Start orc inst s0)
    (hT : tablesTotalB inst = true) (hR : readyB inst s0 = true) (hroom : roomyTotB inst = true)
    (hpar : parentsTotB inst = true) (hagv : agvOnlyB inst = true) (hroutes : routesB inst = true)
    (hops' : jobsHaveOpsB inst = true) (hjobs : hasJobsB inst = true) (hflex : flexInstB inst = true)
    (hosh : outShapeB inst s0 = true) (hor : outRestB s0 = true)
    (hops : st.numOps ≠ 0) (hspan : st.tmax - st.lb ≠ 0) (hbias : ec.rw.sparseBias ≠ 0)
    {e : EnvState} (h : EnvReach orc inst ec st s0 e) (hd : e.done = false)
    {a : AgentAct} (ha : a = .accept ∨ a = .decline) :
    (∃ out, envStep orc inst ec st e a = .ok out) ∨ envStep orc inst ec st e a = .error .outOfFuel :=
  c05_step_never_raises_in_class hst (by simp [totalClassB, totalInstB, hT, hR, hroom, hpar, hagv, hroutes, hops', hjobs,
    hflex, hosh, hor]) hops hspan hbias h hd ha

/-- an environment state of an episode of the class that is not done holds an offer, its result is
successful and the shop is not finished -/
theorem c05_not_done_is_live_in_class {ec : EnvCfg} {st : RewardStatic} {s0 : State} (hst : Start orc inst s0)
    (hC : totalClassB inst s0 = true) {e : EnvState} (h : EnvReach orc inst ec st s0 e) (hd : e.done = false) :
    e.res.possible ≠ [] ∧ e.res.success = true ∧ isDone inst e.res.state = false := by
  obtain ⟨C, hJ, _⟩ := totalClassB_sound hC
  have H := stepTotal_of_class (cfg := ec.sm) hst C.toP (totP_of_guards hst hC) ec.fuel
  have hL : ResetLive orc inst ec s0 := resetLive_of_preFlex hst C.jobsOps C.flex.preFlex hJ
  exact ⟨envReach_has_offer hst C.flex.pick C.toP.hasAgv H hL h hd, envReach_live H hL h hd⟩

/-- in an environment state that is not done an action outside `Discrete(2)` raises exactly
`ActionOutOfActionSpace` -/
theorem c05_outside_action_rejected_in_class {ec : EnvCfg} {st : RewardStatic} {s0 : State} (hst : Start orc inst s0)
    (hC : totalClassB inst s0 = true) {e : EnvState} (h : EnvReach orc inst ec st s0 e) (hd : e.done = false) :
    envStep orc inst ec st e .outside = .error .actionOutOfSpace :=
  c14_reject e hd (c05_not_done_is_live_in_class hst hC h hd).1

/-- **`state.step` does not raise and does not fail** from any state of an execution of the
environment, with any action the middleware can submit -/
theorem c05_state_step_never_raises_in_class {cfg : SMConfig} {s0 s : State} (hst : Start orc inst s0)
    (hC : totalClassB inst s0 = true) (h : OccursF orc inst cfg s0 s) {a : Action} (ha : Admissible a)
    (hadm : AdmOffer inst cfg s a) (fuel : Nat) (r : Rng) :
    (∃ res r' mic, smStep orc inst cfg fuel s r a = .ok (res, r', mic) ∧ res.success = true) ∨
      smStep orc inst cfg fuel s r a = .error .outOfFuel := by
  obtain ⟨C, _, _⟩ := totalClassB_sound hC
  exact (stepTotal_of_class hst C.toP (totP_of_guards hst hC) fuel h ha hadm r).imp id And.right

/-- **`reset` does not raise** -/
theorem c05_reset_never_raises_in_class {ec : EnvCfg} {s0 : State} (hst : Start orc inst s0)
    (hC : totalClassB inst s0 = true) (r : Rng) :
    (∃ out, envReset orc inst ec s0 r = .ok out) ∨ envReset orc inst ec s0 r = .error .outOfFuel := by
  obtain ⟨C, _, _⟩ := totalClassB_sound hC
  exact (envReset_of_stepTotal (stepTotal_of_class hst C.toP (totP_of_guards hst hC) ec.fuel) r).imp
    (fun ⟨e, mic, h, _⟩ => ⟨(e, mic), h⟩) And.right

/-- **no step of an episode of the class fails**: the result a step returns is a successful one (no
transition failed validation) -/
theorem c05_no_step_fails_in_class {ec : EnvCfg} {st : RewardStatic} {s0 : State} (hst : Start orc inst s0)
    (hC : totalClassB inst s0 = true) {e : EnvState} (h : EnvReach orc inst ec st s0 e) {a : AgentAct} {out : StepOut}
    (hs : envStep orc inst ec st e a = .ok out) : out.obsRes.success = true := by
  obtain ⟨C, _, _⟩ := totalClassB_sound hC
  exact no_step_fails hst (stepTotal_of_class hst C.toP (totP_of_guards hst hC) ec.fuel) h hs

namespace ExTot

/-- run a list of agent actions -/
def runActs (ins : Instance) : List AgentAct → EnvState → Except Err EnvState
  | [], e => .ok e
  | a :: as, e => do
    let out ← envStep ExT.orc0 ins ExT.ec ExT.st e a
    runActs ins as out.env

theorem runActs_reach {ins : Instance} {s0 : State} : ∀ (l : List AgentAct) {e e' : EnvState},
    EnvReach ExT.orc0 ins ExT.ec ExT.st s0 e → runActs ins l e = .ok e' → EnvReach ExT.orc0 ins ExT.ec ExT.st s0 e'
  | [], e, e', he, h => by simp [runActs] at h; subst h; exact he
  | a :: as, e, e', he, h => by
    simp only [runActs] at h
    obtain ⟨out, hout, h⟩ := except_bind_eq_ok h
    exact runActs_reach as (EnvReach.step he hout) h

/-- `reset`, the actions `acts`, then action `a` raises `err` in a state that is not done -/
def raisesAfter (ins : Instance) (s0 : State) (acts : List AgentAct) (a : AgentAct) (err : Err) : Bool :=
  match envReset ExT.orc0 ins ExT.ec s0 ExT.r0 with
  | .error _ => false
  | .ok (e, _) =>
    match runActs ins acts e with
    | .error _ => false
    | .ok e' => !e'.done && (match envStep ExT.orc0 ins ExT.ec ExT.st e' a with | .error x => x == err | .ok _ => false)

theorem raisesAfter_sound {ins : Instance} {s0 : State} {acts : List AgentAct} {a : AgentAct} {err : Err}
    (h : raisesAfter ins s0 acts a err = true) :
    ∃ e, EnvReach ExT.orc0 ins ExT.ec ExT.st s0 e ∧ e.done = false ∧ envStep ExT.orc0 ins ExT.ec ExT.st e a = .error err := by
  unfold raisesAfter at h
  split at h
  · cases h
  · rename_i e mic hreset
    split at h
    · cases h
    · rename_i e' hrun
      simp only [Bool.and_eq_true, Bool.not_eq_true'] at h
      refine ⟨e', runActs_reach acts (EnvReach.reset hreset) hrun, h.1, ?_⟩
      have h2 := h.2
      split at h2
      · rename_i x hx; simp at h2; rw [hx, h2]
      · cases h2

/-- `reset` raises `err` -/
def resetRaises (ins : Instance) (s0 : State) (err : Err) : Bool :=
  match envReset ExT.orc0 ins ExT.ec s0 ExT.r0 with
  | .error x => x == err
  | .ok _ => false

theorem resetRaises_sound {ins : Instance} {s0 : State} {err : Err} (h : resetRaises ins s0 err = true) :
    envReset ExT.orc0 ins ExT.ec s0 ExT.r0 = .error err := by
  unfold resetRaises at h
  split at h
  · rename_i x hx; simp at h; rw [hx, h]
  · cases h

/-- every guard of `Start` and of the class, one by one -/
def guardsOf (ins : Instance) (s0 : State) : List Bool :=
  [initOKB ins s0, restB s0, placedB ins s0, nonnegB ins, tablesTotalB ins, roomyTotB ins, parentsTotB ins, agvOnlyB ins,
   routesB ins, jobsHaveOpsB ins, flexInstB ins, hasJobsB ins, readyB ins s0, outShapeB ins s0, outRestB s0]

/-- **the class is inhabited**: the example instance with the completed travel matrix -/
theorem instT_in_class : totalClassB ExT.instT Ex.s0 = true := by decide +kernel

example : totalClassB ExT.instT Ex.s0 = true := instT_in_class

/-- … so every step of every episode of it returns or hangs -/
example {e : EnvState} (h : EnvReach ExT.orc0 ExT.instT ExT.ec ExT.st Ex.s0 e) (hd : e.done = false) :
    (∃ out, envStep ExT.orc0 ExT.instT ExT.ec ExT.st e .accept = .ok out) ∨
      envStep ExT.orc0 ExT.instT ExT.ec ExT.st e .accept = .error .outOfFuel :=
  c05_step_never_raises_in_class ExT.start_exT instT_in_class (by decide) (by decide) (by decide) h hd (Or.inl rfl)

/-! ### `roomyTotB` is needed: a pre-buffer that takes one job, two jobs routed to the machine -/

def mcPre1 (id pre post buf : Nat) : MachineCfg :=
  { Ex.mc id pre post buf with pre := Ex.bc pre 1 .component (some (.m id)) }

def instPre1 : Instance :=
  { ExT.instT with
    jobs := [{ id := 0, ops := [{ job := 0, idx := 0, machine := 0, dur := .det 3, tool := 0 },
                                { job := 0, idx := 1, machine := 1, dur := .det 2, tool := 0 }] },
             { id := 1, ops := [{ job := 1, idx := 0, machine := 0, dur := .det 4, tool := 0 },
                                { job := 1, idx := 1, machine := 1, dur := .det 1, tool := 0 }] }],
    machines := [mcPre1 0 0 1 2, Ex.mc 1 3 4 5] }

def s0Pre1 : State :=
  { Ex.s0 with jobs := [{ id := 0, ops := [Ex.op 0 0 0, Ex.op 0 1 1], loc := 7 },
                        { id := 1, ops := [Ex.op 1 0 0, Ex.op 1 1 1], loc := 7 }] }

/-- every guard but `roomyTotB` holds … -/
example : guardsOf instPre1 s0Pre1 =
    [true, true, true, true, true, false, true, true, true, true, true, true, true, true, true] := by decide +kernel

/-- … and a delivery into the full pre-buffer raises `BufferFullError` -/
theorem roomy_is_needed : ∃ e, EnvReach ExT.orc0 instPre1 ExT.ec ExT.st s0Pre1 e ∧ e.done = false ∧
    envStep ExT.orc0 instPre1 ExT.ec ExT.st e .decline = .error .bufferFull :=
  raisesAfter_sound (acts := [.accept, .decline, .accept, .decline]) (by decide +kernel)

/-! ### `hasJobsB` is needed: without a job `reset` leaves `done = False` and the first step raises -/

def instNoJob : Instance := { ExT.instT with jobs := [] }
def s0NoJob : State := { Ex.s0 with jobs := [], buffers := [Ex.eb 7, Ex.eb 8] }

example : guardsOf instNoJob s0NoJob =
    [true, true, true, true, true, true, true, true, true, true, true, false, true, true, true] := by decide +kernel

theorem a_job_is_needed : ∃ e, EnvReach ExT.orc0 instNoJob ExT.ec ExT.st s0NoJob e ∧ e.done = false ∧
    envStep ExT.orc0 instNoJob ExT.ec ExT.st e .accept = .error .invalidValue :=
  raisesAfter_sound (acts := []) (by decide +kernel)

/-! ### `outShapeB` is needed: an outage configured on machine 0 without a record in the state -/

def instOut : Instance :=
  { ExT.instT with machines := [{ Ex.mc 0 0 1 2 with outages := [{ id := 0, freq := .det 100, dur := .det 1 }] }, Ex.mc 1 3 4 5] }

example : guardsOf instOut Ex.s0 =
    [true, true, true, true, true, true, true, true, true, true, true, true, true, false, true] := by decide +kernel

theorem outage_records_are_needed : ∃ e, EnvReach ExT.orc0 instOut ExT.ec ExT.st Ex.s0 e ∧ e.done = false ∧
    envStep ExT.orc0 instOut ExT.ec ExT.st e .accept = .error .valueError :=
  raisesAfter_sound (acts := [.accept, .accept]) (by decide +kernel)

/-! ### `outRestB` is needed: the record of the outage of machine 0 is active in the initial state -/

def s0Act : State :=
  { Ex.s0 with machines := [{ Ex.ms 0 0 1 2 with outages := [{ id := 0, st := .active 0 5 }] }, Ex.ms 1 3 4 5] }

example : guardsOf instOut s0Act =
    [true, true, true, true, true, true, true, true, true, true, true, true, true, true, false] := by decide +kernel

theorem inactive_records_are_needed : ∃ e, EnvReach ExT.orc0 instOut ExT.ec ExT.st s0Act e ∧ e.done = false ∧
    envStep ExT.orc0 instOut ExT.ec ExT.st e .accept = .error .valueError :=
  raisesAfter_sound (acts := [.accept, .accept]) (by decide +kernel)

/-! ### `parentsTotB` is needed: the pre-buffer of machine 0 has no parent -/

def instPar : Instance :=
  { ExT.instT with machines := [{ Ex.mc 0 0 1 2 with pre := Ex.bc 0 Ex.big .component none }, Ex.mc 1 3 4 5] }

example : guardsOf instPar Ex.s0 =
    [true, true, true, true, true, true, false, true, true, true, true, true, true, true, true] := by decide +kernel

/-- the teleport filter asks for the travel time from the pre-buffer (taken for a stand-alone
buffer) to the machine: `NotImplementedError` -/
theorem parents_are_needed : ∃ e, EnvReach ExT.orc0 instPar ExT.ec ExT.st Ex.s0 e ∧ e.done = false ∧
    envStep ExT.orc0 instPar ExT.ec ExT.st e .accept = .error .notImplemented :=
  raisesAfter_sound (acts := [.accept, .decline]) (by decide +kernel)

/-! ### `flexInstB` is needed: ordered (FIFO) post-buffers, everything else as in `ExT.instT` -/

def toFifo (b : BufCfg) : BufCfg := { b with type := .fifo }

def instPostFifo : Instance :=
  { ExT.instT with machines := ExT.instT.machines.map (fun m => { m with post := toFifo m.post }) }

example : guardsOf instPostFifo Ex.s0 =
    [true, true, true, true, true, true, true, true, true, true, false, true, true, true, true] := by decide +kernel

/-- the offers run out although the shop is not finished and the episode not done; the next step
raises `InvalidValue` (`interpret` finds no transition to accept) -/
theorem unordered_buffers_are_needed : ∃ e, EnvReach ExT.orc0 instPostFifo ExT.ec ExT.st Ex.s0 e ∧ e.done = false ∧
    envStep ExT.orc0 instPostFifo ExT.ec ExT.st e .accept = .error .invalidValue :=
  raisesAfter_sound (acts := [.accept, .decline, .accept, .accept, .accept, .accept, .accept, .accept]) (by decide +kernel)

/-! ### `jobsHaveOpsB` and `routesB` are needed already for `reset` -/

def instNoOp : Instance := { ExT.instT with jobs := ExT.instT.jobs ++ [{ id := 2, ops := [] }] }
def s0NoOp : State :=
  { Ex.s0 with jobs := Ex.s0.jobs ++ [{ id := 2, ops := [], loc := 7 }],
               buffers := [{ id := 7, bss := .notEmpty, store := [0, 1, 2] }, Ex.eb 8] }

example : guardsOf instNoOp s0NoOp =
    [true, true, true, true, true, true, true, true, true, false, true, true, true, true, true] := by decide +kernel

/-- a job without operation: `reset` raises `NotImplementedError` (travel time buffer → buffer) -/
theorem operations_are_needed : envReset ExT.orc0 instNoOp ExT.ec s0NoOp ExT.r0 = .error .notImplemented :=
  resetRaises_sound (by decide +kernel)

def instNoRoute : Instance :=
  { ExT.instT with travel := ExT.instT.travel.filter (fun e => e.1 != (Loc.b 7, Loc.m 0)) }

example : guardsOf instNoRoute Ex.s0 =
    [true, true, true, true, true, true, true, true, false, true, true, true, true, true, true] := by decide +kernel

/-- no travel entry from the input buffer to machine 0: `reset` raises `NotImplementedError` -/
theorem routes_are_needed : envReset ExT.orc0 instNoRoute ExT.ec Ex.s0 ExT.r0 = .error .notImplemented :=
  resetRaises_sound (by decide +kernel)

/-! ### `agvOnlyB` is needed already for `reset`: without a transport the offers cannot be computed -/

def instNoTr : Instance := { ExT.instT with transports := [] }
def s0NoTr : State := { Ex.s0 with transports := [] }

example : guardsOf instNoTr s0NoTr =
    [true, true, true, true, true, true, true, false, true, true, true, true, true, true, true] := by decide +kernel

theorem a_transport_is_needed : envReset ExT.orc0 instNoTr ExT.ec s0NoTr ExT.r0 = .error .indexError :=
  resetRaises_sound (by decide +kernel)

end ExTot

end JSL
