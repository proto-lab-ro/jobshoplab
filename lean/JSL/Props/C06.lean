import JSL.Inv.PlanLemmas
import JSL.Inv.PlanOf
import JSL.Inv.EnvReach
import JSL.Props.Example
import JSL.Props.C19
import JSL.Inv.Fresh

/-!
# C06 — the lower bound never exceeds the makespan of any feasible schedule

`lowerBound` is the loop-faithful model of `utils.calculate_lower_bound` (Taillard's bound as the
code computes it).  For every instance in which no job visits a machine twice and no duration is
negative, and **every** feasible schedule of it – operations of a job in order from time 0 on, no
two operations of one machine overlapping – the bound is at most the makespan.  Hence it is at
most the optimum, and the normalised terminal reward never exceeds its nominal maximum.

The hypothesis "no job visits a machine twice" is needed: `c06_recirculation_breaks_bound`.

`c06_env_makespan_at_least_bound` closes the loop with the environment: the schedule recorded in
the state of **any terminated episode** (reset, then any agent actions) of an instance with
constant durations is such a feasible schedule with the reported makespan, so the action interface
admits no shortcut below the bound.  (That the optimum is *reached* by some accept/decline
sequence: for classic instances `c06_optimum_reachable` in `C06Global.lean` and
`c06_optimum_reachable_early` in `C06GlobalEarly.lean`; beyond that class it is the correspondence
side of C06: exhaustive decision trees against an independent optimum.)
-/

namespace JSL

/-- **C06: the lower bound the environment computes never exceeds the makespan of any feasible
schedule** of an instance without recirculation and without negative durations – in particular
not the optimal one. -/
theorem c06_lower_bound_sound {p : Plan} {C L : Int} (hf : FeasiblePlan p C)
    (hd : ∀ j ∈ p, ∀ x ∈ j, 0 ≤ x.dur) (hnd : ∀ j ∈ p, (j.map POp.mach).Nodup)
    (h : lowerBound p.proj = some L) : L ≤ C := by
  obtain ⟨hrect, per, mm, mj, hper, hmm, hmj, rfl⟩ := lowerBound_spec h
  -- `per` is non-empty, so there is at least one operation per job
  have hmem := maxOfList_mem hmm
  obtain ⟨μ, hμ, hval⟩ := option_mapM_mem hper mm hmem
  have hnm : 0 < nmOf p.proj := by
    have := List.mem_range.mp hμ; omega
  have hne : ∀ j ∈ p, j ≠ [] := by
    intro j hj e
    subst e
    have := hrect (PJob.proj []) (List.mem_map.mpr ⟨[], hj, rfl⟩)
    simp [PJob.proj] at this
    omega
  cases hb : bOf p.proj μ with
  | none => simp [hb] at hval
  | some b =>
    cases ha : aOf p.proj μ with
    | none => simp [hb, ha] at hval
    | some a =>
      simp [hb, ha] at hval
      have h1 := machine_bound hf hd hnd hne μ hb ha
      have h2 := job_bound hf hne hmj
      omega

/-- **C06, environment side: no terminated episode beats the bound.**  For an instance whose
durations are constants and in which no job visits a machine twice, started at a non-negative
time from a state at rest: whatever the agent does, the makespan reported with `terminated` is at
least the lower bound computed from the instance. -/
theorem c06_env_makespan_at_least_bound {orc : Oracle} {inst : Instance} {ec : EnvCfg} {st : RewardStatic}
    {s0 : State} (hst : Start orc inst s0) (h0 : 0 ≤ s0.time)
    (hdet : ∀ jc ∈ inst.jobs, ∀ oc ∈ jc.ops, ∃ d, oc.dur = .det d)
    (hnr : ∀ jc ∈ inst.jobs, (jc.ops.map (·.machine)).Nodup)
    {e : EnvState} (hr : EnvReach orc inst ec st s0 e) {a : AgentAct} {out : StepOut}
    (h : envStep orc inst ec st e a = .ok out) {C : Int} (hm : out.makespan = some C)
    {r : Rng} {L : Int} (hL : lowerBound (schedOf orc r inst) = some L) : L ≤ C := by
  have hi := envReach_inv hst (EnvReach.step hr h)
  obtain ⟨w, _⟩ := initOKB_sound hst.init
  have nn := nonnegB_sound hst.samples hst.nonneg
  have hx : Exposed orc inst ec st s0 out.env.res.state := Exposed.state (EnvReach.step hr h)
  -- the reported makespan is the clock of a successful, fully delivered result
  have hfin : out.env.res.success = true ∧ isDone inst out.env.res.state = true ∧ C = out.env.res.state.time := by
    obtain ⟨_, res', mw, r, mic, rew, cnt, _, _, rfl, _, rfl⟩ := envStep_ok h
    cases hs : res'.success with
    | false => simp [hs] at hm
    | true =>
      simp only [hs, if_true] at hm ⊢
      cases hd : isDone inst res'.state with
      | false => simp [hd] at hm
      | true => exact ⟨trivial, rfl, (Option.some.inj ((if_pos hd).symm.trans hm)).symm⟩
  obtain ⟨hsuc, hdone, rfl⟩ := hfin
  have hall : ∀ j ∈ out.env.res.state.jobs, ∀ o ∈ j.ops, o.st = .done :=
    isDone_all_done (exposed_route hst hx) hdone
  obtain ⟨t, hS⟩ := hi.sched
  have hF : Feasible inst out.env.res.state := Feasible.of_time (feasible_of_inv w (hi.struct.time t) hS)
  obtain ⟨hplan, hdur⟩ := feasiblePlan_of_state w hi.struct hS.ops hF hi.dur
    (fun j hj o ho a ha => Int.le_trans h0 (hi.starts j hj o ho (by rw [hall j hj o ho]; simp) a ha))
    hall hdet (fun jc hjc oc hoc d hd => nn.ops jc hjc oc hoc d hd)
    (C := out.env.res.state.time) (fun j hj o ho b hb => hi.stamp hsuc hdone j hj o ho (hall j hj o ho) b hb)
  have hproj := planOf_proj (orc := orc) w hi.struct.shape r hdet
  exact c06_lower_bound_sound hplan hdur (planOf_nodup_mach hi.struct.shape hnr) (by rw [hproj]; exact hL)

/-- **…so the normalised terminal reward never exceeds its nominal maximum**: when the reward factory
is given the computed bound (`st.lb`) and the bound is below the normalisation constant, the main
term `(T_max − makespan)/(T_max − LB)` of the reward of every terminated episode is at most 1. -/
theorem c06_terminal_reward_at_most_nominal {orc : Oracle} {inst : Instance} {ec : EnvCfg} {st : RewardStatic}
    {s0 : State} (hst : Start orc inst s0) (h0 : 0 ≤ s0.time)
    (hdet : ∀ jc ∈ inst.jobs, ∀ oc ∈ jc.ops, ∃ d, oc.dur = .det d)
    (hnr : ∀ jc ∈ inst.jobs, (jc.ops.map (·.machine)).Nodup)
    {e : EnvState} (hr : EnvReach orc inst ec st s0 e) {a : AgentAct} {out : StepOut}
    (h : envStep orc inst ec st e a = .ok out) {C : Int} (hm : out.makespan = some C)
    {r : Rng} (hL : lowerBound (schedOf orc r inst) = some st.lb) (hlt : st.lb < st.tmax) :
    sparseReward ec.rw st C true false = .ok (mainTerm st C) ∧ mainTerm st C ≤ 1 :=
  ⟨c19_terminal_value ec.rw st C (by omega),
   c19_le_one st hlt C (c06_env_makespan_at_least_bound hst h0 hdet hnr hr h hm hL)⟩

/-- non-vacuity of the environment theorem: the example instance meets every hypothesis and has a bound -/
example : initOKB Ex.inst Ex.s0 = true ∧ restB Ex.s0 = true ∧ placedB Ex.inst Ex.s0 = true ∧ nonnegB Ex.inst = true ∧
    0 ≤ Ex.s0.time ∧ (∀ jc ∈ Ex.inst.jobs, ∀ oc ∈ jc.ops, ∃ d, oc.dur = .det d) ∧
    (∀ jc ∈ Ex.inst.jobs, (jc.ops.map (·.machine)).Nodup) ∧
    lowerBound (schedOf (fun _ _ => 0) (fun _ => 0) Ex.inst) = some 6 := by
  refine ⟨by decide +kernel, by decide +kernel, by decide +kernel, by decide +kernel, by decide, ?_,
    by decide +kernel, by decide +kernel⟩
  have hdet : ∀ jc ∈ Ex.inst.jobs, ∀ oc ∈ jc.ops, oc.dur.isDetB = true := by decide +kernel
  intro jc hjc oc hoc
  have h := hdet jc hjc oc hoc
  cases hd : oc.dur with
  | det d => exact ⟨d, rfl⟩
  | stoch _ =>
    rw [hd] at h
    cases h

/-- the hypothesis "no job visits a machine twice" cannot be dropped: one job (m0,1)(m1,5)(m0,1)
run back to back has makespan 7, yet the code's bound is 8 (the tail `a_0` is taken after the
first visit of machine 0 while its last operation there ends the schedule) -/
theorem c06_recirculation_breaks_bound :
    ∃ (p : Plan) (C L : Int), FeasiblePlan p C ∧ (∀ j ∈ p, ∀ x ∈ j, 0 ≤ x.dur) ∧
      lowerBound p.proj = some L ∧ C < L :=
  ⟨[[(0, 1, 0), (1, 5, 1), (0, 1, 6)]], 7, 8, by decide +kernel, by decide, by decide +kernel, by decide⟩

/-- non-vacuity: a feasible schedule of a 2×2 instance and its bound -/
example : FeasiblePlan [[(0, 3, 0), (1, 2, 3)], [(1, 2, 0), (0, 4, 3)]] 7 ∧
    lowerBound (Plan.proj [[(0, 3, 0), (1, 2, 3)], [(1, 2, 0), (0, 4, 3)]]) = some 7 := by
  decide +kernel

/-!

## Reachability side: the local ingredients of "every schedule can be steered to through
accept / decline decisions"

At a decision point the environment holds a shop state and a list of offers.

* **T1** `c06_offers_are_the_startable_operations` – right after a state-machine step the machine
  starts on offer are exactly the startable operations of the state held: job not running, its first
  idle operation routed to an idle machine in whose pre-buffer the job stands.  In general the held
  list is that list minus the prefix already declined (`envReach_held_offers`).
* **T2** `c06_any_offer_can_be_chosen` – whatever is still on offer can be brought to the head by
  declining what stands in front of it: no transition is applied, shop state, update counters and
  allowance are untouched, the episode goes on.  Needed: the initial allowance is not negative
  (otherwise the very first decline truncates) and `numOps ≠ 0` (otherwise the dense reward divides
  by zero).
* **T3** `c06_only_an_accepted_start_starts` – for FLEX pre-buffers: a step that is not the acceptance
  of a machine start takes no operation record out of `IDLE`.  For ordered pre-buffers this is false
  (`c06_ordered_prebuffers_start_by_themselves`): machines then take their jobs themselves.
* **T4** `c06_accepted_start_starts_now` – accepting a machine start applies it first, to the state
  held, and the operation begins at the decision instant.
* `c06_startable_can_be_started_now` – the composition: at a fresh decision point every startable
  operation can be started at the current instant by a run of declines followed by one accept
  (provided that accept returns – its timed loop is where the recorded C05 findings lie).
-/

variable {orc : Oracle} {inst : Instance}

/-- **T1.**  At a fresh decision point of any episode: the machine start `(mid, jid)` is on offer iff
job `jid` is not running, its first idle operation is routed to machine `mid`, that machine is idle,
and the job stands in its pre-buffer. -/
theorem c06_offers_are_the_startable_operations {ec : EnvCfg} {st : RewardStatic} {s0 : State}
    (hst : Start orc inst s0) {e : EnvState} (hr : EnvReach orc inst ec st s0 e) (hne : e.res.possible ≠ [])
    (hf : FreshOffers inst ec e) (mid jid : Nat) :
    ({ comp := .m mid, new := .m .setup, job := some jid } : Transition) ∈ e.res.possible ↔
      ∃ j ∈ e.res.state.jobs, j.id = jid ∧ ∃ o m, StartableOp e.res.state j o m ∧ o.machine = mid := by
  obtain ⟨_, _, hS⟩ := occursA_inv hst ((envReach_inv hst hr).live hne).1
  exact machine_offer_iff_op hS hf mid jid

/-- **T2.**  Whatever is on offer can be chosen: `tr ∈ e.res.possible` is brought to the head by
declining the offers in front of it. -/
theorem c06_any_offer_can_be_chosen {ec : EnvCfg} {st : RewardStatic} {s0 : State} (hst : Start orc inst s0)
    (hj : 0 ≤ ec.mw.jokerInit) (hn : st.numOps ≠ 0) {e : EnvState} (hr : EnvReach orc inst ec st s0 e)
    (hd : e.done = false) {tr : Transition} (htr : tr ∈ e.res.possible) :
    ∃ k e' post, k < e.res.possible.length ∧ envDeclineN orc inst ec st k e = .ok (e', []) ∧
      EnvReach orc inst ec st s0 e' ∧ e'.done = false ∧ e'.res.state = e.res.state ∧
      e'.res.possible = tr :: post ∧ e'.rng = e.rng ∧ e'.mw.joker = e.mw.joker ∧ e'.mw.actCnt = e.mw.actCnt := by
  obtain ⟨k, hk, rfl⟩ := List.getElem_of_mem htr
  have hne : e.res.possible ≠ [] := List.ne_nil_of_length_pos (Nat.zero_lt_of_lt hk)
  have hc : CanDecline inst st e := ⟨hd, (envReach_inv hst hr).notDone hne, envReach_allowance hj hr hd, hn⟩
  obtain ⟨e', h1, e1, e2, e3, e4, e5, _, hc'⟩ := env_decline_prefix (orc := orc) (ec := ec) k hc hk
  exact ⟨k, e', _, hk, h1, envDeclineN_reach _ hr h1, hc'.notDone, e1, by rw [e2, List.drop_eq_getElem_cons hk],
    e3, e4, e5⟩

/-- **T3.**  With FLEX pre-buffers, a step of the environment that is not the acceptance of a machine
start starts no operation: every record that is not idle afterwards (in the state held, and right
after every transition applied inside the step) was not idle before. -/
theorem c06_only_an_accepted_start_starts {ec : EnvCfg} {st : RewardStatic} {s0 : State} (hst : Start orc inst s0)
    (hflex : PreFlex inst) {e : EnvState} (hr : EnvReach orc inst ec st s0 e) {a : AgentAct} {out : StepOut}
    (hk : a = .decline ∨ ∀ tr ∈ e.res.possible.head?, tr.new ≠ .m .setup)
    (h : envStep orc inst ec st e a = .ok out) :
    NoStartSince e.res.state out.env.res.state ∧ (∀ σ ∈ out.micro, NoStartSince e.res.state σ) := by
  have hi := envReach_inv hst hr
  obtain ⟨_, res', mw, r, mic, rew, cnt, _, hm, rfl, _, rfl⟩ := envStep_ok h
  have hne := (mwStep_adm hi hm).1
  obtain ⟨w, hI, hS⟩ := occursA_inv hst (hi.live hne).1
  have key := mwStep_starts_nothing w (nonnegB_sound hst.samples hst.nonneg) hflex hI hS (hi.live hne).2 hk hm
  by_cases hsuc : res'.success = true
  · simp only [hsuc, if_true]; exact key
  · simp only [hsuc]; exact ⟨NoStartSince.refl _, key.2⟩

/-- T3 read forwards: under the same hypotheses every record that is idle before the step is still
idle after it -/
theorem c06_idle_records_stay_idle {ec : EnvCfg} {st : RewardStatic} {s0 : State} (hst : Start orc inst s0)
    (hflex : PreFlex inst) {e : EnvState} (hr : EnvReach orc inst ec st s0 e) {a : AgentAct} {out : StepOut}
    (hk : a = .decline ∨ ∀ tr ∈ e.res.possible.head?, tr.new ≠ .m .setup)
    (h : envStep orc inst ec st e a = .ok out) :
    ∀ j ∈ e.res.state.jobs, ∀ o ∈ j.ops, o.st = .idle →
      ∃ j' ∈ out.env.res.state.jobs, j'.id = j.id ∧ ∃ o' ∈ j'.ops, o'.job = o.job ∧ o'.idx = o.idx ∧ o'.st = .idle :=
  (c06_only_an_accepted_start_starts hst hflex hr hk h).1.idle_stays (initOKB_sound hst.init).1
    (envReach_inv hst hr).struct.shape (envReach_inv hst (EnvReach.step hr h)).struct.shape

/-- the hypothesis of T3 cannot be dropped -/
theorem c06_ordered_prebuffers_start_by_themselves : Start ExT.orc0 ExFifo.inst Ex.s0 ∧
    ∃ e out, EnvReach ExT.orc0 ExFifo.inst ExT.ec ExT.st Ex.s0 e ∧
      envStep ExT.orc0 ExFifo.inst ExT.ec ExT.st e .decline = .ok out ∧
      e.res.possible.length = 1 ∧ (∀ tr ∈ e.res.possible, tr.new ≠ .m .setup) ∧
      ¬ NoStartSince e.res.state out.env.res.state :=
  ⟨ExFifo.start, ExFifo.lastStepStarts_sound (script := [.accept, .decline, .accept, .accept]) (by decide +kernel)⟩

/-- **T4.**  An accepted machine start is applied first and the operation begins at the decision
instant. -/
theorem c06_accepted_start_starts_now {ec : EnvCfg} {st : RewardStatic} {s0 : State} (hst : Start orc inst s0)
    {e : EnvState} (hr : EnvReach orc inst ec st s0 e) {mid jid : Nat} {rest : List Transition}
    (hp : e.res.possible = { comp := .m mid, new := .m .setup, job := some jid } :: rest)
    {out : StepOut} (h : envStep orc inst ec st e .accept = .ok out) :
    ∃ s1 r1 mic', applyTransition orc inst e.res.state e.rng { comp := .m mid, new := .m .setup, job := some jid } = .ok (s1, r1) ∧
      out.micro = s1 :: mic' ∧
      ∃ j ∈ e.res.state.jobs, j.id = jid ∧ ∃ o mm, StartableOp e.res.state j o mm ∧ o.machine = mid ∧
      ∃ sd : Int, ∃ j1 ∈ s1.jobs, j1.id = jid ∧
        (∃ o1 ∈ j1.ops, o1.job = o.job ∧ o1.idx = o.idx ∧ o1.st = .processing ∧ o1.machine = mid ∧
          o1.start = some e.res.state.time ∧ o1.stop = some (e.res.state.time + sd)) ∧
        ∃ m1 ∈ s1.machines, m1.id = mid ∧ m1.st = .setup ∧ m1.occ = some (e.res.state.time + sd) := by
  have hi := envReach_inv hst hr
  have hne : e.res.possible ≠ [] := by rw [hp]; simp
  obtain ⟨w, hI, hS⟩ := occursA_inv hst (hi.live hne).1
  obtain ⟨poss, hposs, hsub⟩ := hi.offersFrom hne
  obtain ⟨_, res', mw, r, mic, rew, cnt, _, hm, _, _, rfl⟩ := envStep_ok h
  exact mwStep_accept_starts_now w hI hS hposs hp (hsub _ (by rw [hp]; simp)) hm

/-- **Composition.**  At a fresh decision point of an episode that is not over, for every startable
operation `o` of a job `j`: some number `k` of declines – applying nothing, changing neither the
shop state nor the counters nor the allowance – leads to an environment state of the same episode
whose head offer is the start of `o`; and if the `accept` there returns, its first applied
transition starts `o` at the current instant `e.res.state.time`. -/
theorem c06_startable_can_be_started_now {ec : EnvCfg} {st : RewardStatic} {s0 : State} (hst : Start orc inst s0)
    (hj : 0 ≤ ec.mw.jokerInit) (hn : st.numOps ≠ 0) {e : EnvState} (hr : EnvReach orc inst ec st s0 e)
    (hd : e.done = false) (hne : e.res.possible ≠ []) (hf : FreshOffers inst ec e)
    {j : JobState} (hjm : j ∈ e.res.state.jobs) {o : OpState} {m : MachineState} (hso : StartableOp e.res.state j o m) :
    ∃ k e' post, envDeclineN orc inst ec st k e = .ok (e', []) ∧ EnvReach orc inst ec st s0 e' ∧ e'.done = false ∧
      e'.res.state = e.res.state ∧ e'.rng = e.rng ∧ e'.mw.joker = e.mw.joker ∧
      e'.res.possible = { comp := .m o.machine, new := .m .setup, job := some j.id } :: post ∧
      ∀ out, envStep orc inst ec st e' .accept = .ok out →
        ∃ s1 r1 mic', applyTransition orc inst e.res.state e.rng
            { comp := .m o.machine, new := .m .setup, job := some j.id } = .ok (s1, r1) ∧
          out.micro = s1 :: mic' ∧
          ∃ j1 ∈ s1.jobs, j1.id = j.id ∧ ∃ o1 ∈ j1.ops, o1.job = o.job ∧ o1.idx = o.idx ∧
            o1.st = .processing ∧ o1.machine = o.machine ∧ o1.start = some e.res.state.time := by
  obtain ⟨w, hI, hS⟩ := occursA_inv hst ((envReach_inv hst hr).live hne).1
  have hmem := offers_complete_op hS hf hjm hso
  obtain ⟨k, e', post, _, h1, h2, h3, h4, h5, h6, h7, _⟩ := c06_any_offer_can_be_chosen hst hj hn hr hd hmem
  refine ⟨k, e', post, h1, h2, h3, h4, h6, h7, h5, ?_⟩
  intro out hout
  obtain ⟨s1, r1, mic', ha, hmic, j2, hj2, hid, o2, m2, hso2, _, sd, j1, hj1, e1, ⟨o1, ho1, k1, k2, k3, k4, k5, _⟩, _⟩ :=
    c06_accepted_start_starts_now hst h2 h5 hout
  rw [h4] at hj2 hso2 ha k5
  rw [h6] at ha
  have : j2 = j := eq_of_mem_of_key_eq (key := fun (y : JobState) => y.id) (hI.shape.jobsNodup w) hj2 hjm hid
  subst this
  have : o2 = o := by
    have := hso2.nextIdle; rw [hso.nextIdle] at this; simpa using this.symm
  subst this
  exact ⟨s1, r1, mic', ha, hmic, j1, hj1, e1, o1, ho1, k1, k2, k3, k4, k5⟩

/-- the FLEX hypothesis of T3 follows from the decidable guard `flexInstB` (every buffer unordered),
which the correspondence check evaluates on both sides for every scenario -/
theorem c06_flex_guard_suffices (h : flexInstB inst = true) : PreFlex inst := by
  intro mc hmc
  apply flexInstB_sound h
  simp only [allBufCfgs, List.mem_append, List.mem_flatMap, List.mem_map]
  exact Or.inl (Or.inr ⟨mc, hmc, by simp⟩)

/-- non-vacuity: the example instance is in that class -/
example : PreFlex Ex.inst := c06_flex_guard_suffices (by decide +kernel)

end JSL
