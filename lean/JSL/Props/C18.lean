import JSL.Lib.StepSpec
import JSL.Inv.EnvReach
import JSL.Props.C12

/-!
# C18 — declining changes only the offer list or the clock; truncation counts exactly
-/

namespace JSL

variable {orc : Oracle} {inst : Instance} {cfg : SMConfig} {mc : MwCfg} {fuel : Nat}

/-- Declining while several transitions are on offer leaves the shop untouched, applies no
transition, removes exactly the declined (first) offer and does not touch the allowance. -/
theorem c18_decline_many (res : SMResult) (m : MwState) (r : Rng) (o o' : Transition)
    (rest : List Transition) (hp : res.possible = o :: o' :: rest) :
    ∃ res' m', mwStep orc inst cfg mc fuel res m r .decline = .ok (res', m', r, []) ∧
      res'.state = res.state ∧ res'.possible = o' :: rest ∧ res'.success = true ∧
      res'.action.transitions = [] ∧ m'.joker = m.joker ∧ m'.actCnt = m.actCnt := by
  refine ⟨{ state := res.state, subStates := res.subStates, action := noOpAction, success := true,
            done := false, possible := o' :: rest }, m.addOp noOpAction, ?_, ?_⟩
  · simp [mwStep, interpret, hp, noOpAction, MwState.addOp, noOpResult]
  · simp [noOpAction, MwState.addOp]

/-- Declining the last remaining offer runs one state-machine step whose action contains no
transition at all (nothing of the agent's choosing is applied) with the forced time jump. -/
theorem c18_decline_last_is_forced_jump (res : SMResult) (m : MwState) (r : Rng) (o : Transition)
    (hp : res.possible = [o]) (out : SMResult × MwState × Rng × List State)
    (h : mwStep orc inst cfg mc fuel res m r .decline = .ok out) :
    ∃ r' mic, smStep orc inst cfg fuel res.state r
        { transitions := [], noOp := true, tm := .forceJump } = .ok (out.1, r', mic) ∧
      out.1.action.transitions = [] := by
  rcases mwStep_spec h with ⟨_, _, _, _, hp', _⟩ | ⟨_, _, _, _, _, ha, _⟩ | ⟨_, res', r', mic, _, _, hs, _, rfl⟩
  · rw [hp] at hp'; cases hp'
  · cases ha
  · exact ⟨r', mic, hs, by rw [(smStep_spec hs).1]; rfl⟩

/-- After declining the last offer, unless the shop is done, the offer list presented is the
complete list computed afresh from the new state. -/
theorem c18_decline_last_fresh (res : SMResult) (m : MwState) (r : Rng) (o : Transition)
    (hp : res.possible = [o]) (out : SMResult × MwState × Rng × List State)
    (h : mwStep orc inst cfg mc fuel res m r .decline = .ok out) (hnd : out.1.done = false)
    (hs : out.1.success = true) :
    possibleTransitions inst cfg out.1.state = .ok out.1.possible := by
  obtain ⟨r', mic, hstep, _⟩ := c18_decline_last_is_forced_jump res m r o hp out h
  rcases (smStep_spec hstep).2 with h1 | h1 | h1
  · simp [h1.1] at hs
  · simp [h1.2.1] at hnd
  · exact h1.2.2.2

/-- Allowance accounting of one middleware step: the allowance drops by one exactly when the last
offer is declined, truncation is active, no offer was accepted since the previous such moment,
and the shop goes on; it never changes otherwise. -/
theorem c18_joker_step (res : SMResult) (m : MwState) (r : Rng) (a : AgentAct)
    (out : SMResult × MwState × Rng × List State)
    (h : mwStep orc inst cfg mc fuel res m r a = .ok out) :
    out.2.1.joker =
      if a = .decline ∧ res.possible.length = 1 ∧ out.1.possible ≠ [] ∧ mc.truncActive = true ∧ m.actCnt = 0
      then m.joker - 1 else m.joker := by
  rcases mwStep_spec h with ⟨_, _, _, rfl, hp, rfl⟩ | ⟨_, _, _, _, _, rfl, _, _, rfl⟩ | ⟨_, res', _, _, rfl, hp, _, _, rfl⟩
  · simp [hp, MwState.addOp, noOpAction]
  · simp
  · by_cases he : res'.possible = [] <;> simp [hp, he, MwState.addOp, noOpAction]

/-- the "accepted since" counter grows by one with every accept and is reset exactly by a last-offer
decline that goes on -/
theorem c18_actCnt_step (res : SMResult) (m : MwState) (r : Rng) (a : AgentAct)
    (out : SMResult × MwState × Rng × List State)
    (h : mwStep orc inst cfg mc fuel res m r a = .ok out) :
    out.2.1.actCnt =
      if a = .accept then m.actCnt + 1
      else if res.possible.length = 1 ∧ out.1.possible ≠ [] then 0 else m.actCnt := by
  rcases mwStep_spec h with ⟨_, _, _, rfl, hp, rfl⟩ | ⟨_, _, _, _, _, rfl, _, _, rfl⟩ | ⟨_, res', _, _, rfl, hp, _, _, rfl⟩
  · simp [hp, MwState.addOp, noOpAction]
  · simp
  · by_cases he : res'.possible = [] <;> simp [hp, he, MwState.addOp, noOpAction]

/-- with `truncActive = false` the allowance never changes (so truncation is not reported on its
account while it is inactive) -/
theorem c18_inactive_never (res : SMResult) (m : MwState) (r : Rng) (a : AgentAct)
    (out : SMResult × MwState × Rng × List State) (hoff : mc.truncActive = false)
    (h : mwStep orc inst cfg mc fuel res m r a = .ok out) : out.2.1.joker = m.joker := by
  rw [c18_joker_step res m r a out h]; simp [hoff]

/-- **Declining the last offer strictly advances time** – in every environment state of every
episode: if the step goes on (success, shop not done) the clock of the new state is strictly
later than before. -/
theorem c18_decline_last_advances {ec : EnvCfg} {st : RewardStatic} {s0 : State} {e : EnvState}
    (hst : Start orc inst s0) (hr : EnvReach orc inst ec st s0 e) (o : Transition) (hp : e.res.possible = [o])
    (m : MwState) (r : Rng) (out : SMResult × MwState × Rng × List State)
    (h : mwStep orc inst ec.sm mc fuel e.res m r .decline = .ok out)
    (hs : out.1.success = true) (hd : out.1.done = false) :
    e.res.state.time < out.1.state.time := by
  obtain ⟨r', mic, hstep, _⟩ := c18_decline_last_is_forced_jump e.res m r o hp out h
  have hne : e.res.possible ≠ [] := by rw [hp]; simp
  have hi := envReach_inv hst hr
  obtain ⟨w, hI, hS⟩ := occursA_inv hst (hi.live hne).1
  have ha : Admissible { transitions := [], noOp := true, tm := .forceJump } := ⟨by simp, by simp⟩
  obtain ⟨p, t, hp', ht, hle⟩ := (smStep_clock w hst.nn hI hS ha hstep).2.2.2.2 hs hd
  simp [sortedByTransport, processTransitions] at hp'
  subst hp'
  simp only [runTimeMachine] at ht
  have := forceJump_strict w hI hS (hi.quiet hne) ht
  omega

end JSL
