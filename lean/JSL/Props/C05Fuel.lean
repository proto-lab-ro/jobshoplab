import JSL.Inv.FuelLoop
import JSL.Props.C05Total

/-!
# C05 in the class `totalClassB`, without the fuel caveat — the timed loop of `state.step` ends

`JSL/Props/C05Total.lean` proves that in the class `totalClassB` a step returns **or** the
`while timed_transitions` loop of `state.step` runs out of fuel (the model of a loop that does not
end).  Here the second alternative is excluded: the loop makes at most

  `fuelBound inst = 6·M + 5·A + 2`      (`M` machines, `A` transports; `JSL/Model/FuelBound.lean`)

rounds.  No further guard is needed: the class is exactly `totalClassB` (early dispatch on or off,
outages with any frequency and duration, stochastic times, any travel times).

The measure (`JSL/Inv/FuelMeasure.lean`): `fbM s = 2·Σ machine stages + Σ AGV stages + #AGVs behind`.

* a timed machine transition moves its machine one stage along SETUP → WORKING → OUTAGE → IDLE (the
  outage stage is passed after every operation, whether or not an outage record strikes – its
  length is then 0 – so the number of outage configurations does not enter the bound); an idle
  machine creates no timed transition (unordered pre-buffers), so no operation starts inside the loop;
* a timed AGV transition other than WAITINGPICKUP → WAITINGPICKUP moves its AGV one stage along
  PICKUP → WAITINGPICKUP → TRANSIT → OUTAGE → IDLE; an AGV parked on a time dependency does not occur
  (`AgvShape.noDep`); dispatches happen only in the first round (the teleports);
* WAITINGPICKUP → WAITINGPICKUP (early dispatch, the job still on its machine) re-reads the end of
  the operation: afterwards the AGV waits exactly until the machine's `occupied_till`
  (`fb_wait_not_late`).  It keeps the stages.  But an AGV that is due while its job is not ready is
  *behind* its machine unless the machine is due as well; `create_timed_transitions` lists machine
  transitions first, so the **first** transition of every round lowers the measure (`fb_head`), and
  no transition of a round raises it (`fb_step`).  A machine transition can put at most one AGV
  behind – the one that claimed the job the machine holds (`AgvInv.unique`, `fbNu_machine`): hence the
  weight `2` of a machine stage.

So the model cannot spin at one instant in this class: the livelock of C11's findings (WAITINGPICKUP →
WAITINGPICKUP forever) needs an ordered buffer.

* `c05_timed_loop_ends_in_class`        – `state.step` never runs out of fuel;
* `c05_state_step_returns_in_class`     – `state.step` returns a successful result;
* `c05_step_returns_in_class`           – `env.step` returns for the actions 0 and 1 before the end;
* `c05_reset_returns_in_class`          – `reset` returns.
-/

namespace JSL

variable {orc : Oracle} {inst : Instance}

/-- **`state.step` returns** (a successful result) from any state of an execution of the environment,
with any action the middleware can submit, when the fuel is at least `fuelBound inst` -/
theorem c05_state_step_returns_in_class {cfg : SMConfig} {s0 s : State} (hst : Start orc inst s0)
    (hC : totalClassB inst s0 = true) (h : OccursF orc inst cfg s0 s) {a : Action} (ha : Admissible a)
    (hadm : AdmOffer inst cfg s a) {fuel : Nat} (hfuel : fuelBound inst ≤ fuel) (r : Rng) :
    ∃ res r' mic, smStep orc inst cfg fuel s r a = .ok (res, r', mic) ∧ res.success = true := by
  obtain ⟨C, _, _⟩ := totalClassB_sound hC
  exact (stepTotal_of_fuel hst C.toP C.flex.preFlex (totP_of_guards hst hC) hfuel h ha hadm r).resolve_right And.left

/-- **the timed loop of one `state.step` ends within `fuelBound inst` rounds** -/
theorem c05_timed_loop_ends_in_class {cfg : SMConfig} {s0 s : State} (hst : Start orc inst s0)
    (hC : totalClassB inst s0 = true) (h : OccursF orc inst cfg s0 s) {a : Action} (ha : Admissible a)
    (hadm : AdmOffer inst cfg s a) {fuel : Nat} (hfuel : fuelBound inst ≤ fuel) (r : Rng) :
    smStep orc inst cfg fuel s r a ≠ .error .outOfFuel := by
  obtain ⟨res, r', mic, hs, _⟩ := c05_state_step_returns_in_class hst hC h ha hadm hfuel r
  rw [hs]
  intro e
  cases e

/-- **C05 in the class: `env.step` returns** for the actions 0 and 1 in every environment state of
every episode that is not done -/
theorem c05_step_returns_in_class {ec : EnvCfg} {st : RewardStatic} {s0 : State} (hst : Start orc inst s0)
    (hC : totalClassB inst s0 = true) (hops : st.numOps ≠ 0) (hspan : st.tmax - st.lb ≠ 0)
    (hbias : ec.rw.sparseBias ≠ 0) (hfuel : fuelBound inst ≤ ec.fuel) {e : EnvState}
    (h : EnvReach orc inst ec st s0 e) (hd : e.done = false) {a : AgentAct} (ha : a = .accept ∨ a = .decline) :
    ∃ out, envStep orc inst ec st e a = .ok out := by
  obtain ⟨C, _, _⟩ := totalClassB_sound hC
  have H := stepTotal_of_fuel (cfg := ec.sm) hst C.toP C.flex.preFlex (totP_of_guards hst hC) hfuel
  exact (envStep_of_stepTotal hst C.flex.pick C.toP.hasAgv H ⟨hops, hspan, hbias⟩ h hd
    (c05_not_done_is_live_in_class hst hC h hd).1 ha).resolve_right And.left

/-- **`reset` returns** -/
theorem c05_reset_returns_in_class {ec : EnvCfg} {s0 : State} (hst : Start orc inst s0)
    (hC : totalClassB inst s0 = true) (hfuel : fuelBound inst ≤ ec.fuel) (r : Rng) :
    ∃ e0 mic0, envReset orc inst ec s0 r = .ok (e0, mic0) := by
  obtain ⟨C, _, _⟩ := totalClassB_sound hC
  obtain ⟨e0, mic0, h, _⟩ := (envReset_of_stepTotal
    (stepTotal_of_fuel (cfg := ec.sm) hst C.toP C.flex.preFlex (totP_of_guards hst hC) hfuel) r).resolve_right And.left
  exact ⟨e0, mic0, h⟩

/-- the step that `c05_step_returns_in_class` gives is a successful one (`c05_no_step_fails_in_class`) -/
theorem c05_step_returns_successfully_in_class {ec : EnvCfg} {st : RewardStatic} {s0 : State}
    (hst : Start orc inst s0) (hC : totalClassB inst s0 = true) (hops : st.numOps ≠ 0)
    (hspan : st.tmax - st.lb ≠ 0) (hbias : ec.rw.sparseBias ≠ 0) (hfuel : fuelBound inst ≤ ec.fuel)
    {e : EnvState} (h : EnvReach orc inst ec st s0 e) (hd : e.done = false) {a : AgentAct}
    (ha : a = .accept ∨ a = .decline) :
    ∃ out, envStep orc inst ec st e a = .ok out ∧ out.obsRes.success = true := by
  obtain ⟨out, ho⟩ := c05_step_returns_in_class hst hC hops hspan hbias hfuel h hd ha
  exact ⟨out, ho, c05_no_step_fails_in_class hst hC h ho⟩

/-- the example instance: 2 machines, 1 AGV – 19 rounds suffice, the example configuration allows 40 -/
theorem ExTot.instT_fuel : fuelBound ExT.instT = 19 ∧ fuelBound ExT.instT ≤ ExT.ec.fuel ∧
    fuelOKB ExT.instT ExT.ec.fuel = true := by decide +kernel

example : totalClassB ExT.instT Ex.s0 = true ∧ fuelBound ExT.instT = 19 ∧ fuelBound ExT.instT ≤ ExT.ec.fuel ∧
    fuelOKB ExT.instT ExT.ec.fuel = true := ⟨ExTot.instT_in_class, ExTot.instT_fuel⟩

/-- … so every step of every episode of it returns -/
example {e : EnvState} (h : EnvReach ExT.orc0 ExT.instT ExT.ec ExT.st Ex.s0 e) (hd : e.done = false) :
    ∃ out, envStep ExT.orc0 ExT.instT ExT.ec ExT.st e .accept = .ok out :=
  c05_step_returns_in_class ExT.start_exT ExTot.instT_in_class (by decide) (by decide) (by decide) ExTot.instT_fuel.2.1 h hd
    (Or.inl rfl)

example : ∃ e0 mic0, envReset ExT.orc0 ExT.instT ExT.ec Ex.s0 ExT.r0 = .ok (e0, mic0) :=
  c05_reset_returns_in_class ExT.start_exT ExTot.instT_in_class ExTot.instT_fuel.2.1 ExT.r0

end JSL
