import JSL.Model.Check

/-!
A concrete compiled instance (2 jobs × 2 machines, one AGV, ids as the compiler assigns them)
used for the non-vacuity examples of the property theorems.
-/

namespace JSL.Ex

def bc (id : Nat) (cap : Int) (role : BufRole) (parent : Option Comp) : BufCfg :=
  { id := id, type := .flex, cap := cap, role := role, parent := parent }

def big : Int := 9223372036854775807

def mc (id pre post buf : Nat) : MachineCfg :=
  { id := id, outages := [], setup := [((0, 0), .det 0)], pre := bc pre big .component (some (.m id)),
    post := bc post big .component (some (.m id)), buf := bc buf 1 .component (some (.m id)) }

def inst : Instance :=
  { jobs := [{ id := 0, ops := [{ job := 0, idx := 0, machine := 0, dur := .det 3, tool := 0 },
                                { job := 0, idx := 1, machine := 1, dur := .det 2, tool := 0 }] },
             { id := 1, ops := [{ job := 1, idx := 0, machine := 1, dur := .det 4, tool := 0 },
                                { job := 1, idx := 1, machine := 0, dur := .det 1, tool := 0 }] }],
    travel := [((.m 0, .m 1), .det 2), ((.m 1, .m 0), .det 3), ((.b 7, .m 0), .det 1), ((.b 7, .m 1), .det 1),
               ((.m 0, .b 8), .det 1), ((.m 1, .b 8), .det 2), ((.m 0, .b 7), .det 1), ((.m 1, .b 7), .det 1),
               ((.m 0, .m 0), .det 0), ((.m 1, .m 1), .det 0)],
    machines := [mc 0 0 1 2, mc 1 3 4 5],
    buffers := [bc 7 big .input none, bc 8 big .output none],
    transports := [{ id := 0, type := .agv, outages := [], buf := bc 6 1 .component (some (.t 0)) }] }

def eb (id : Nat) : BufState := { id := id, bss := .empty, store := [] }

def ms (id pre post buf : Nat) : MachineState :=
  { id := id, buffer := eb buf, occ := none, pre := eb pre, post := eb post, st := .idle, tool := 0, outages := [] }

def op (j k m : Nat) : OpState := { job := j, idx := k, start := none, stop := none, machine := m, st := .idle }

def s0 : State :=
  { jobs := [{ id := 0, ops := [op 0 0 0, op 0 1 1], loc := 7 }, { id := 1, ops := [op 1 0 1, op 1 1 0], loc := 7 }],
    time := 0,
    machines := [ms 0 0 1 2, ms 1 3 4 5],
    transports := [{ st := .idle, id := 0, occ := .none, buffer := eb 6, loc := .at (.m 0), outages := [], job := none }],
    buffers := [{ id := 7, bss := .notEmpty, store := [0, 1] }, eb 8] }

theorem initOK : initOKB inst s0 = true := by decide +kernel

end JSL.Ex
