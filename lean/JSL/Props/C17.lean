import JSL.Inv.Init
import JSL.Model.Compile
import JSL.Inv.Placement
import Batteries.Data.List.Perm

/-!
# C17 — compilation is deterministic and yields a well-formed instance and initial state

* determinism: the model of the compiler's text readers and of the id allocator are functions of
  the text / of the ids already taken; that the implementation has no other input (hash order,
  global state) is checked by compiling every third document of the check again in this and in a
  fresh interpreter with another hash seed (`harness/twin_c17.py`);
* `c17_new_id_is_fresh` – the id allocator never hands out an id that is already registered
  (custom buffer ids are registered first), so allocated ids are pairwise distinct
  (`c17_allocated_ids_distinct`);
* `c17_wellformed_checker_sound` – the decidable check `initOKB`, evaluated on every compiled
  (instance, initial state) pair by the implementation-side monitor and by the model's driver,
  implies: unique component, buffer, job and operation identifiers, every operation's machine
  exists, the initial state has the instance's shape, every job is in exactly one buffer and its
  location names that buffer, and no buffer is over capacity;
* initial placement: `c17_job_starts_where_it_says`, `c17_listed_contents_keep_their_order`,
  `c17_every_job_in_exactly_one_buffer` (for consistent listings; `c17_foreign_listing_duplicates`
  otherwise).
-/

namespace JSL

open Compile

theorem newIdF_fresh : ∀ (f k : Nat) (ids : List Nat), (∃ j, k ≤ j ∧ j < k + f ∧ j ∉ ids) → newIdF f k ids ∉ ids
  | 0, k, ids, ⟨j, h1, h2, _⟩ => by omega
  | f + 1, k, ids, ⟨j, h1, h2, h3⟩ => by
    simp only [newIdF]
    by_cases hk : ids.contains k = true
    · simp only [hk, if_true]
      apply newIdF_fresh f (k + 1) ids
      have hjk : j ≠ k := by
        intro e; subst e
        exact h3 (List.contains_iff_mem.mp hk)
      exact ⟨j, by omega, by omega, h3⟩
    · simp only [hk]
      intro hmem
      exact hk (List.contains_iff_mem.mpr hmem)

/-- among `n + 1` consecutive numbers one is not in a list of length `n` -/
theorem exists_free (ids : List Nat) : ∃ j, ids.length ≤ j ∧ j < ids.length + (ids.length + 1) ∧ j ∉ ids := by
  apply Classical.byContradiction
  intro hcon
  have hall : ∀ j ∈ List.range' ids.length (ids.length + 1), j ∈ ids := by
    intro j hj
    have := List.mem_range'_1.mp hj
    apply Classical.byContradiction
    intro hn
    exact hcon ⟨j, this.1, by omega, hn⟩
  have hnd : (List.range' ids.length (ids.length + 1)).Nodup := List.nodup_range' 1 (by omega)
  have hle := (List.subperm_of_subset hnd hall).length_le
  simp at hle
  omega

/-- **The id allocator never returns an id that is already taken.** -/
theorem c17_new_id_is_fresh (ids : List Nat) : newId ids ∉ ids :=
  newIdF_fresh _ _ ids (exists_free ids)

/-- allocating `n` ids one after the other, each registered before the next is requested -/
def allocate : Nat → List Nat → List Nat
  | 0, ids => ids
  | n + 1, ids => allocate n (ids ++ [newId ids])

/-- ids allocated on top of distinct registered ids are all distinct -/
theorem c17_allocated_ids_distinct : ∀ (n : Nat) (ids : List Nat), ids.Nodup → (allocate n ids).Nodup
  | 0, ids, h => h
  | n + 1, ids, h => by
    apply c17_allocated_ids_distinct n
    rw [List.nodup_append]
    refine ⟨h, by simp, ?_⟩
    intro a ha b hb
    simp at hb; subst hb
    intro e; subst e
    exact c17_new_id_is_fresh ids ha

/-- **The well-formedness check is sound.** -/
theorem c17_wellformed_checker_sound (inst : Instance) (s : State) (h : initOKB inst s = true) :
    WF inst ∧ Shape inst s ∧ ConservedV s ∧ CapV inst s := by
  obtain ⟨w, hI⟩ := initOKB_sound h
  exact ⟨w, hI.shape, hI.cons, hI.cap⟩

/-- what `WF` says, spelled out -/
theorem c17_wf_means (inst : Instance) (w : WF inst) :
    (inst.jobs.map (·.id)).Nodup ∧ (inst.machines.map (·.id)).Nodup ∧ (inst.transports.map (·.id)).Nodup ∧
    ((allBufCfgs inst).map (·.id)).Nodup ∧ (∀ j ∈ inst.jobs, (j.ops.map (·.idx)).Nodup) ∧
    (∀ j ∈ inst.jobs, ∀ o ∈ j.ops, ∃ m ∈ inst.machines, m.id = o.machine) :=
  ⟨w.jobsNodup, w.machNodup, w.trNodup, w.bufNodup, w.opIdxNodup, w.opMachine⟩

/-! ## initial placement (`_map_jobs`, `_get_buffer_state`; tied by the `CB` lines)

A job is its number and the location its own `init_state` entry names (if any); `initStore` is the
store of a stand-alone buffer given what the buffer's entry lists (if anything). -/

open Compile in
/-- **a job without an explicit location starts in the input buffer** – it is in that buffer's store
whatever the buffer lists – and a job with an explicit location is in the store of the buffer named -/
theorem c17_job_starts_where_it_says (inputId : Nat) (jobs : List (Nat × Option Nat)) (j : Nat) (sp : Option Nat)
    (hj : (j, sp) ∈ jobs) (listed : Option (List Nat)) :
    j ∈ initStore inputId jobs (sp.getD inputId) listed :=
  mem_initStore.2 (Or.inr (mem_locatedIn.2 ⟨sp, hj, rfl⟩))

open Compile in
/-- **listed buffer contents keep their order**: the store is the listed jobs in the order written,
followed by the jobs located there that are not listed, in job order -/
theorem c17_listed_contents_keep_their_order (inputId : Nat) (jobs : List (Nat × Option Nat))
    (hn : (jobs.map (·.1)).Nodup) (b : Nat) (l : List Nat) (hl : l.Nodup) :
    initStore inputId jobs b (some l) = l ++ (locatedIn inputId jobs b).filter (fun x => !l.contains x) := by
  rw [initStore_listed hn, firstOccs_of_nodup hl]

open Compile in
/-- no store holds a job twice -/
theorem c17_initial_store_has_no_duplicates (inputId : Nat) (jobs : List (Nat × Option Nat))
    (hn : (jobs.map (·.1)).Nodup) (b : Nat) (listed : Option (List Nat)) :
    (initStore inputId jobs b listed).Nodup :=
  initStore_nodup hn b listed

open Compile in
/-- **every job is in exactly one buffer, the one its location names**, provided every listing is
consistent (names only jobs located in that buffer – what the compiler insists on since the
`fix:` commit recorded in known_findings.json) -/
theorem c17_every_job_in_exactly_one_buffer (inputId : Nat) (jobs : List (Nat × Option Nat))
    (hn : (jobs.map (·.1)).Nodup) (listing : Nat → Option (List Nat))
    (hc : ∀ b, ConsistentListing inputId jobs b (listing b)) (j : Nat) (sp : Option Nat) (hj : (j, sp) ∈ jobs) (b : Nat) :
    (j ∈ initStore inputId jobs b (listing b) ↔ b = sp.getD inputId) ∧
    (initStore inputId jobs b (listing b)).count j ≤ 1 := by
  refine ⟨?_, List.nodup_iff_count.1 (initStore_nodup hn b _) j⟩
  rw [mem_initStore_consistent (hc b), mem_locatedIn]
  constructor
  · rintro ⟨sp', hj', rfl⟩
    have : (j, sp') = (j, sp) := eq_of_mem_of_key_eq (key := fun (y : Nat × Option Nat) => y.1) hn hj' hj rfl
    cases this; rfl
  · rintro rfl
    exact ⟨sp, hj, rfl⟩

open Compile in
/-- the consistency hypothesis cannot be dropped: a buffer listing a job that is located elsewhere
holds it in addition to the buffer the job's location names (the defect repaired in /repo) -/
theorem c17_foreign_listing_duplicates :
    1 ∈ initStore 0 [(0, none), (1, none)] 5 (some [1]) ∧ 1 ∈ initStore 0 [(0, none), (1, none)] 0 none := by
  decide

/-- non-vacuity: three jobs, one in a further buffer that lists it -/
example : Compile.initStore 0 [(0, none), (1, some 7), (2, none)] 0 (some [2]) = [2, 0] ∧
    Compile.initStore 0 [(0, none), (1, some 7), (2, none)] 7 (some [1]) = [1] := by decide

end JSL
