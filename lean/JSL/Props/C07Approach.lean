import JSL.Inv.ApproachOwn
import JSL.Inv.Applies

/-!
# C07, the approach leg composed over whole episodes

`c07_dispatch` (in `C07.lean`) is the per-transition fact: at a dispatch the AGV's `occupied_till`
is set to now + the matrix entry (where the AGV stands → component holding the job).  Here this is
composed over whole episodes of the environment, for any agent behaviour and any instance:

**a pickup (`→ TRANSIT`) of an AGV is applied no earlier than the time of any earlier dispatch of
that AGV plus the travel time of that dispatch's empty run** (`c07_approach_leg`, with the constant
and the sampled form in `c07_approach_leg_travel`), and consequently the arrival time written at the
pickup is no earlier than dispatch time + approach + loaded leg (`c07_dispatch_to_arrival`).

The state keeps no record of the dispatch time once the AGV waits at the pickup point (`loc` keeps
`route cur pick drop`, but `occupied_till` is overwritten by the waiting time), so the statement is
about the *applied transitions* of the episode, in order: `EnvRun … e C` lists every application
(`Call` = state before, transition, state after) made from `reset` up to the environment state `e`;
the post-states of the listed calls are exactly the ghost lists `micro` the model returns
(`ap_stepCalls_micro`, `ap_mwCalls_micro`), every listed post-state is `Exposed`
(`c07_calls_exposed`) and every episode has its list (`c07_run_of_reach`).

Hypothesis `hown`: in the post-state of every listed call, a transition parked in a
`TimeDependency` is parked at the AGV it addresses (`DepOwn`).  `_get_waiting_time` may *copy* the
`occupied_till` of another AGV (`waitBehind`, the AGV assigned to the job at the release position);
were that a `TimeDependency`, the copier would later re-submit the other AGV's parked
`→ WAITINGPICKUP` transition, which `validate` accepts for an AGV in PICKUP whatever its arrival
time – the approach would be cut short.  No such state was found, and the copy seems unreachable
(the AGV assigned to the job at the release position is re-evaluated, and its dependency resolved,
before that job can become the release job), but this is not proved here; it is the one open
obligation, isolated as a state predicate on exposed states.  For instances with a single AGV it is
proved (`ap_exposed_depOwn`: a copy can only be the AGV's own), so `c07_approach_leg_single_agv` and
`c07_approach_leg_travel_single_agv` carry no such hypothesis.
-/

namespace JSL

variable {orc : Oracle} {inst : Instance}

/-- from now on AGV `a` has completed, or will complete no earlier than `T`, its current approach -/
def ApAfter (a : Nat) (T : Int) (σ : State) : Prop :=
  ∀ t ∈ σ.transports, t.id = a →
    (t.st = .pickup → ∃ c, t.occ = .at c ∧ T ≤ c) ∧ (t.st ≠ .pickup → T ≤ σ.time)

theorem ap_after_adv {a : Nat} {T : Int} {s s' : State} (h : ApAdv s s') (hq : ApAfter a T s) : ApAfter a T s' := by
  obtain ⟨t, hle, rfl⟩ := h
  intro x hx hid
  have := hq x hx hid
  exact ⟨this.1, fun hs => by have := this.2 hs; simp only; omega⟩

theorem ap_after_call {a : Nat} {T : Int} {c : Call} (hc : ApCall orc inst c) (h : ApAfter a T c.pre) :
    ApAfter a T c.post := by
  intro t ht hid
  rcases hc.fx.fx t ht with ⟨ht0, _⟩ | ⟨t0, ht0, hcomp, hid0, hcase⟩
  · have := h t ht0 hid
    exact ⟨this.1, fun hs => by rw [hc.fx.time]; exact this.2 hs⟩
  · have h0 := h t0 ht0 (by rw [← hid0, hid])
    rcases hcase with ⟨_, hidle, hpk, j, cur, target, src, bc, cf, v, _, _, _, _, _, _, _, hocc, _, hv, _, _⟩ |
      ⟨_, hnp, hleave, _⟩
    · have hT := h0.2 (by rw [hidle]; simp)
      exact ⟨fun _ => ⟨_, hocc, by omega⟩, fun hs => absurd hpk hs⟩
    · refine ⟨fun hs => absurd hs hnp, fun _ => ?_⟩
      rw [hc.fx.time]
      by_cases hp : t0.st = .pickup
      · obtain ⟨x, hx, hTx⟩ := h0.1 hp
        have := hc.due (hleave hp) t0 ht0 hcomp hp x hx
        omega
      · exact h0.2 hp

theorem ap_after_chain {a : Nat} {T : Int} : ∀ {C : List Call} {s : State}, (∀ c ∈ C, ApCall orc inst c) →
    ApLinked s C → ApAfter a T s → ∀ c ∈ C, ApAfter a T c.pre
  | [], _, _, _, _, c, hc => by cases hc
  | c0 :: C, s, hall, hl, hq, c, hc => by
    have h0 : ApAfter a T c0.pre := ap_after_adv hl.1 hq
    rcases List.mem_cons.mp hc with rfl | hc
    · exact h0
    · exact ap_after_chain (C := C) (fun x hx => hall x (by simp [hx])) hl.2
        (ap_after_call (hall c0 (by simp)) h0) c hc

theorem ap_linked_suffix : ∀ {A : List Call} {s : State} {c : Call} {B : List Call},
    ApLinked s (A ++ c :: B) → ApLinked c.post B
  | [], _, _, _, h => h.2
  | _ :: A, _, _, _, h => ap_linked_suffix (A := A) h.2

/-- **The approach leg over whole episodes.**  In the list `C` of all transitions applied in an
episode up to the environment state `e`: let `cd` be a dispatch (`→ WORKING`) of AGV `a` and `cp` a
later pickup (`→ TRANSIT`) of the same AGV.  Then the record `t'` of the AGV right after the dispatch
is what `c07_dispatch` describes (`Dispatched`: it stood at `cur`, the job lies in buffer `bc` of
component `src`, `occupied_till = time of cd + v`, `v` the current value of the matrix entry
`cur → src`), and that arrival time is not later than the time at which `cp` is applied. -/
theorem c07_approach_leg {ec : EnvCfg} {st : RewardStatic} {s0 : State} (hst : Start orc inst s0) {e : EnvState}
    {C : List Call} (hrun : EnvRun orc inst ec st s0 e C) (hown : ∀ c ∈ C, DepOwn c.post)
    {C1 C2 C3 : List Call} {cd cp : Call} (hC : C = C1 ++ cd :: (C2 ++ cp :: C3)) {a : Nat}
    (hd1 : cd.tr.comp = .t a) (hd2 : cd.tr.new = .t .working)
    (hp1 : cp.tr.comp = .t a) (hp2 : cp.tr.new = .t .transit) :
    ∃ t0 ∈ cd.pre.transports, t0.id = a ∧ ∃ t' ∈ cd.post.transports, t'.id = a ∧ t0.st = .idle ∧ t'.st = .pickup ∧
      Dispatched orc inst cd.pre cd.tr t0 t' ∧ ∀ x, t'.occ = .at x → x ≤ cp.pre.time := by
  obtain ⟨w, _⟩ := initOKB_sound hst.init
  obtain ⟨hall, hlink, _⟩ := ap_envRun_ok hst hrun hown
  subst hC
  have hcd := hall cd (by simp)
  have hcp := hall cp (by simp)
  obtain ⟨t', ht', hid'⟩ := hcd.fx.ex a hd1
  rcases hcd.fx.fx t' ht' with ⟨_, hne⟩ | ⟨t0, ht0, hcomp, hid0, hcase⟩
  · exact absurd (by rw [hd1, hid']) hne
  · rcases hcase with ⟨_, hidle, hpk, hdisp⟩ | ⟨hnw, _⟩
    · have ha0 : t0.id = a := by rw [← hid0, hid']
      refine ⟨t0, ht0, ha0, t', ht', hid', hidle, hpk, hdisp, ?_⟩
      intro x hx
      have hQ : ApAfter a x cd.post := by
        intro t ht hid
        have : t = t' := eq_of_mem_of_key_eq (key := fun (y : TransportState) => y.id)
          (hcd.structPost.shape.trNodup w) ht ht' (by rw [hid, hid'])
        subst this
        exact ⟨fun _ => ⟨x, hx, Int.le_refl _⟩, fun hs => absurd hpk hs⟩
      have hlk : ApLinked cd.post (C2 ++ cp :: C3) := ap_linked_suffix hlink
      have hQp := ap_after_chain (fun c hc => hall c (by simp [hc])) hlk hQ cp (by simp)
      obtain ⟨t2', ht2', hid2'⟩ := hcp.fx.ex a hp1
      rcases hcp.fx.fx t2' ht2' with ⟨_, hne⟩ | ⟨t2, ht2, hcomp2, hid2, hcase2⟩
      · exact absurd (by rw [hp1, hid2']) hne
      · rcases hcase2 with ⟨hw, _⟩ | ⟨_, _, hleave, _⟩
        · rw [hp2] at hw; cases hw
        · have h2 := hQp t2 ht2 (by rw [← hid2, hid2'])
          by_cases hp : t2.st = .pickup
          · obtain ⟨y, hy, hxy⟩ := h2.1 hp
            have := hcp.due (Or.inr hp2) t2 ht2 hcomp2 hp y hy
            omega
          · exact h2.2 hp
    · exact absurd hd2 hnw

/-- the same with the travel time spelled out: for a **constant** entry `d` from where the AGV stood
(`cur`) to the component holding the job (`src`), *time of the dispatch + d ≤ time of the pickup*;
for a **stochastic** entry, *time of the dispatch + one of the object's samples ≤ time of the pickup*
(some `orc sid k`: the handler reads the sample current at the dispatch – the empty run does not call
`update()` – but which `k` is not part of the statement) -/
theorem c07_approach_leg_travel {ec : EnvCfg} {st : RewardStatic} {s0 : State} (hst : Start orc inst s0) {e : EnvState}
    {C : List Call} (hrun : EnvRun orc inst ec st s0 e C) (hown : ∀ c ∈ C, DepOwn c.post)
    {C1 C2 C3 : List Call} {cd cp : Call} (hC : C = C1 ++ cd :: (C2 ++ cp :: C3)) {a : Nat}
    (hd1 : cd.tr.comp = .t a) (hd2 : cd.tr.new = .t .working)
    (hp1 : cp.tr.comp = .t a) (hp2 : cp.tr.new = .t .transit) :
    ∃ t0 ∈ cd.pre.transports, t0.id = a ∧ ∃ j ∈ cd.pre.jobs, cd.tr.job = some j.id ∧
      ∃ (cur src : Loc) (bc : BufCfg) (c : TimeCfg), t0.loc = .at cur ∧ bc ∈ allBufCfgs inst ∧ bc.id = j.loc ∧
        (bc.parent = none ∧ src = .b j.loc ∨ ∃ mid, bc.parent = some (.m mid) ∧ src = .m mid) ∧
        travelCfg inst cur src = some c ∧
        (∀ d, c = .det d → cd.pre.time + d ≤ cp.pre.time) ∧
        (∀ sid, c = .stoch sid → ∃ k, cd.pre.time + orc sid k ≤ cp.pre.time) := by
  obtain ⟨t0, ht0, ha0, t', _, _, _, _, ⟨j, cur, target, src, bc, c, v, hj, htj, hloc, hbc, hbid, hsrc, htc, hocc, _, _,
    hdet, hsto⟩, hle⟩ := c07_approach_leg hst hrun hown hC hd1 hd2 hp1 hp2
  have := hle _ hocc
  refine ⟨t0, ht0, ha0, j, hj, htj, cur, src, bc, c, hloc, hbc, hbid, hsrc, htc, ?_, ?_⟩
  · intro d hd; rw [← hdet d hd]; exact this
  · intro sid hs
    obtain ⟨k, hk⟩ := hsto sid hs
    exact ⟨k, by rw [← hk]; exact this⟩

/-- **Dispatch to arrival.**  With `cd`, `cp` as above: the record `t''` of the AGV right after the
pickup `cp` carries an arrival time `y` with *time of the dispatch + approach + loaded leg ≤ y*:
`v1` is the value of the entry (where the AGV stood → component holding the job of `cd`), `v2` the
value of the entry (component holding the job of `cp` → its destination) – the constants when the
entries are constant, samples of the objects when they are stochastic. -/
theorem c07_dispatch_to_arrival {ec : EnvCfg} {st : RewardStatic} {s0 : State} (hst : Start orc inst s0) {e : EnvState}
    {C : List Call} (hrun : EnvRun orc inst ec st s0 e C) (hown : ∀ c ∈ C, DepOwn c.post)
    {C1 C2 C3 : List Call} {cd cp : Call} (hC : C = C1 ++ cd :: (C2 ++ cp :: C3)) {a : Nat}
    (hd1 : cd.tr.comp = .t a) (hd2 : cd.tr.new = .t .working)
    (hp1 : cp.tr.comp = .t a) (hp2 : cp.tr.new = .t .transit) :
    ∃ t0 ∈ cd.pre.transports, t0.id = a ∧ ∃ t' ∈ cd.post.transports, t'.id = a ∧
      Dispatched orc inst cd.pre cd.tr t0 t' ∧
      ∃ t'' ∈ cp.post.transports, t''.id = a ∧ Loaded orc inst cp.pre cp.tr t'' ∧
      ∀ v1 v2, t'.occ = .at (cd.pre.time + v1) → t''.occ = .at (cp.pre.time + v2) →
        ∃ y, t''.occ = .at y ∧ cd.pre.time + v1 + v2 ≤ y := by
  obtain ⟨t0, ht0, ha0, t', ht', hid', _, _, hdisp, hle⟩ := c07_approach_leg hst hrun hown hC hd1 hd2 hp1 hp2
  obtain ⟨hall, _, _⟩ := ap_envRun_ok hst hrun hown
  subst hC
  have hcp := hall cp (by simp)
  obtain ⟨t2', ht2', hid2'⟩ := hcp.fx.ex a hp1
  rcases hcp.fx.fx t2' ht2' with ⟨_, hne⟩ | ⟨t2, ht2, hcomp2, hid2, hcase2⟩
  · exact absurd (by rw [hp1, hid2']) hne
  · rcases hcase2 with ⟨hw, _⟩ | ⟨_, _, _, hload⟩
    · rw [hp2] at hw; cases hw
    · refine ⟨t0, ht0, ha0, t', ht', hid', hdisp, t2', ht2', hid2', hload hp2, ?_⟩
      intro v1 v2 h1 h2
      have := hle _ h1
      exact ⟨_, h2, by omega⟩

/-- every episode has its list of applications -/
theorem c07_run_of_reach {ec : EnvCfg} {st : RewardStatic} {s0 : State} {e : EnvState}
    (h : EnvReach orc inst ec st s0 e) : ∃ C, EnvRun orc inst ec st s0 e C := by
  induction h with
  | reset h => exact ⟨_, .reset h⟩
  | step _ h ih => obtain ⟨C, hC⟩ := ih; exact ⟨_, .step hC h⟩

/-- the post-state of every listed application is a state the environment exposes -/
theorem c07_calls_exposed {ec : EnvCfg} {st : RewardStatic} {s0 : State} {e : EnvState} {C : List Call}
    (h : EnvRun orc inst ec st s0 e C) : ∀ c ∈ C, Exposed orc inst ec st s0 c.post := by
  induction h with
  | @reset r e mic h =>
    intro c hc
    obtain ⟨res, r', h2, _⟩ := envReset_ok h
    refine Exposed.resetMicro h ?_
    rw [← ap_stepCalls_micro h2]
    exact List.mem_map.mpr ⟨c, hc, rfl⟩
  | @step e a out C hprev h ih =>
    intro c hc
    rcases List.mem_append.mp hc with hc | hc
    · exact ih c hc
    · obtain ⟨_, res', mw, r, mic, rew, cnt, _, hm, _, _, hout⟩ := envStep_ok h
      refine Exposed.micro (ap_envRun_reach hprev) h ?_
      rw [hout, ← show _ = mic from ap_mwCalls_micro hm]
      exact List.mem_map.mpr ⟨c, hc, rfl⟩

/-- so `hown` follows from `DepOwn` in every exposed state -/
theorem c07_approach_leg_of_exposed {ec : EnvCfg} {st : RewardStatic} {s0 : State} (hst : Start orc inst s0)
    {e : EnvState} {C : List Call} (hrun : EnvRun orc inst ec st s0 e C)
    (hown : ∀ σ, Exposed orc inst ec st s0 σ → DepOwn σ)
    {C1 C2 C3 : List Call} {cd cp : Call} (hC : C = C1 ++ cd :: (C2 ++ cp :: C3)) {a : Nat}
    (hd1 : cd.tr.comp = .t a) (hd2 : cd.tr.new = .t .working)
    (hp1 : cp.tr.comp = .t a) (hp2 : cp.tr.new = .t .transit) :
    ∃ t0 ∈ cd.pre.transports, t0.id = a ∧ ∃ t' ∈ cd.post.transports, t'.id = a ∧ t0.st = .idle ∧ t'.st = .pickup ∧
      Dispatched orc inst cd.pre cd.tr t0 t' ∧ ∀ x, t'.occ = .at x → x ≤ cp.pre.time :=
  c07_approach_leg hst hrun (fun c hc => hown _ (c07_calls_exposed hrun c hc)) hC hd1 hd2 hp1 hp2

/-- **unconditional for instances with one AGV**: there every parked transition is the AGV's own
(`ap_exposed_depOwn`) -/
theorem c07_approach_leg_single_agv {ec : EnvCfg} {st : RewardStatic} {s0 : State} (hst : Start orc inst s0)
    (hone : inst.transports.length ≤ 1) {e : EnvState} {C : List Call} (hrun : EnvRun orc inst ec st s0 e C)
    {C1 C2 C3 : List Call} {cd cp : Call} (hC : C = C1 ++ cd :: (C2 ++ cp :: C3)) {a : Nat}
    (hd1 : cd.tr.comp = .t a) (hd2 : cd.tr.new = .t .working)
    (hp1 : cp.tr.comp = .t a) (hp2 : cp.tr.new = .t .transit) :
    ∃ t0 ∈ cd.pre.transports, t0.id = a ∧ ∃ t' ∈ cd.post.transports, t'.id = a ∧ t0.st = .idle ∧ t'.st = .pickup ∧
      Dispatched orc inst cd.pre cd.tr t0 t' ∧ ∀ x, t'.occ = .at x → x ≤ cp.pre.time :=
  c07_approach_leg_of_exposed hst hrun (fun _ h => ap_exposed_depOwn hst hone h) hC hd1 hd2 hp1 hp2

theorem c07_approach_leg_travel_single_agv {ec : EnvCfg} {st : RewardStatic} {s0 : State} (hst : Start orc inst s0)
    (hone : inst.transports.length ≤ 1) {e : EnvState} {C : List Call} (hrun : EnvRun orc inst ec st s0 e C)
    {C1 C2 C3 : List Call} {cd cp : Call} (hC : C = C1 ++ cd :: (C2 ++ cp :: C3)) {a : Nat}
    (hd1 : cd.tr.comp = .t a) (hd2 : cd.tr.new = .t .working)
    (hp1 : cp.tr.comp = .t a) (hp2 : cp.tr.new = .t .transit) :
    ∃ t0 ∈ cd.pre.transports, t0.id = a ∧ ∃ j ∈ cd.pre.jobs, cd.tr.job = some j.id ∧
      ∃ (cur src : Loc) (bc : BufCfg) (c : TimeCfg), t0.loc = .at cur ∧ bc ∈ allBufCfgs inst ∧ bc.id = j.loc ∧
        (bc.parent = none ∧ src = .b j.loc ∨ ∃ mid, bc.parent = some (.m mid) ∧ src = .m mid) ∧
        travelCfg inst cur src = some c ∧
        (∀ d, c = .det d → cd.pre.time + d ≤ cp.pre.time) ∧
        (∀ sid, c = .stoch sid → ∃ k, cd.pre.time + orc sid k ≤ cp.pre.time) :=
  c07_approach_leg_travel hst hrun
    (fun c hc => ap_exposed_depOwn hst hone (c07_calls_exposed hrun c hc)) hC hd1 hd2 hp1 hp2

namespace ExA

open ExT

/-- `reset`, then "accept" on `ExT.instT`: the AGV stands at `m-0`, the jobs lie in the input buffer
`b-7`; the applications are dispatch (time 0), arrive-and-wait (1), pickup (1), delivery (2),
release (2) -/
def check : Bool :=
  match envReset orc0 instT ec Ex.s0 r0 with
  | .error _ => false
  | .ok (e, _) =>
    match envStep orc0 instT ec st e .accept with
    | .error _ => false
    | .ok _ =>
      match stepCalls orc0 instT ec.sm ec.fuel Ex.s0 r0 noOpAction ++ mwCalls orc0 instT ec.sm ec.fuel e.res e.rng .accept with
      | cd :: cw :: cp :: _ =>
        decide (cd.tr = ⟨.t 0, .t .working, some 0⟩ ∧ cd.pre.time = 0 ∧
          cd.pre.transports.map (fun t => (t.id, t.loc)) = [(0, .at (.m 0))] ∧
          cd.post.transports.map (fun t => (t.id, t.loc, t.occ)) = [(0, .route (.m 0) 7 (.m 0), .at 1)] ∧
          travelCfg instT (.m 0) (.b 7) = some (.det 1) ∧
          cw.tr = ⟨.t 0, .t .waitingpickup, some 0⟩ ∧ cw.pre.time = 1 ∧
          cp.tr = ⟨.t 0, .t .transit, some 0⟩ ∧ cp.pre.time = 1 ∧
          travelCfg instT (.b 7) (.m 0) = some (.det 1) ∧
          cp.post.transports.map (fun t => (t.id, t.occ)) = [(0, .at 2)] ∧
          (cd :: cw :: cp :: []).all (fun c => c.post.transports.all fun t =>
            match t.occ with | .dep _ _ tr => tr.comp == .t t.id | _ => true))
      | _ => false

/-- **non-vacuity, tight**: an episode prefix of `ExT.instT` in which the AGV, standing at `m-0`, is
dispatched at time 0 to a job in the input buffer `b-7` (entry `m-0 → b-7` = 1), arrives and waits at
time 1 and picks up at time 1 = 0 + 1; its arrival time after the pickup is 2 = 0 + 1 + 1 -/
theorem c07_approach_example : ∃ e C cd cw cp rest, EnvRun orc0 instT ec st Ex.s0 e C ∧ C = cd :: cw :: cp :: rest ∧
    cd.tr = ⟨.t 0, .t .working, some 0⟩ ∧ cd.pre.time = 0 ∧
    cd.pre.transports.map (fun t => (t.id, t.loc)) = [(0, .at (.m 0))] ∧
    cd.post.transports.map (fun t => (t.id, t.loc, t.occ)) = [(0, .route (.m 0) 7 (.m 0), .at 1)] ∧
    travelCfg instT (.m 0) (.b 7) = some (.det 1) ∧
    cp.tr = ⟨.t 0, .t .transit, some 0⟩ ∧ cp.pre.time = 1 ∧
    travelCfg instT (.b 7) (.m 0) = some (.det 1) ∧
    cp.post.transports.map (fun t => (t.id, t.occ)) = [(0, .at 2)] := by
  have h : check = true := by decide +kernel
  unfold check at h
  split at h
  · cases h
  · rename_i e mic hreset
    split at h
    · cases h
    · rename_i out hstep
      split at h
      · rename_i cd cw cp rest hC
        have h' := of_decide_eq_true h
        exact ⟨_, _, cd, cw, cp, rest, EnvRun.step (EnvRun.reset hreset) hstep, hC, h'.1, h'.2.1, h'.2.2.1, h'.2.2.2.1,
          h'.2.2.2.2.1, h'.2.2.2.2.2.2.2.1, h'.2.2.2.2.2.2.2.2.1, h'.2.2.2.2.2.2.2.2.2.1, h'.2.2.2.2.2.2.2.2.2.2.1⟩
      · cases h

/-- the example instance has one AGV: the theorems apply to all its episodes without `hown` -/
example : instT.transports.length ≤ 1 := by decide

end ExA

end JSL
