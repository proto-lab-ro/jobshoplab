import JSL.Lib.StepSpec

/-!
# C20 — stepping is functional; rejected actions have no effect

Purity (the input state is never altered) holds of the model by construction – `smStep` is a
function – and says nothing about Python aliasing; that half is covered by the harness
(deep snapshots before/after every step).  The theorems below are the atomicity of rejection.
-/

namespace JSL

variable {orc : Oracle} {inst : Instance} {cfg : SMConfig} {fuel : Nat}

/-- number of validation errors of `process_state_transitions` is positive as soon as one
transition is rejected at its turn -/
theorem processTransitions_nerr_pos (trs₁ : List Transition) (tr : Transition) (trs₂ : List Transition) :
    ∀ (s : State) (r : Rng) (o : ProcOut),
      processTransitions orc inst (trs₁ ++ tr :: trs₂) s r = .ok o →
      (∀ o₁, processTransitions orc inst trs₁ s r = .ok o₁ → transitionValid o₁.state tr = .ok false) →
      o.nerr > 0 := by
  induction trs₁ with
  | nil =>
    intro s r o h hrej
    rcases processTransitions_cons_ok h with ⟨hv, _⟩ | ⟨_, o', _, rfl⟩
    · rw [hrej _ (processTransitions_nil s r)] at hv
      cases hv
    · exact Nat.succ_pos _
  | cons t ts ih =>
    intro s r o h hrej
    rcases processTransitions_cons_ok h with ⟨hv, s', r', o', ha, ho', rfl⟩ | ⟨_, o', _, rfl⟩
    · apply ih s' r' o' ho'
      intro o₁ h₁
      apply hrej { o₁ with micro := s' :: o₁.micro }
      rw [processTransitions_cons_valid hv ha, h₁]
      rfl
    · exact Nat.succ_pos _

/-- **Atomicity of rejection.**  If the step reports failure it returns exactly the state it was
given, with no offers. -/
theorem c20_failure_returns_input (s0 : State) (r : Rng) (a : Action) (res : SMResult) (r' : Rng)
    (mic : List State) (h : smStep orc inst cfg fuel s0 r a = .ok (res, r', mic))
    (hf : res.success = false) : res.state = s0 ∧ res.possible = [] := by
  rcases (smStep_spec h).2 with h1 | h1 | h1
  · exact ⟨h1.2.2.1, h1.2.2.2⟩
  · simp [h1.1] at hf
  · simp [h1.1] at hf

/-- If any transition of the action is rejected at its turn (in the order the step processes
them: transports first, stable), the step – when it returns – reports failure and hands back the
state it was given.  Any order and multiplicity of the offending transitions is covered because
`pre`/`post` are arbitrary. -/
theorem c20_atomic (s0 : State) (r : Rng) (a : Action) (pre : List Transition) (bad : Transition)
    (post : List Transition) (hsort : sortedByTransport a.transitions = pre ++ bad :: post)
    (hrej : ∀ o₁, processTransitions orc inst pre s0 r = .ok o₁ → transitionValid o₁.state bad = .ok false)
    (res : SMResult) (r' : Rng) (mic : List State)
    (h : smStep orc inst cfg fuel s0 r a = .ok (res, r', mic)) :
    res.success = false ∧ res.state = s0 ∧ res.possible = [] := by
  obtain ⟨p, hp, ⟨_, _, _, rfl⟩ | ⟨hn, _⟩⟩ := smStep_cases h
  · exact ⟨rfl, rfl, rfl⟩
  · have hpos := processTransitions_nerr_pos pre bad post s0 r p (hsort ▸ hp) hrej
    omega

/-- A failed step makes the environment end the episode as truncated, not terminated, and keep
its state. -/
theorem c20_env_truncates {ec : EnvCfg} {st : RewardStatic} (e : EnvState) (a : AgentAct) (out : StepOut)
    (h : envStep orc inst ec st e a = .ok out) (hf : out.obsRes.success = false) :
    out.env.truncated = true ∧ out.env.terminated = false ∧ out.env.done = true ∧
      out.env.res = e.res := by
  obtain ⟨_, res', mw, r, mic, rew, cnt, _, _, rfl, _, rfl⟩ := envStep_ok h
  have hf : res'.success = false := hf
  simp [hf]

end JSL
