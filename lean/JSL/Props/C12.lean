import JSL.Inv.EnvReach
import JSL.Props.Example
import JSL.Inv.ShiftEnv

/-!
# C12 — simulated time is monotone, event-exact and (without outages) translation-invariant

* handlers never touch the clock (`c12_handlers_keep_clock`);
* the time machines the environment uses stay while something can be decided
  (`c12_stays_while_decidable`) and otherwise jump exactly to the earliest pending completion or
  arrival, or by one unit if nothing is pending (`c12_jump_exact`);
* along every step of every execution the clock never goes back (`c12_monotone`), and when
  control returns with the shop not done nothing is overdue (`c12_nothing_overdue`);
* a forced jump from such a state strictly advances time (`c12_forced_jump_strict`);
* `jump_by_one` is not event-exact (`c12_jump_by_one_overshoots`, why it is excluded from the
  admissible actions; nothing in the environment uses it);
* translation invariance, for instances on which no outage is configured (`NoOutages`): one
  `state.step` (`c12_translation_invariant_step`), `reset` (`c12_translation_invariant_reset`), a
  whole run through the middleware under any agent behaviour (`c12_translation_invariant_run`) and
  `env.step` apart from the terminal reward (`c12_translation_invariant_env_step`) started `δ` later
  give exactly the outcome with every timestamp moved by `δ` and nothing else changed – stochastic
  durations included (the sampled values do not depend on the clock);
* it is **false when outages are configured** – the time since an outage last struck is measured
  from the absolute instant 0 (`c12_outage_absolute_zero`) – and the terminal reward reads the
  absolute clock (`c12_terminal_reward_reads_clock`).
-/

namespace JSL

variable {orc : Oracle} {inst : Instance}

/-- applying any transition leaves the clock alone -/
theorem c12_handlers_keep_clock {s s' : State} {r r' : Rng} {tr : Transition}
    (h : applyTransition orc inst s r tr = .ok (s', r')) : s'.time = s.time := applyTransition_time h

/-- while the agent can still decide something, `jump_to_event` does not move the clock -/
theorem c12_stays_while_decidable {cfg : SMConfig} {s : State} {n : Nat}
    (hn : numPossibleEvents inst cfg s = .ok n) (hpos : 0 < n) : jumpToEvent inst cfg s = .ok s.time := by
  unfold jumpToEvent
  simp [hn, hpos]

/-- otherwise it is the forced jump -/
theorem c12_else_forced {cfg : SMConfig} {s : State} (hn : numPossibleEvents inst cfg s = .ok 0) :
    jumpToEvent inst cfg s = forceJump s := by
  unfold jumpToEvent
  simp [hn]

/-- **Event-exact.**  The forced jump goes exactly to the earliest pending processing end or AGV
arrival – it is one of them and no pending one is earlier – or advances by one unit when nothing
is pending. -/
theorem c12_jump_exact {s : State} (hS : SchedInv s) {t : Int} (h : forceJump s = .ok t) :
    s.time ≤ t ∧
    (∀ j ∈ s.jobs, ∀ o ∈ j.ops, o.st = .processing → ∀ b, o.stop = some b → t ≤ b) ∧
    (∀ x ∈ s.transports, x.st ≠ .idle → ∀ o, x.occ = .at o → t ≤ o) ∧
    ((∃ j ∈ s.jobs, ∃ o ∈ j.ops, o.st = .processing ∧ o.stop = some t) ∨
     (∃ x ∈ s.transports, x.st ≠ .idle ∧ x.occ = .at t) ∨
     ((∀ j ∈ s.jobs, ∀ o ∈ j.ops, o.st ≠ .processing) ∧
      (∀ x ∈ s.transports, x.st ≠ .idle → ∀ o, x.occ ≠ .at o) ∧ t = s.time + 1)) := by
  obtain ⟨h1, h2, h3⟩ := forceJump_spec hS h
  exact ⟨h1, h2.1, h2.2, h3⟩

/-- **Monotone.**  Along one `state.step` of any execution the clock never goes back: not in the
post-state of any applied transition, not in a sub-state, and not in the returned state while the
episode runs (when the shop is done the clock is stamped with the makespan instead). -/
theorem c12_monotone {cfg : SMConfig} {s0 s : State} (hst : Start orc inst s0) (h : OccursA orc inst cfg s0 s)
    {a : Action} (ha : Admissible a) {fuel : Nat} {r r' : Rng} {res : SMResult} {mic : List State}
    (hstep : smStep orc inst cfg fuel s r a = .ok (res, r', mic)) :
    (∀ σ ∈ mic, s.time ≤ σ.time) ∧ (∀ σ ∈ res.subStates, s.time ≤ σ.time) ∧
      (res.done = false → s.time ≤ res.state.time) := by
  obtain ⟨w, hI, hS⟩ := occursA_inv hst h
  have nn := nonnegB_sound hst.samples hst.nonneg
  have := smStep_clock w nn hI hS ha hstep
  exact ⟨this.1, this.2.1, this.2.2.1⟩

/-- **Nothing overdue when control returns.**  After a successful step that does not finish the
shop, every busy machine is occupied strictly beyond now and every busy AGV with a fixed arrival
or waiting time has it strictly ahead. -/
theorem c12_nothing_overdue {cfg : SMConfig} {s0 s : State} (hst : Start orc inst s0) (h : OccursA orc inst cfg s0 s)
    {a : Action} (ha : Admissible a) {fuel : Nat} {r r' : Rng} {res : SMResult} {mic : List State}
    (hstep : smStep orc inst cfg fuel s r a = .ok (res, r', mic)) (hs : res.success = true) (hd : res.done = false) :
    (∀ m ∈ res.state.machines, m.st ≠ .idle → ∃ b, m.occ = some b ∧ res.state.time < b) ∧
    (∀ t ∈ res.state.transports, t.st ≠ .idle → ∀ o, t.occ = .at o → res.state.time < o) := by
  obtain ⟨w, hI, hS⟩ := occursA_inv hst h
  have nn := nonnegB_sound hst.samples hst.nonneg
  have hq := (smStep_clock w nn hI hS ha hstep).2.2.2.1 hs hd
  have hS' := (smStep_sched w nn hI hS ha hstep).2.2.2 hd
  refine ⟨?_, fun t ht hb o ho => hq.transport ht hb ho⟩
  intro m hm hb
  obtain ⟨j, _, hstore, _, _, _, _, hne⟩ := hS'.busyHolds m hm hb
  have := hq.machine hm hb (by rw [hstore]; simp)
  cases ho : m.occ with
  | none => exact absurd ho hne
  | some b =>
    rw [ho] at this
    simp [dueAt] at this
    exact ⟨b, rfl, this⟩

/-- a forced jump from a state in which nothing is due strictly advances the clock -/
theorem forceJump_strict {s : State} (w : WF inst) (hI : StructInv inst s) (hS : SchedInv s) (hq : Quiet inst s)
    {t : Int} (h : forceJump s = .ok t) : s.time < t := by
  obtain ⟨_, _, h3⟩ := forceJump_spec hS h
  rcases h3 with ⟨j, hj, o, ho, hst, hstop⟩ | ⟨x, hx, hb, hocc⟩ | ⟨_, _, e⟩
  · obtain ⟨m, hm, _, hb, hstore⟩ := hS.procOnBusy j hj o ho hst
    obtain ⟨j', hj', hstore', op, hop, _, hstop', hne⟩ := hS.busyHolds m hm hb
    have hjj : j' = j := by
      rw [hstore] at hstore'
      have : j.id = j'.id := by simpa using hstore'
      exact eq_of_mem_of_key_eq (key := fun (y : JobState) => y.id) (hI.shape.jobsNodup w) hj' hj this.symm
    subst hjj
    obtain ⟨_, _, hl, _, hpst⟩ := processing?_split' hop
    have hopmem : op ∈ j'.ops := by rw [hl]; simp
    have : o = op := OpsOK_one_processing _ _ (hS.ops j' hj) o ho op hopmem hst hpst
    subst this
    have hd := hq.machine hm hb (by rw [hstore]; simp)
    rw [← hstop', hstop] at hd
    simpa [dueAt] using hd
  · exact hq.transport hx hb hocc
  · omega

/-- **A forced jump strictly advances time** in every environment state that still has offers. -/
theorem c12_forced_jump_strict {ec : EnvCfg} {st : RewardStatic} {s0 : State} {e : EnvState}
    (hst : Start orc inst s0) (h : EnvReach orc inst ec st s0 e) (hne : e.res.possible ≠ [])
    {t : Int} (hj : forceJump e.res.state = .ok t) : e.res.state.time < t := by
  have hi := envReach_inv hst h
  obtain ⟨w, hI, hS⟩ := occursA_inv hst (hi.live hne).1
  exact forceJump_strict w hI hS (hi.quiet hne) hj

/-- `jump_by_one` is not event-exact: in a state with something pending right now (the forced jump
stays at the current instant) it still advances.  It is excluded from the admissible actions;
neither the environment nor the middleware ever uses it. -/
theorem c12_jump_by_one_overshoots : ∃ (s : State) (cfg : SMConfig) (t : Int),
    runTimeMachine Ex.inst cfg s .jumpByOne = .ok t ∧ forceJump s = .ok (s.time) ∧ s.time < t := by
  refine ⟨{ Ex.s0 with jobs := Ex.s0.jobs.map fun j => { j with ops := j.ops.map fun o =>
      if o.idx = 0 ∧ o.job = 0 then { o with st := .processing, start := some 0, stop := some 0 } else o } },
    { allowEarly := true }, 1, rfl, rfl, by decide⟩

/-- **Translation invariance fails with outages.**  Whether an outage strikes depends on the time
since it last did; for an outage that has never struck that time is measured from the absolute
instant 0, not from the start of the episode: the same question asked at the same relative
instant of an episode started `d` later is answered differently. -/
theorem c12_outage_absolute_zero :
    ∃ (now d f : Int), 0 < d ∧
      (do let since ← outageSince now (.inactive none); pure (shouldApply orc (fun _ => 0) (.det f) since).1 : Except Err Bool) ≠
      (do let since ← outageSince (now + d) (.inactive none); pure (shouldApply orc (fun _ => 0) (.det f) since).1) := by
  refine ⟨5, 100, 10, by decide, ?_⟩
  simp [outageSince, shouldApply, bind, Except.bind, pure, Except.pure]

/-- **One step of the state machine is translation-invariant**: from the state with every
timestamp moved by `δ`, the same action gives the result with every timestamp (returned state,
sub-states, post-state of every applied transition) moved by `δ`; action, success and done flags,
offers, update counters and the raised error are the same. -/
theorem c12_translation_invariant_step (hno : NoOutages inst) (δ : Int) (cfg : SMConfig) (fuel : Nat) (s : State)
    (r : Rng) (a : Action) :
    smStep orc inst cfg fuel (shiftState δ s) r a =
      (smStep orc inst cfg fuel s r a).map (fun p => (shiftResult δ p.1, p.2.1, p.2.2.map (shiftState δ))) :=
  smStep_shift δ hno orc cfg fuel s r a

/-- `reset` from the initial state moved by `δ` -/
theorem c12_translation_invariant_reset (hno : NoOutages inst) (δ : Int) (ec : EnvCfg) (s : State) (r : Rng) :
    envReset orc inst ec (shiftState δ s) r =
      (envReset orc inst ec s r).map (fun p => ({ p.1 with res := shiftResult δ p.1.res }, p.2.map (shiftState δ))) := by
  unfold envReset
  exact bind_map_peel (mwReset_shift δ hno orc ec.sm ec.mw ec.fuel s r) fun q => rfl

/-- **A whole run is translation-invariant**: `reset`, then any sequence of agent actions (accept,
decline, outside the space) through the middleware – started `δ` later, every state of every
result is the one of the original run moved by `δ`; offers, flags, bookkeeping and errors agree. -/
theorem c12_translation_invariant_run (hno : NoOutages inst) (δ : Int) (cfg : SMConfig) (mc : MwCfg) (fuel : Nat)
    (s0 : State) (r : Rng) (as : List AgentAct) :
    mwRun orc inst cfg mc fuel (shiftState δ s0) r as =
      (mwRun orc inst cfg mc fuel s0 r as).map
        (fun p => ((shiftResult δ p.1.1, p.1.2.map (shiftState δ)), p.2.map (Except.map (shiftEntry δ)))) := by
  unfold mwRun
  rw [mwReset_shift δ hno]
  cases mwReset orc inst cfg mc fuel s0 r with
  | error e => rfl
  | ok q =>
    simp only [except_map'_ok, shiftMw]
    rw [mwRunFrom_shift δ hno]

/-- `env.step`, everything but the reward: flags, makespan (moved by `δ`), states, counters -/
theorem c12_translation_invariant_env_step (hno : NoOutages inst) (δ : Int) (ec : EnvCfg) (st : RewardStatic)
    (e : EnvState) (a : AgentAct) :
    (envStep orc inst ec st (shiftEnv δ e) a).map StepOut.noReward =
      (envStep orc inst ec st e a).map (fun o => (shiftStepOut δ o).noReward) := by
  unfold envStep
  rw [show (shiftEnv δ e).done = e.done from rfl]
  cases e.done with
  | true => rfl
  | false =>
    refine bind_upto (map_id_of_eq_map (mwStep_shift δ hno orc ec.sm ec.mw ec.fuel e.res e.mw e.rng a)) ?_
    rintro _ ⟨⟨s', subs, act, succ, dn, poss⟩, mw, r1, mic⟩ rfl
    -- the reward is computed from the new environment state, whose shape depends on `success`
    cases succ with
    | false =>
      refine bind_upto (rewardMake_cnt δ ec.rw st e.rwCnt e.res rfl true) ?_
      rintro ⟨rew', cnt'⟩ ⟨rew, cnt⟩ ⟨⟩
      rfl
    | true =>
      refine bind_upto (rewardMake_cnt δ ec.rw st e.rwCnt ⟨s', subs, act, true, dn, poss⟩ (isDone_shift δ inst s')
        (decide (mw.joker < 0))) ?_
      rintro ⟨rew', cnt'⟩ ⟨rew, cnt⟩ ⟨⟩
      simp only [shiftResult_state, isDone_shift]
      cases isDone inst s' <;> rfl

/-- the terminal reward is not translation-invariant: it reads the absolute clock -/
theorem c12_terminal_reward_reads_clock :
    sparseReward ⟨1, 0, 0⟩ ⟨2, 0, 1, 1⟩ (0 + 1) true false ≠ sparseReward ⟨1, 0, 0⟩ ⟨2, 0, 1, 1⟩ 0 true false := by
  intro h
  have h1 : sparseReward ⟨1, 0, 0⟩ ⟨2, 0, 1, 1⟩ (0 + 1) true false = .ok ((1 : Rat) / 2) := by
    simp [sparseReward]
  have h2 : sparseReward ⟨1, 0, 0⟩ ⟨2, 0, 1, 1⟩ 0 true false = .ok ((2 : Rat) / 2) := by
    simp [sparseReward]
  rw [h1, h2] at h
  simp only [Except.ok.injEq] at h
  grind

/-- the decidable form printed on the `G` line of every scenario by both sides -/
theorem c12_no_outages_checker_sound (h : noOutagesB inst = true) : NoOutages inst := by
  simp only [noOutagesB, Bool.and_eq_true, List.all_eq_true, List.isEmpty_iff] at h
  exact ⟨h.1, h.2⟩

/-- non-vacuity: the example instance has no outage configured, and moving by 0 is the identity -/
example : NoOutages Ex.inst ∧ shiftState 0 Ex.s0 = Ex.s0 := ⟨⟨by decide, by decide⟩, shiftState_zero _⟩

end JSL
