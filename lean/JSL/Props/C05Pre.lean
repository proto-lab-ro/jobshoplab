import JSL.Inv.StartOnlyFifo
import JSL.Props.C05Total
import JSL.Inv.AcceptBound

/-!
# C05 for the wider class `totalClassPB`: machine pre-buffers of any type

`totalClassPB inst s0` (`JSL/Model/RoomyPre.lean`) is `totalClassB inst s0` with `flexInstB` (every buffer
unordered) replaced by `pickupFlexB` (every stand-alone buffer, machine internal buffer, post-buffer and AGV
buffer unordered; **pre-buffers FIFO / LIFO / DUMMY / FLEX**).  A machine with an ordered pre-buffer starts
the job its discipline names by a timed transition, inside the `while timed_transitions` loop.

* `c05_state_step_never_raises_in_class_pre` – `state.step` from any state of an execution, with any action
  the middleware can submit, returns a **successful** result or the timed loop runs out of fuel;
* `c05_reset_never_raises_in_class_pre`      – the same for `reset`;
* `c05_step_never_raises_with_offer_pre`     – `env.step` handles the actions 0 and 1 in every environment
  state that is not done and holds an offer;
* `c05_step_never_raises_in_class_pre`       – … in every environment state that is not done, given that
  `reset` does not finish the shop (`ResetLive`, see `JSL/Inv/TotalReset.lean`: proved only for instances
  with FLEX pre-buffers and at least one job, `resetLive_of_preFlex` – so a theorem in the class
  `totalClassB`, a hypothesis here; `ExPre.fifo_run` checks it for `ExFifo.inst` with one seed);
* `c05_no_step_fails_in_class_pre`           – no step returns a failed result.

The proofs (`JSL/Inv/Total*.lean`) use that a buffer is unordered only where a job is picked up from it, and
they cover every batch `create_timed_transitions` builds, with or without `IDLE → SETUP` transitions
(`TimedM`).  Not proved here: the bound on the fuel (the measure of `JSL/Inv/FuelMeasure.lean` needs a term
for the operations that can still start inside the loop).
-/

namespace JSL

variable {orc : Oracle} {inst : Instance}

/-- **`state.step` does not raise and does not fail** in the wider class -/
theorem c05_state_step_never_raises_in_class_pre {cfg : SMConfig} {s0 s : State} (hst : Start orc inst s0)
    (hC : totalClassPB inst s0 = true) (h : OccursF orc inst cfg s0 s) {a : Action} (ha : Admissible a)
    (hadm : AdmOffer inst cfg s a) (fuel : Nat) (r : Rng) :
    (∃ res r' mic, smStep orc inst cfg fuel s r a = .ok (res, r', mic) ∧ res.success = true) ∨
      smStep orc inst cfg fuel s r a = .error .outOfFuel := by
  obtain ⟨C, _, _⟩ := totalClassPB_sound hC
  exact (stepTotal_of_class hst C (pb_totP_of_guards hst hC) fuel h ha hadm r).imp id And.right

/-- **`reset` does not raise** in the wider class -/
theorem c05_reset_never_raises_in_class_pre {ec : EnvCfg} {s0 : State} (hst : Start orc inst s0)
    (hC : totalClassPB inst s0 = true) (r : Rng) :
    (∃ out, envReset orc inst ec s0 r = .ok out) ∨ envReset orc inst ec s0 r = .error .outOfFuel := by
  obtain ⟨C, _, _⟩ := totalClassPB_sound hC
  exact (envReset_of_stepTotal (stepTotal_of_class hst C (pb_totP_of_guards hst hC) ec.fuel) r).imp
    (fun ⟨e, mic, h, _⟩ => ⟨(e, mic), h⟩) And.right

/-- **C05 in the wider class, for a state that holds an offer**: `env.step` returns for the actions 0 and 1, or
the timed loop runs out of fuel -/
theorem c05_step_never_raises_with_offer_pre {ec : EnvCfg} {st : RewardStatic} {s0 : State} (hst : Start orc inst s0)
    (hC : totalClassPB inst s0 = true) (hops : st.numOps ≠ 0) (hspan : st.tmax - st.lb ≠ 0)
    (hbias : ec.rw.sparseBias ≠ 0) {e : EnvState} (h : EnvReach orc inst ec st s0 e) (hd : e.done = false)
    (hne : e.res.possible ≠ []) {a : AgentAct} (ha : a = .accept ∨ a = .decline) :
    (∃ out, envStep orc inst ec st e a = .ok out) ∨ envStep orc inst ec st e a = .error .outOfFuel := by
  obtain ⟨C, _, _⟩ := totalClassPB_sound hC
  exact (envStep_of_stepTotal hst C.pflex C.hasAgv (stepTotal_of_class hst C (pb_totP_of_guards hst hC) ec.fuel)
    ⟨hops, hspan, hbias⟩ h hd hne ha).imp id And.right

/-- an environment state of an episode of the wider class that is not done holds an offer, its result is
successful and the shop is not finished -/
theorem c05_not_done_is_live_in_class_pre {ec : EnvCfg} {st : RewardStatic} {s0 : State} (hst : Start orc inst s0)
    (hC : totalClassPB inst s0 = true) (hL : ResetLive orc inst ec s0) {e : EnvState}
    (h : EnvReach orc inst ec st s0 e) (hd : e.done = false) :
    e.res.possible ≠ [] ∧ e.res.success = true ∧ isDone inst e.res.state = false := by
  obtain ⟨C, _, _⟩ := totalClassPB_sound hC
  have H := stepTotal_of_class (cfg := ec.sm) hst C (pb_totP_of_guards hst hC) ec.fuel
  exact ⟨envReach_has_offer hst C.pflex C.hasAgv H hL h hd, envReach_live H hL h hd⟩

/-- **C05 in the wider class**: in every environment state of every episode that is not done, the step
returns – or the timed loop runs out of fuel – provided `reset` does not finish the shop -/
theorem c05_step_never_raises_in_class_pre {ec : EnvCfg} {st : RewardStatic} {s0 : State} (hst : Start orc inst s0)
    (hC : totalClassPB inst s0 = true) (hL : ResetLive orc inst ec s0) (hops : st.numOps ≠ 0)
    (hspan : st.tmax - st.lb ≠ 0) (hbias : ec.rw.sparseBias ≠ 0) {e : EnvState} (h : EnvReach orc inst ec st s0 e)
    (hd : e.done = false) {a : AgentAct} (ha : a = .accept ∨ a = .decline) :
    (∃ out, envStep orc inst ec st e a = .ok out) ∨ envStep orc inst ec st e a = .error .outOfFuel :=
  c05_step_never_raises_with_offer_pre hst hC hops hspan hbias h hd (c05_not_done_is_live_in_class_pre hst hC hL h hd).1 ha

/-- in an environment state that is not done an action outside `Discrete(2)` raises exactly
`ActionOutOfActionSpace` -/
theorem c05_outside_action_rejected_in_class_pre {ec : EnvCfg} {st : RewardStatic} {s0 : State} (hst : Start orc inst s0)
    (hC : totalClassPB inst s0 = true) (hL : ResetLive orc inst ec s0) {e : EnvState}
    (h : EnvReach orc inst ec st s0 e) (hd : e.done = false) :
    envStep orc inst ec st e .outside = .error .actionOutOfSpace :=
  c14_reject e hd (c05_not_done_is_live_in_class_pre hst hC hL h hd).1

/-- **no step of an episode of the wider class fails** -/
theorem c05_no_step_fails_in_class_pre {ec : EnvCfg} {st : RewardStatic} {s0 : State} (hst : Start orc inst s0)
    (hC : totalClassPB inst s0 = true) {e : EnvState} (h : EnvReach orc inst ec st s0 e) {a : AgentAct} {out : StepOut}
    (hs : envStep orc inst ec st e a = .ok out) : out.obsRes.success = true := by
  obtain ⟨C, _, _⟩ := totalClassPB_sound hC
  exact no_step_fails hst (stepTotal_of_class hst C (pb_totP_of_guards hst hC) ec.fuel) h hs

/-- the narrower class is a special case -/
theorem c05_state_step_never_raises_of_narrow {cfg : SMConfig} {s0 s : State} (hst : Start orc inst s0)
    (hC : totalClassB inst s0 = true) (h : OccursF orc inst cfg s0 s) {a : Action} (ha : Admissible a)
    (hadm : AdmOffer inst cfg s a) (fuel : Nat) (r : Rng) :
    (∃ res r' mic, smStep orc inst cfg fuel s r a = .ok (res, r', mic) ∧ res.success = true) ∨
      smStep orc inst cfg fuel s r a = .error .outOfFuel :=
  c05_state_step_never_raises_in_class_pre hst (totalClassPB_of_totalClassB hC) h ha hadm fuel r

namespace ExPre

/-- **the class is inhabited**: `ExFifo.inst` (2 jobs × 2 machines, one AGV, both pre-buffers FIFO) is in
`totalClassPB` and not in `totalClassB` -/
theorem fifo_in_class : totalClassPB ExFifo.inst Ex.s0 = true ∧ totalClassB ExFifo.inst Ex.s0 = false ∧
    pickupFlexB ExFifo.inst = true ∧ flexInstB ExFifo.inst = false ∧
    ExFifo.inst.machines.map (·.pre.type) = [.fifo, .fifo] := by decide +kernel

/-- … so `state.step` never raises along its episodes, and no step fails -/
example {cfg : SMConfig} {s : State} (h : OccursF ExT.orc0 ExFifo.inst cfg Ex.s0 s) {a : Action} (ha : Admissible a)
    (hadm : AdmOffer ExFifo.inst cfg s a) (fuel : Nat) (r : Rng) :
    (∃ res r' mic, smStep ExT.orc0 ExFifo.inst cfg fuel s r a = .ok (res, r', mic) ∧ res.success = true) ∨
      smStep ExT.orc0 ExFifo.inst cfg fuel s r a = .error .outOfFuel :=
  c05_state_step_never_raises_in_class_pre ExFifo.start fifo_in_class.1 h ha hadm fuel r

/-- the always-accept run of `ExFifo.inst` with `k` rounds of fuel per `state.step` -/
def fifoRun (k n : Nat) : Except Err EnvState :=
  match envReset ExT.orc0 ExFifo.inst { ExT.ec with fuel := k } Ex.s0 ExT.r0 with
  | .error e => .error e
  | .ok (e0, _) => acceptRun ExT.orc0 ExFifo.inst { ExT.ec with fuel := k } ExT.st n e0

/-- on `ExFifo.inst`: `reset` (counters `r0`) does not finish the shop; with seven rounds of fuel the always-accept
run finishes after six steps, with six rounds a `state.step` is cut off -/
theorem fifo_run : (match envReset ExT.orc0 ExFifo.inst ExT.ec Ex.s0 ExT.r0 with
      | .ok (e, _) => !isDone ExFifo.inst e.res.state && !e.res.possible.isEmpty | .error _ => false) = true ∧
    (match fifoRun 7 10 with | .ok e => e.terminated && !e.truncated && e.histLen == 6 | .error _ => false) = true ∧
    (match fifoRun 6 10 with | .error e => e == .outOfFuel | .ok _ => false) = true := by decide +kernel

/-- every guard of `Start` and of the wider class, one by one -/
def guardsOfP (ins : Instance) (s0 : State) : List Bool :=
  [initOKB ins s0, restB s0, placedB ins s0, nonnegB ins, tablesTotalB ins, roomyTotB ins, parentsTotB ins, agvOnlyB ins,
   routesB ins, jobsHaveOpsB ins, pickupFlexB ins, hasJobsB ins, readyB ins s0, outShapeB ins s0, outRestB s0]

example : guardsOfP ExFifo.inst Ex.s0 =
    [true, true, true, true, true, true, true, true, true, true, true, true, true, true, true] := by decide +kernel

/-- **`pickupFlexB` is needed**: FIFO post-buffers (`ExTot.instPostFifo`), everything else as in `ExT.instT` –
every other guard holds … -/
example : guardsOfP ExTot.instPostFifo Ex.s0 =
    [true, true, true, true, true, true, true, true, true, true, false, true, true, true, true] := by decide +kernel

/-- … and the offers run out although the shop is not finished; the next step raises `InvalidValue` -/
theorem pickup_buffers_must_be_unordered : ∃ e, EnvReach ExT.orc0 ExTot.instPostFifo ExT.ec ExT.st Ex.s0 e ∧
    e.done = false ∧ envStep ExT.orc0 ExTot.instPostFifo ExT.ec ExT.st e .accept = .error .invalidValue :=
  ExTot.unordered_buffers_are_needed

end ExPre

end JSL
