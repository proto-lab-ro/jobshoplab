import JSL.Inv.ClassicDefs
import JSL.Inv.TotalAgvB
import JSL.Inv.TotalQueryB

/-!
# Classic instances: the pickup and the delivery of an AGV never raise
-/

namespace JSL

variable {orc : Oracle} {inst : Instance}

open AgvB (transportCfg_of_mem)

theorem cfg_ids_parts (w : WF inst) :
    (∀ b ∈ inst.buffers, ∀ m ∈ inst.machines, b.id ≠ m.pre.id ∧ b.id ≠ m.buf.id ∧ b.id ≠ m.post.id) ∧
    (inst.machines.flatMap (fun m => [m.pre.id, m.buf.id, m.post.id])).Nodup := by
  have hnd := w.bufNodup
  unfold allBufCfgs at hnd
  simp only [List.map_append, List.map_flatMap, List.map_cons, List.map_nil] at hnd
  obtain ⟨h1, _, _⟩ := List.nodup_append.mp hnd
  obtain ⟨_, h2, h3⟩ := List.nodup_append.mp h1
  refine ⟨?_, h2⟩
  intro b hb m hm
  have hbm : b.id ∈ inst.buffers.map (·.id) := List.mem_map.mpr ⟨b, hb, rfl⟩
  refine ⟨?_, ?_, ?_⟩ <;> intro e <;> refine h3 b.id hbm b.id (List.mem_flatMap.mpr ⟨m, hm, ?_⟩) rfl <;> simp [e]

theorem machineIdOfBuffer_post (w : WF inst) {mc : MachineCfg} (hmc : mc ∈ inst.machines) :
    machineIdOfBuffer inst.machines mc.post.id = some mc.id := by
  unfold machineIdOfBuffer
  cases hf : inst.machines.find? (fun m => m.pre.id == mc.post.id || m.buf.id == mc.post.id || m.post.id == mc.post.id) with
  | none =>
    have := List.find?_eq_none.mp hf mc hmc
    simp at this
  | some mc' =>
    have hm' := List.mem_of_find?_eq_some hf
    have hp := List.find?_some hf
    have : mc' = mc := by
      refine Classical.byContradiction fun hne => ?_
      refine flatMap_nodup_disjoint _ _ (cfg_ids_parts w).2 mc' hm' mc hmc hne mc.post.id ?_ mc.post.id ?_ rfl
      · simp only [Bool.or_eq_true, beq_iff_eq] at hp
        rcases hp with (e | e) | e <;> simp [e]
      · simp
    rw [this]; rfl

theorem op_machine_mem_locs (w : WF inst) {s : State} (hs : Shape inst s) {j : JobState} (hj : j ∈ s.jobs)
    {o : OpState} (ho : o ∈ j.ops) : Loc.m o.machine ∈ locsOf inst := by
  obtain ⟨mc, hmc, _, _, hid, _⟩ := op_machine w hs hj ho
  unfold locsOf
  exact List.mem_append.mpr (Or.inl (List.mem_map.mpr ⟨mc, hmc, by rw [hid]⟩))

theorem firstOutput_place {o : Nat} (h : firstOutput inst = .ok o) :
    Loc.b o ∈ locsOf inst ∧ o ∈ outputIds inst ∧ ∃ b ∈ inst.buffers, b.id = o := by
  unfold firstOutput at h
  cases hob : outputBuffers inst with
  | nil => simp [hob] at h
  | cons b bs =>
    simp [hob] at h
    have hb : b ∈ outputBuffers inst := by rw [hob]; simp
    have hb' : b ∈ inst.buffers := (List.mem_filter.mp hb).1
    refine ⟨?_, ?_, b, hb', h⟩
    · unfold locsOf
      exact List.mem_append.mpr (Or.inr (List.mem_map.mpr ⟨b, hb', by rw [h]⟩))
    · unfold outputIds
      exact List.mem_map.mpr ⟨b, hb, h⟩

theorem toTransit_total (w : WF inst) (hC : Classic inst) {s : State} (hI : StructInv inst s)
    (hA : AgvFull inst s) {t : TransportState} (ht : t ∈ s.transports) (hst : t.st = .pickup ∨ t.st = .waitingpickup)
    {j : JobState} (hj : j ∈ s.jobs) (hloc : j.loc ∈ pickupPlaces inst)
    (hfresh : j.loc ∈ inst.buffers.map (·.id) → ∃ o, j.nextIdle? = some o) (r : Rng) :
    transitionValid s ⟨.t t.id, .t .transit, some j.id⟩ = .ok true ∧
    ∃ s' r', applyTransition orc inst s r ⟨.t t.id, .t .transit, some j.id⟩ = .ok (s', r') := by
  have hs := hI.shape
  have hgt := getTransport_of_mem (hs.trNodup w) ht
  constructor
  · simp only [transitionValid, hgt, except_bind_ok, except_pure, transportTransitionValid]
    rcases hst with e | e <;> rw [e] <;> rfl
  obtain ⟨tc, htc, hgtc, _, _⟩ := transportCfg_of_mem w hs ht
  have hah : agvHandler t.st .transit = some .pickupToTransit := by
    rcases hst with e | e <;> rw [e] <;> rfl
  have hempty : t.buffer.store = [] := hA.agv.empty t ht (by rcases hst with e | e <;> rw [e] <;> simp)
  -- a pickup place that belongs to no machine is a stand-alone buffer; a job in it is untouched
  have hplace : machineIdOfBuffer inst.machines j.loc = none → j.loc ∈ nonOutIds inst ∧ j.noOpIdle = false := by
    intro hsrc
    unfold pickupPlaces at hloc
    rcases List.mem_append.mp hloc with hloc | hloc
    · refine ⟨hloc, ?_⟩
      obtain ⟨bc, hbc, hbcid⟩ := List.mem_map.mp hloc
      obtain ⟨o, ho⟩ := hfresh (List.mem_map.mpr ⟨bc, (List.mem_filter.mp hbc).1, hbcid⟩)
      have hm := find?_mem_ops ho
      cases hn : j.noOpIdle with
      | false => rfl
      | true =>
        have := List.all_eq_true.mp hn o hm.1
        have h2 := hm.2
        simp at this h2
        exact absurd h2 this
    · obtain ⟨mc, hmc, hmcid⟩ := List.mem_map.mp hloc
      rw [← hmcid, machineIdOfBuffer_post w hmc] at hsrc
      cases hsrc
  rw [applyTransition_on_transport hgt hgtc (by rw [hC.allAgv tc htc]; rfl), hah]
  obtain ⟨out, h⟩ := pickupToTransit_returns w hC.tables hC.routes hI ht hempty hC.roomy hj
    (tr := ⟨.t t.id, .t .transit, some j.id⟩) rfl hplace orc r
  exact ⟨out.1, out.2, h⟩

theorem transitToOutage_total (w : WF inst) (hC : Classic inst) {s : State} (hI : StructInv inst s)
    (hA : AgvFull inst s) {t : TransportState} (ht : t ∈ s.transports) (hst : t.st = .transit)
    {j : JobState} (hstore : t.buffer.store = [j.id]) (r : Rng) :
    transitionValid s ⟨.t t.id, .t .outage, some j.id⟩ = .ok true ∧
    ∃ s' r', applyTransition orc inst s r ⟨.t t.id, .t .outage, some j.id⟩ = .ok (s', r') := by
  have hs := hI.shape
  have hgt := getTransport_of_mem (hs.trNodup w) ht
  constructor
  · simp only [transitionValid, hgt, except_bind_ok, except_pure, transportTransitionValid]
    rw [hst]; rfl
  obtain ⟨tc, htc, hgtc, _, _⟩ := transportCfg_of_mem w hs ht
  have hah : agvHandler t.st .outage = some .transitToOutage := by rw [hst]; rfl
  rw [applyTransition_on_transport hgt hgtc (by rw [hC.allAgv tc htc]; rfl), hah]
  obtain ⟨out, h⟩ := transitToOutage_returns w hC.roomy hI hA ht hst (tr := ⟨.t t.id, .t .outage, some j.id⟩) rfl
    (by rw [hstore]; simp) orc r (fun tc htc _ => by rw [hC.noOutT tc htc]; exact ⟨_, rfl⟩)
  exact ⟨out.1, out.2, h⟩

end JSL
