import JSL.Inv.AgvPass

/-!
# Routes: where a claimed job is taken, and why a delivered job is finished
-/

namespace JSL

variable {orc : Oracle} {inst : Instance}

/-- what one AGV transition does, in enough detail for the route invariant -/
inductive AgvEffectR (inst : Instance) (s s' : State) (tr : Transition) (t0 t' : TransportState) : Prop
  | dispatch (j : JobState) (cur : Loc) (pick : Nat) (drop : Loc) : tr.new = .t .working → t0.st = .idle → t'.st = .pickup →
      t'.job = some j.id → t'.loc = .route cur pick drop → t'.buffer = t0.buffer → j ∈ s.jobs → tr.job = some j.id →
      dropOK inst j JobState.nextIdle? drop → s'.jobs = s.jobs → s'.machines = s.machines → AgvEffectR inst s s' tr t0 t'
  | keep : (t0.st = .pickup ∨ t0.st = .waitingpickup ∨ t0.st = .outage) → t'.st ≠ .transit → t'.job = t0.job →
      t'.loc = t0.loc → t'.buffer = t0.buffer → s'.jobs = s.jobs → s'.machines = s.machines → AgvEffectR inst s s' tr t0 t'
  | pickup (j : JobState) : tr.new = .t .transit → (t0.st = .pickup ∨ t0.st = .waitingpickup) → t'.st = .transit → t'.job = t0.job →
      t'.loc = t0.loc → t'.buffer.store = t0.buffer.store ++ [j.id] → j ∈ s.jobs → tr.job = some j.id →
      s'.jobs = (s.replaceJob (j.at t0.buffer.id)).jobs →
      (∀ m' ∈ s'.machines, ∃ m ∈ s.machines, m.id = m'.id ∧ ∀ x ∈ m'.pre.store, x ∈ m.pre.store) →
      AgvEffectR inst s s' tr t0 t'
  | deliverM (j : JobState) (cur : Loc) (pick : Nat) (ms : MachineState) (bss : BSS) : tr.new = .t .outage →
      (t0.st = .transit ∨ t0.st = .working) → t'.st = .outage → t'.job = none →
      t0.loc = .route cur pick (.m ms.id) → ms ∈ s.machines → j ∈ s.jobs → j.id ∈ t0.buffer.store →
      s'.jobs = (s.replaceJob (j.at ms.pre.id)).jobs → s'.machines = (s.replaceMachine (ms.withPre j.id bss)).machines →
      AgvEffectR inst s s' tr t0 t'
  | deliverB (j : JobState) (cur : Loc) (pick : Nat) (b : BufState) (bss : BSS) : tr.new = .t .outage →
      (t0.st = .transit ∨ t0.st = .working) → t'.st = .outage → t'.job = none →
      t0.loc = .route cur pick (.b b.id) → b ∈ s.buffers → j ∈ s.jobs → j.id ∈ t0.buffer.store →
      s'.jobs = (s.replaceJob (j.at b.id)).jobs → s'.machines = s.machines →
      s'.buffers = (s.replaceBuffer (b.withBack j.id bss)).buffers → AgvEffectR inst s s' tr t0 t'

theorem AgvEffect.toR {s s' : State} {r r' : Rng} {tr : Transition} {t0 t' : TransportState}
    (h : AgvEffect orc inst s s' r r' tr t0 t') : AgvEffectR inst s s' tr t0 t' := by
  cases h with
  | dispatch j cur drop pick occ hn h1 hj htj hdrop e hjobs hmach =>
    subst e; exact .dispatch j cur pick drop hn h1 rfl rfl rfl rfl hj htj hdrop hjobs hmach
  | wait occ _ h1 e hjobs hmach =>
    subst e; exact .keep (h1.imp_right Or.inl) (by simp [TransportState.toWaiting]) rfl rfl rfl hjobs hmach
  | release _ h1 e hjobs hmach =>
    subst e; exact .keep (Or.inr (Or.inr h1)) (by simp [TransportState.toIdle]) rfl rfl rfl hjobs hmach
  | pickup j src dst tt bss hn h1 hj htj _ _ _ e hjobs hmach =>
    subst e
    exact .pickup j hn h1 rfl rfl rfl rfl hj htj hjobs fun m' hm' =>
      let ⟨m, hm, e1, _, _, e2⟩ := hmach m' hm'; ⟨m, hm, e1.symm, e2⟩
  | deliverM j cur pick ms bss1 bss2 outs occ hn h1 hloc hms hj hin e hjobs hmach =>
    subst e; exact .deliverM j cur pick ms bss2 hn h1 rfl rfl hloc hms hj hin hjobs hmach
  | deliverB j cur pick b bss1 bss2 outs occ hn h1 hloc hb hj hin e hjobs hmach hbufs =>
    subst e; exact .deliverB j cur pick b bss2 hn h1 rfl rfl hloc hb hj hin hjobs hmach hbufs

theorem agv_effectR (w : WF inst) {s s' : State} {r r' : Rng} {tr : Transition} {tid : Nat} (hI : StructInv inst s)
    (hc : tr.comp = .t tid) (h : applyTransition orc inst s r tr = .ok (s', r')) :
    ∃ t0 t', t0 ∈ s.transports ∧ t0.id = tid ∧ t'.id = t0.id ∧ s'.transports = (s.replaceTransport t').transports ∧
      AgvEffectR inst s s' tr t0 t' := by
  obtain ⟨t0, t', ht0, hid0, hid', _, htrs, he⟩ := agv_transport_effect w hI hc h
  exact ⟨t0, t', ht0, hid0, hid', htrs, he.toR⟩

theorem replaceOp_keep_idle (j : JobState) (x : OpState) (hx : x.st ≠ .idle)
    (h : ∀ o ∈ j.ops, o.job = x.job ∧ o.idx = x.idx → o.st ≠ .idle) :
    (j.replaceOp x).nextIdle? = j.nextIdle? ∧ (j.replaceOp x).noOpIdle = j.noOpIdle := by
  unfold JobState.nextIdle? JobState.noOpIdle JobState.replaceOp
  simp only
  generalize j.ops = l at h
  induction l with
  | nil => simp
  | cons o os ih =>
    have ih' := ih (fun y hy => h y (by simp [hy]))
    have e1 : (x.st == OSt.idle) = false := by simpa using hx
    have e3 : (x.st != OSt.idle) = true := by simpa using hx
    by_cases hk : (o.job == x.job && o.idx == x.idx) = true
    · have hk' : o.job = x.job ∧ o.idx = x.idx := by simpa using hk
      have ho := h o (by simp) hk'
      have e2 : (o.st == OSt.idle) = false := by simpa using ho
      have e4 : (o.st != OSt.idle) = true := by simpa using ho
      simp only [List.map_cons, hk, if_true, List.find?_cons, e1, e2, List.all_cons, e3, e4, Bool.true_and]
      exact ih'
    · have hk2 : (o.job == x.job && o.idx == x.idx) = false := by simpa using hk
      simp only [List.map_cons, hk2, Bool.false_eq_true, if_false, List.find?_cons, List.all_cons]
      refine ⟨?_, by rw [ih'.2]⟩
      cases o.st == OSt.idle
      · exact ih'.1
      · rfl

/-- what one machine transition does, in enough detail for the route invariant -/
structure MachEffectR (s s' : State) (m0 : MachineState) : Prop where
  transports : s'.transports = s.transports
  job : ∃ j ∈ s.jobs, ∃ J' : JobState, J'.id = j.id ∧ s'.jobs = (s.replaceJob J').jobs ∧
    ((j.id ∈ m0.pre.store ∧ J'.loc = m0.buffer.id ∧
        ∀ m' ∈ s'.machines, ∃ m ∈ s.machines, m.id = m'.id ∧ (∀ x ∈ m'.pre.store, x ∈ m.pre.store) ∧
          (m'.id = m0.id → j.id ∉ m'.pre.store)) ∨
     (j.id ∈ m0.buffer.store ∧ J'.nextIdle? = j.nextIdle? ∧ J'.noOpIdle = j.noOpIdle ∧
        (J'.loc = j.loc ∨ J'.loc = m0.post.id) ∧
        ∀ m' ∈ s'.machines, ∃ m ∈ s.machines, m.id = m'.id ∧ ∀ x ∈ m'.pre.store, x ∈ m.pre.store))

theorem key_unique_in_list : ∀ {l : List OpState}, (l.map (fun o => (o.job, o.idx))).Nodup →
    ∀ {a b : OpState}, a ∈ l → b ∈ l → a.job = b.job ∧ a.idx = b.idx → a = b
  | [], _, _, _, ha, _, _ => by cases ha
  | x :: xs, hnd, a, b, ha, hb, hk => by
    simp only [List.map_cons, List.nodup_cons, List.mem_map, not_exists, not_and] at hnd
    rcases List.mem_cons.mp ha with rfl | ha'
    · rcases List.mem_cons.mp hb with rfl | hb'
      · rfl
      · exact absurd (by simp [hk.1, hk.2]) (hnd.1 b hb')
    · rcases List.mem_cons.mp hb with rfl | hb'
      · exact absurd (by simp [hk.1, hk.2]) (hnd.1 a ha')
      · exact key_unique_in_list hnd.2 ha' hb' hk

theorem key_unique_in_job (w : WF inst) {s : State} (hI : StructInv inst s) {j : JobState} (hj : j ∈ s.jobs)
    {a b : OpState} (ha : a ∈ j.ops) (hb : b ∈ j.ops) (hk : a.job = b.job ∧ a.idx = b.idx) : a = b :=
  key_unique_in_list (hI.shape.ops_key_nodup w hj) ha hb hk


theorem mach_effectR (w : WF inst) {s s' : State} {r r' : Rng} {tr : Transition} {mid : Nat} (hI : StructInv inst s)
    (hS : SchedInv s) (hg : Guard s tr) (hc : tr.comp = .m mid) (h : applyTransition orc inst s r tr = .ok (s', r')) :
    ∃ m0 ∈ s.machines, m0.id = mid ∧ MachEffectR s s' m0 := by
  have hs := hI.shape
  have hmn := hs.machNodup w
  have h0 := h
  cases applyTransition_ran h with
  | t _ hc' _ _ _ _ _ _ => rw [hc] at hc'; cases hc'
  | m m0 hc' hm0 hd ns hn hmh h =>
    have hmem : m0 ∈ s.machines ∧ m0.id = mid := ⟨hm0, by rw [hc] at hc'; cases hc'; rfl⟩
    have htr := (machine_effect w hI hc h0).2.1
    refine ⟨m0, hmem.1, hmem.2, ?_⟩
    -- machines of the new state: the replaced one, or untouched ones
    have mach : ∀ (M' : MachineState), M'.id = m0.id → (∀ x ∈ M'.pre.store, x ∈ m0.pre.store) →
        ∀ m' ∈ (s.replaceMachine M').machines, ∃ m ∈ s.machines, m.id = m'.id ∧ (∀ x ∈ m'.pre.store, x ∈ m.pre.store) ∧
          (m'.id = m0.id → m' = M') := by
      intro M' hid hsub m' hm'
      rcases (mem_replaceMachine hmn hmem.1 hid m').mp hm' with rfl | ⟨h0, hne⟩
      · exact ⟨m0, hmem.1, hid.symm, hsub, fun _ => rfl⟩
      · exact ⟨m', h0, rfl, fun x hx => hx, fun e => absurd e hne⟩
    -- the record in progress of the job the machine holds is overwritten by one that is not idle either
    have busy : ∀ (j : JobState) (op rec : OpState) (M' : MachineState) (l : Nat), j ∈ s.jobs → j.id ∈ m0.buffer.store →
        j.processing? = some op → rec.job = op.job ∧ rec.idx = op.idx → (op.st = .processing → rec.st ≠ .idle) →
        M'.id = m0.id → M'.pre = m0.pre → (l = j.loc ∨ l = m0.post.id) →
        s'.jobs = (s.replaceJob ((j.replaceOp rec).at l)).jobs → s'.machines = (s.replaceMachine M').machines →
        MachEffectR s s' m0 := by
      intro j op rec M' l hj hjin hp hk hrec hid hpre hl hjobs hmachs
      obtain ⟨_, _, hops, _, hpst⟩ := processing?_split' hp
      have hkeep := replaceOp_keep_idle j rec (hrec hpst) (by
        intro o ho hko
        rw [key_unique_in_job w hI hj ho (by rw [hops]; simp) ⟨hko.1.trans hk.1, hko.2.trans hk.2⟩, hpst]; simp)
      refine ⟨htr, j, hj, (j.replaceOp rec).at l, rfl, hjobs, Or.inr ⟨hjin, hkeep.1, hkeep.2, hl, ?_⟩⟩
      intro m' hm'
      rw [hmachs] at hm'
      obtain ⟨m, hm, e1, e2, _⟩ := mach M' hid (fun x hx => hpre ▸ hx) m' hm'
      exact ⟨m, hm, e1, e2⟩
    cases hd with
    | idleToSetup =>
      obtain ⟨j, op, oc, mc, sd, b1, b2, hj, _, hjpre, _, _, _, _, _, _, _, _, rfl⟩ := idleToSetup_spec h
      refine ⟨htr, j, hj, (j.replaceOp (opRec oc s.time (s.time + sd) m0.id)).at m0.buffer.id, rfl, rfl, Or.inl ⟨hjpre, rfl, ?_⟩⟩
      intro m' hm'
      obtain ⟨m, hm, e1, e2, e3⟩ := mach (m0.toSetup j.id b1 b2 (s.time + sd) oc.tool) rfl
        (by intro x hx; simp [MachineState.toSetup, BufState.without] at hx; exact hx.1) m' hm'
      refine ⟨m, hm, e1, e2, ?_⟩
      intro hid
      rw [e3 hid]
      simp [MachineState.toSetup, BufState.without]
    | setupToWorking =>
      obtain ⟨j, op, oc, d, hj, _, hjin, hnn, _, hocj, hoci, _, rfl⟩ := setupToWorking_spec h
      have hbusy : m0.st ≠ .idle := by rw [(machineHandler_setupToWorking hmh).1]; simp
      exact busy j op (opRec oc s.time (s.time + d) m0.id) (m0.toWorking (s.time + d)) j.loc hj hjin
        (held_next w hI hS hm0 hbusy hj hjin hnn) ⟨by simp [opRec, hocj], by simp [opRec, hoci]⟩ (fun _ => by simp [opRec])
        rfl rfl (Or.inl rfl) rfl rfl
    | workingToOutage =>
      obtain ⟨mc, outs, j, op, _, _, _, hj, htj, hp, rfl⟩ := workingToOutage_spec h
      have hjin : j.id ∈ m0.buffer.store :=
        hg.ownJob mid hc (by rw [hn, (machineHandler_workingToOutage hmh).2]) m0 hmem.1 hmem.2 j.id htj
      exact busy j op { op with stop := some (s.time + occupiedFor outs) } (m0.toOutage outs (s.time + occupiedFor outs)) j.loc
        hj hjin hp ⟨rfl, rfl⟩ (fun hpst => by simp [hpst]) rfl rfl (Or.inl rfl) rfl rfl
    | outageToIdle =>
      obtain ⟨j, op, mc, rest, b1, b2, hstore, hj, hp, _, _, _, _, rfl⟩ := outageToIdle_spec h
      exact busy j op { op with stop := some s.time, st := .done } (m0.toIdle j.id b1 b2) m0.post.id hj
        (by rw [hstore]; simp) hp ⟨rfl, rfl⟩ (fun _ => by simp) rfl rfl (Or.inr rfl) rfl rfl

end JSL
