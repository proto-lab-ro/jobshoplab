import JSL.Inv.OpsLemmas

/-! Helper lemmas for the schedule invariant: uniqueness of where a job is stored, distinctness of
buffer ids of different machines, `processing?` after rewriting a record. -/

namespace JSL

variable {inst : Instance}

theorem flatMap_nodup_disjoint {α} (f : α → List Nat) : ∀ (l : List α), (l.flatMap f).Nodup →
    ∀ x ∈ l, ∀ y ∈ l, x ≠ y → ∀ u ∈ f x, ∀ v ∈ f y, u ≠ v
  | [], _, x, hx, _, _, _, _, _, _, _ => by cases hx
  | a :: as, hnd, x, hx, y, hy, hxy, u, hu, v, hv => by
    simp only [List.flatMap_cons] at hnd
    have h := List.nodup_append.mp hnd
    rcases List.mem_cons.mp hx with rfl | hx' <;> rcases List.mem_cons.mp hy with rfl | hy'
    · exact absurd rfl hxy
    · exact h.2.2 u hu v (List.mem_flatMap.mpr ⟨y, hy', hv⟩)
    · intro e; exact h.2.2 v hv u (List.mem_flatMap.mpr ⟨x, hx', hu⟩) e.symm
    · exact flatMap_nodup_disjoint f as h.2.1 x hx' y hy' hxy u hu v hv

theorem machines_bufs_ne {s : State} (hs : Shape inst s) (w : WF inst) {m₁ m₂ : MachineState}
    (h₁ : m₁ ∈ s.machines) (h₂ : m₂ ∈ s.machines) (hne : m₁.id ≠ m₂.id) :
    ∀ u ∈ [m₁.pre.id, m₁.buffer.id, m₁.post.id], ∀ v ∈ [m₂.pre.id, m₂.buffer.id, m₂.post.id], u ≠ v := by
  have := flatMap_nodup_disjoint (fun m : MachineState => List.map (·.id) [m.pre, m.buffer, m.post]) s.machines
    (hs.machBufsNodup w) m₁ h₁ m₂ h₂ (fun e => hne (by rw [e]))
  simpa using this

theorem internal_ne_pre_post {s : State} (hs : Shape inst s) (w : WF inst) {m₁ m₂ : MachineState}
    (h₁ : m₁ ∈ s.machines) (h₂ : m₂ ∈ s.machines) : m₁.buffer.id ≠ m₂.pre.id ∧ m₁.buffer.id ≠ m₂.post.id := by
  by_cases e : m₁.id = m₂.id
  · have : m₁ = m₂ := eq_of_mem_of_key_eq (key := fun (y : MachineState) => y.id) (hs.machNodup w) h₁ h₂ e
    subst this
    have := machine_buf_ids_ne hs w h₁
    exact ⟨this.1.symm, this.2.2⟩
  · have := machines_bufs_ne hs w h₁ h₂ e
    exact ⟨this _ (by simp) _ (by simp), this _ (by simp) _ (by simp)⟩

theorem unique_store {s : State} (c : ConservedV s) (hnd : (s.jobs.map (·.id)).Nodup) {x a b : Nat}
    (ha : x ∈ storeAt s a) (hb : x ∈ storeAt s b) : a = b :=
  unique_loc hnd (c.stored a x ha) (c.stored b x hb)

theorem job_of_store {s : State} (c : ConservedV s) {i : Nat} {j : JobState} (hj : j ∈ s.jobs)
    (h : j.id ∈ storeAt s i) (hnd : (s.jobs.map (·.id)).Nodup) : j.loc = i := by
  have h1 := c.stored i j.id h
  have h2 : (j.id, j.loc) ∈ locs s := List.mem_map.mpr ⟨j, hj, rfl⟩
  exact unique_loc hnd h2 h1

theorem processing?_split {j : JobState} {l1 l2 : List OpState} {op : OpState} (hops : j.ops = l1 ++ op :: l2)
    (hd : ∀ x ∈ l1, x.st = .done) (hop : op.st = .processing) : j.processing? = some op := by
  unfold JobState.processing?
  rw [hops, List.find?_append]
  have : l1.find? (fun o => o.st == OSt.processing) = none := by
    apply List.find?_eq_none.mpr
    intro x hx; simp [hd x hx]
  simp [this, hop]

theorem nextNotDone?_split {j : JobState} {op : OpState} (h : j.nextNotDone? = some op) :
    ∃ l1 l2, j.ops = l1 ++ op :: l2 ∧ (∀ x ∈ l1, x.st = .done) ∧ op.st ≠ .done := by
  unfold JobState.nextNotDone? at h
  obtain ⟨hp, l1, l2, hl, hall⟩ := List.find?_eq_some_iff_append.mp h
  refine ⟨l1, l2, hl, ?_, by simpa using hp⟩
  intro x hx
  have := hall x hx
  simpa using this

theorem processing?_split' {j : JobState} {op : OpState} (h : j.processing? = some op) :
    ∃ l1 l2, j.ops = l1 ++ op :: l2 ∧ (∀ x ∈ l1, x.st ≠ .processing) ∧ op.st = .processing := by
  unfold JobState.processing? at h
  obtain ⟨hp, l1, l2, hl, hall⟩ := List.find?_eq_some_iff_append.mp h
  refine ⟨l1, l2, hl, ?_, by simpa using hp⟩
  intro x hx
  have := hall x hx
  simpa using this

theorem processing?_none_iff {j : JobState} : j.processing? = none ↔ ∀ o ∈ j.ops, o.st ≠ .processing := by
  unfold JobState.processing?
  rw [List.find?_eq_none]
  constructor
  · intro h o ho; simpa using h o ho
  · intro h o ho; simpa using h o ho

theorem nodup_map_pair (k : Nat) : ∀ (l : List Nat), l.Nodup → (l.map (fun i => (k, i))).Nodup := by
  intro l h
  induction l with
  | nil => simp
  | cons a as ih =>
    simp only [List.nodup_cons, List.map_cons, List.mem_map] at h ⊢
    exact ⟨by rintro ⟨x, hx, e⟩; simp at e; subst e; exact h.1 hx, ih h.2⟩

theorem Shape.ops_key_nodup {s : State} (hs : Shape inst s) (w : WF inst) {j : JobState} (hj : j ∈ s.jobs) :
    (j.ops.map (fun o => (o.job, o.idx))).Nodup := by
  have h1 := hs.ops_idx_nodup w hj
  have : j.ops.map (fun o => (o.job, o.idx)) = (j.ops.map (·.idx)).map (fun i => (j.id, i)) := by
    rw [List.map_map]
    apply List.map_congr_left
    intro o ho
    simp [hs.ops_job w hj ho]
  rw [this]
  exact nodup_map_pair _ _ h1

end JSL
