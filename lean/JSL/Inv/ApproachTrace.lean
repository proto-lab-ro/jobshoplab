import JSL.Inv.ApproachStep

/-!
# Every listed application, in order

For the ordered list of applications of an episode (`EnvRun`): every call is a genuine application
in a state that satisfies the structure and schedule invariants, does to the AGV records what
`AgvFx` says, ends an approach only when it is due (`ApCall`); and consecutive calls are linked –
the next transition is applied to the state the previous one produced, after the clock has possibly
advanced, never gone back (`ApLinked`).

The due clause needs every parked transition to be parked at the AGV it addresses (`DepOwn`) in the
post-state of every listed call; this is a hypothesis (`hown`), see `Props/C07Approach.lean`.
-/

namespace JSL

variable {orc : Oracle} {inst : Instance}

def ApAdv (s s' : State) : Prop := ∃ t, s.time ≤ t ∧ s' = { s with time := t }

theorem ApAdv.refl (s : State) : ApAdv s s := ⟨s.time, Int.le_refl _, rfl⟩

theorem ApAdv.trans {a b c : State} (h1 : ApAdv a b) (h2 : ApAdv b c) : ApAdv a c := by
  obtain ⟨t1, l1, rfl⟩ := h1
  obtain ⟨t2, l2, rfl⟩ := h2
  exact ⟨t2, by simp at l2; omega, rfl⟩

theorem ApAdv.depOwn {s s' : State} (h : ApAdv s s') (hd : DepOwn s) : DepOwn s' := by
  obtain ⟨t, _, rfl⟩ := h
  exact hd

structure ApCall (orc : Oracle) (inst : Instance) (c : Call) : Prop where
  struct : StructInv inst c.pre
  sched : SchedInv c.pre
  structPost : StructInv inst c.post
  valid : transitionValid c.pre c.tr = .ok true
  app : ∃ r r', applyTransition orc inst c.pre r c.tr = .ok (c.post, r')
  fx : AgvFx orc inst c.pre c.tr c.post
  due : Leaving c.tr → ∀ t ∈ c.pre.transports, c.tr.comp = .t t.id → t.st = .pickup →
    ∀ o, t.occ = .at o → o ≤ c.pre.time

def ApLinked : State → List Call → Prop
  | _, [] => True
  | s, c :: C => ApAdv s c.pre ∧ ApLinked c.post C

def apEnd : State → List Call → State
  | s, [] => s
  | _, c :: C => apEnd c.post C

theorem apEnd_append : ∀ (C D : List Call) (s : State), apEnd s (C ++ D) = apEnd (apEnd s C) D
  | [], _, _ => rfl
  | c :: C, D, _ => by simp only [List.cons_append, apEnd]; exact apEnd_append C D c.post

theorem ApLinked.append : ∀ {C D : List Call} {s : State}, ApLinked s C → ApLinked (apEnd s C) D → ApLinked s (C ++ D)
  | [], _, _, _, h => h
  | _ :: C, _, _, h1, h2 => ⟨h1.1, ApLinked.append (C := C) h1.2 h2⟩

theorem ApLinked.of_adv {s s2 : State} (h : ApAdv s s2) : ∀ {D : List Call}, ApLinked s2 D → ApLinked s D
  | [], _ => trivial
  | _ :: _, h2 => ⟨h.trans h2.1, h2.2⟩

theorem apEnd_adv {s s2 x : State} (h : ApAdv s s2) : ∀ {D : List Call}, ApAdv (apEnd s2 D) x → ApAdv (apEnd s D) x
  | [], h2 => h.trans h2
  | _ :: _, h2 => h2

theorem ap_depOwn_end : ∀ {C : List Call} {s : State}, DepOwn s → (∀ c ∈ C, DepOwn c.post) → DepOwn (apEnd s C)
  | [], _, h, _ => h
  | c :: C, _, _, h => ap_depOwn_end (C := C) (h c (by simp)) (fun x hx => h x (by simp [hx]))

theorem ap_procCalls_ok (w : WF inst) (nn : NonNeg orc inst) :
    ∀ (L : List Transition) (s : State) (r : Rng) (o : ProcOut), StructInv inst s → SchedInv s →
      Safe s L → Fresh L → ApDueGS s L → processTransitions orc inst L s r = .ok o →
      (∀ c ∈ procCalls orc inst L s r, ApCall orc inst c) ∧ ApLinked s (procCalls orc inst L s r) ∧
        o.state = apEnd s (procCalls orc inst L s r) ∧ StructInv inst o.state ∧ SchedInv o.state
  | [], s, r, o, hI, hS, _, _, _, h => by
    cases h
    exact ⟨fun _ hc => (nomatch hc), trivial, rfl, hI, hS⟩
  | tr :: L, s, r, o, hI, hS, hsafe, hfresh, hgs, h => by
    rcases processTransitions_cons_ok h with ⟨hv, s1, r1, o1, ha, ho1, rfl⟩ | ⟨hv, o1, ho1, rfl⟩
    · have hI1 := applyTransition_struct w hI hv ha
      have hS1 := applyTransition_sched w nn hI hS hv hsafe.guard ha
      have hfr := applyTransition_frame w hI hS hsafe.guard ha
      have hfx := ap_agv_fx w nn hI ha
      have := ap_procCalls_ok w nn L s1 r1 o1 hI1 hS1 (hsafe.step hfresh hfr) (List.pairwise_cons.mp hfresh).2
        (hgs.step hfx) ho1
      rw [procCalls_cons_ok hv ha]
      refine ⟨?_, ⟨ApAdv.refl s, this.2.1⟩, this.2.2.1, this.2.2.2⟩
      intro c hc
      rcases List.mem_cons.mp hc with rfl | hc
      · exact ⟨hI, hS, hI1, hv, ⟨r, r1, ha⟩, hfx, fun hl => hgs.due tr (by simp) hl⟩
      · exact this.1 c hc
    · rw [procCalls_cons_skip hv]
      exact ap_procCalls_ok w nn L s r o1 hI hS hsafe.tail (List.pairwise_cons.mp hfresh).2 hgs.tail ho1

theorem ap_calls_append {C D : List Call} {s s' x : State} {t : Int} (he : s' = apEnd s C) (hle : s'.time ≤ t)
    (hC : ∀ c ∈ C, ApCall orc inst c) (hlC : ApLinked s C)
    (hD : ∀ c ∈ D, ApCall orc inst c) (hlD : ApLinked { s' with time := t } D) :
    (∀ c ∈ C ++ D, ApCall orc inst c) ∧ ApLinked s (C ++ D) ∧
      (ApAdv (apEnd { s' with time := t } D) x → ApAdv (apEnd s (C ++ D)) x) := by
  have hadv : ApAdv (apEnd s C) { s' with time := t } := ⟨t, he ▸ hle, by rw [he]⟩
  refine ⟨fun c hc => (List.mem_append.mp hc).elim (hC c) (hD c),
    ApLinked.append hlC (ApLinked.of_adv hadv hlD), fun h => ?_⟩
  rw [apEnd_append]
  exact apEnd_adv hadv h

variable {cfg : SMConfig}

theorem ap_loopCalls_ok (w : WF inst) (nn : NonNeg orc inst) :
    ∀ (fuel : Nat) (tt : List Transition) (s : State) (r : Rng) (subs mic : List State) (out : LoopOut),
      StructInv inst s → SchedInv s → Safe s tt → Fresh tt → ApDueGS s tt → DepOwn s →
      (∀ c ∈ loopCalls orc inst cfg fuel tt s r, DepOwn c.post) →
      timedLoop orc inst cfg fuel tt s r subs mic = .ok out →
      (∀ c ∈ loopCalls orc inst cfg fuel tt s r, ApCall orc inst c) ∧ ApLinked s (loopCalls orc inst cfg fuel tt s r) ∧
        (out.failed = false → ApAdv (apEnd s (loopCalls orc inst cfg fuel tt s r)) out.state)
  | fuel, [], s, r, subs, mic, out, _, _, _, _, _, _, _, h => by
    rw [timedLoop_nil] at h
    cases h
    have e : loopCalls orc inst cfg fuel [] s r = [] := by cases fuel <;> rfl
    rw [e]
    exact ⟨fun _ hc => (nomatch hc), trivial, fun _ => ApAdv.refl s⟩
  | 0, a :: as, s, r, subs, mic, out, _, _, _, _, _, _, _, h => by cases h
  | n + 1, a :: as, s, r, subs, mic, out, hI, hS, hsafe, hfresh, hgs, hd, hown, h => by
    obtain ⟨_, o, e, ho, hcase⟩ := timedLoop_cons_ok h
    cases e
    have hp := ap_procCalls_ok w nn _ _ _ _ hI hS hsafe hfresh hgs ho
    rcases hcase with ⟨hn, rfl⟩ | ⟨hn, t, tt', ht, htt', h⟩
    · rw [loopCalls_cons_fail ho hn]
      exact ⟨hp.1, hp.2.1, fun hf => (nomatch hf)⟩
    · rw [loopCalls_cons_next ho hn ht htt'] at hown ⊢
      have hadv := jumpToEvent_spec hp.2.2.2.2 ht
      have hS' := hp.2.2.2.2.advance hadv.1 hadv.2
      have hI' := hp.2.2.2.1.time t
      have hsf := timed_batch_safe w (tele := []) hI' hS' htt' (by simp)
      simp only [List.append_nil] at hsf
      have hdo : DepOwn o.state := by
        rw [hp.2.2.1]
        exact ap_depOwn_end hd (fun c hc => hown c (List.mem_append.mpr (Or.inl hc)))
      have hgs' : ApDueGS { o.state with time := t } tt' := by
        simpa using ap_timed_due w hI' hS' (s := { o.state with time := t }) hdo (tele := []) htt' (by simp)
      have hr := ap_loopCalls_ok w nn n _ _ _ _ _ _ hI' hS' hsf.1 hsf.2 hgs' hdo
        (fun c hc => hown c (List.mem_append.mpr (Or.inr hc))) h
      have := ap_calls_append (x := out.state) hp.2.2.1 hadv.1 hp.1 hp.2.1 hr.1 hr.2.1
      exact ⟨this.1, this.2.1, fun hf => this.2.2 (hr.2.2 hf)⟩

theorem ap_stepCalls_ok (w : WF inst) (nn : NonNeg orc inst) {fuel : Nat} {s0 : State} {r : Rng}
    {a : Action} {res : SMResult} {r' : Rng} {mic : List State} (hI : StructInv inst s0) (hS : SchedInv s0)
    (ha : Admissible a) (hd : DepOwn s0) (hown : ∀ c ∈ stepCalls orc inst cfg fuel s0 r a, DepOwn c.post)
    (h : smStep orc inst cfg fuel s0 r a = .ok (res, r', mic)) :
    (∀ c ∈ stepCalls orc inst cfg fuel s0 r a, ApCall orc inst c) ∧ ApLinked s0 (stepCalls orc inst cfg fuel s0 r a) ∧
      (res.success = true → isDone inst res.state = false →
        ApAdv (apEnd s0 (stepCalls orc inst cfg fuel s0 r a)) res.state) := by
  obtain ⟨p, hp, hcase⟩ := smStep_cases h
  have hsf := offerShaped_safe (s := s0) (L := sortedByTransport a.transitions)
    (fun tr htr => ha.shaped tr (mem_sortedByTransport htr))
  have hgs0 : ApDueGS s0 (sortedByTransport a.transitions) :=
    ap_dueGS_offers (fun tr htr => ha.shaped tr (mem_sortedByTransport htr))
  have hpp := ap_procCalls_ok w nn _ _ _ _ hI hS hsf.1 hsf.2 hgs0 hp
  rcases hcase with ⟨hn, _, _, rfl⟩ | ⟨hn, t, timed, poss, tele, out, ht, htimed, hposs, htele, hout, _, _, hres⟩
  · rw [stepCalls_fail hp hn]
    exact ⟨hpp.1, hpp.2.1, fun hs => (nomatch hs)⟩
  · rw [stepCalls_next hp hn ht htimed hposs htele] at hown ⊢
    have hadv := runTimeMachine_spec hpp.2.2.2.2 ha.tm ht
    have hS1 := hpp.2.2.2.2.advance hadv.1 hadv.2
    have hI1 := hpp.2.2.2.1.time t
    have hbatch := timed_batch_safe w hI1 hS1 htimed (filterTeleport_shape hposs htele)
    have hdo : DepOwn p.state := by
      rw [hpp.2.2.1]
      exact ap_depOwn_end hd (fun c hc => hown c (List.mem_append.mpr (Or.inl hc)))
    have hgs1 : ApDueGS { p.state with time := t } (timed ++ tele) :=
      ap_timed_due w hI1 hS1 (s := { p.state with time := t }) hdo htimed (filterTeleport_shape hposs htele)
    have hl := ap_loopCalls_ok w nn _ _ _ _ _ _ _ hI1 hS1 hbatch.1 hbatch.2 hgs1 hdo
      (fun c hc => hown c (List.mem_append.mpr (Or.inr hc))) hout
    have := ap_calls_append (x := res.state) hpp.2.2.1 hadv.1 hpp.1 hpp.2.1 hl.1 hl.2.1
    refine ⟨this.1, this.2.1, fun hsuc hnd => this.2.2 ?_⟩
    -- a successful step that is not done returns the state the loop ended in
    rcases hres with ⟨_, rfl⟩ | ⟨_, hdone, e, _, rfl⟩ | ⟨hnf, _, poss', _, rfl⟩
    · cases hsuc
    · exfalso
      cases e with
      | none => rw [hdone] at hnd; cases hnd
      | some e => rw [isDone_time, hdone] at hnd; cases hnd
    · exact hl.2.2 hnf

theorem ap_depOwn_rest {s0 : State} (h : restB s0 = true) : DepOwn s0 := by
  simp only [restB, Bool.and_eq_true, List.all_eq_true, beq_iff_eq, List.isEmpty_iff, Option.isNone_iff_eq_none] at h
  obtain ⟨_, ht⟩ := h
  intro t ht' b j tr ho
  have := (ht t ht').1.2
  rw [ho] at this
  simp at this

theorem ap_envRun_reach {ec : EnvCfg} {st : RewardStatic} {s0 : State} {e : EnvState} {C : List Call}
    (h : EnvRun orc inst ec st s0 e C) : EnvReach orc inst ec st s0 e := by
  induction h with
  | reset h => exact .reset h
  | step _ h ih => exact .step ih h

theorem ap_mwStep_cases {cfg : SMConfig} {mc : MwCfg} {fuel : Nat} {res : SMResult} {m : MwState} {r : Rng}
    {a : AgentAct} {out : SMResult × MwState × Rng × List State}
    (h : mwStep orc inst cfg mc fuel res m r a = .ok out) :
    (mwCalls orc inst cfg fuel res r a = [] ∧ out.2.2.2 = [] ∧ res.possible ≠ [] ∧ out.1.state = res.state ∧
        out.1.success = true) ∨
    (∃ act, (∀ tr ∈ act.transitions, tr ∈ res.possible) ∧ act.tm ≠ .jumpByOne ∧ res.possible ≠ [] ∧
        mwCalls orc inst cfg fuel res r a = stepCalls orc inst cfg fuel res.state r act ∧
        smStep orc inst cfg fuel res.state r act = .ok (out.1, out.2.2.1, out.2.2.2)) := by
  rcases mwStep_spec h with ⟨o, o', rest, rfl, hp, rfl⟩ | ⟨o, rest, res', r', mic, rfl, hp, hs, rfl⟩ |
    ⟨o, res', r', mic, rfl, hp, hs, _, rfl⟩
  · exact Or.inl ⟨by simp only [mwCalls, hp], rfl, by rw [hp]; simp, rfl, rfl⟩
  · exact Or.inr ⟨_, fun tr htr => by rw [hp, List.mem_singleton.mp htr]; exact List.mem_cons_self, by simp, by rw [hp]; simp,
      by simp only [mwCalls, hp], hs⟩
  · exact Or.inr ⟨_, fun tr htr => by simp [noOpAction] at htr, by simp, by rw [hp]; simp,
      by simp only [mwCalls, hp], hs⟩

theorem ap_mwCalls_micro {cfg : SMConfig} {mc : MwCfg} {fuel : Nat} {res : SMResult} {m : MwState} {r : Rng}
    {a : AgentAct} {out : SMResult × MwState × Rng × List State}
    (h : mwStep orc inst cfg mc fuel res m r a = .ok out) :
    (mwCalls orc inst cfg fuel res r a).map (·.post) = out.2.2.2 := by
  rcases ap_mwStep_cases h with ⟨e1, e2, _⟩ | ⟨act, _, _, _, e, hs⟩
  · rw [e1, e2]; rfl
  · rw [e]; exact ap_stepCalls_micro hs

theorem ap_envRun_ok {ec : EnvCfg} {st : RewardStatic} {s0 : State} (hst : Start orc inst s0) {e : EnvState}
    {C : List Call} (hrun : EnvRun orc inst ec st s0 e C) (hown : ∀ c ∈ C, DepOwn c.post) :
    (∀ c ∈ C, ApCall orc inst c) ∧ ApLinked s0 C ∧
      (e.done = false → e.res.possible ≠ [] → ApAdv (apEnd s0 C) e.res.state) := by
  obtain ⟨w, hI0⟩ := initOKB_sound hst.init
  have nn := nonnegB_sound hst.samples hst.nonneg
  have hd0 := ap_depOwn_rest hst.rest
  induction hrun with
  | @reset r e mic h =>
    obtain ⟨res, r', h2, rfl⟩ := envReset_ok h
    have := ap_stepCalls_ok w nn hI0 (restB_sound hst.rest) admissible_noOp hd0 hown h2
    refine ⟨this.1, this.2.1, ?_⟩
    intro _ hne
    rcases (smStep_spec h2).2 with h3 | h3 | h3
    · exact absurd h3.2.2.2 hne
    · exact absurd h3.2.2.1 hne
    · exact this.2.2 h3.1 h3.2.2.1
  | @step e a out C hprev h ih =>
    have hC : ∀ c ∈ C, DepOwn c.post := fun c hc => hown c (List.mem_append.mpr (Or.inl hc))
    have hD : ∀ c ∈ mwCalls orc inst ec.sm ec.fuel e.res e.rng a, DepOwn c.post :=
      fun c hc => hown c (List.mem_append.mpr (Or.inr hc))
    obtain ⟨ih1, ih2, ih3⟩ := ih hC
    have hi := envReach_inv hst (ap_envRun_reach hprev)
    obtain ⟨hdone, res', mw, r, mic, rew, cnt, _, hm, rfl, _, rfl⟩ := envStep_ok h
    have key : (∀ c ∈ C ++ mwCalls orc inst ec.sm ec.fuel e.res e.rng a, ApCall orc inst c) ∧
        ApLinked s0 (C ++ mwCalls orc inst ec.sm ec.fuel e.res e.rng a) ∧
        (res'.success = true → res'.possible ≠ [] →
          ApAdv (apEnd s0 (C ++ mwCalls orc inst ec.sm ec.fuel e.res e.rng a)) res'.state) := by
      rcases ap_mwStep_cases hm with ⟨e1, _, hne, e3, _⟩ | ⟨act, hmem, htm, hne, ecalls, hs⟩
      · simp only at e3
        rw [e1, List.append_nil]
        exact ⟨ih1, ih2, fun _ _ => by rw [e3]; exact ih3 hdone hne⟩
      · simp only at hs
        have hl := hi.live hne
        obtain ⟨_, hI, hS⟩ := occursA_inv hst hl.1
        have hadv := ih3 hdone hne
        have hde : DepOwn e.res.state := hadv.depOwn (ap_depOwn_end hd0 hC)
        have ha : Admissible act := ⟨fun tr htr => hl.2 tr (hmem tr htr), htm⟩
        rw [ecalls] at hD ⊢
        have hk := ap_stepCalls_ok w nn hI hS ha hde hD hs
        refine ⟨fun c hc => (List.mem_append.mp hc).elim (ih1 c) (hk.1 c),
          ApLinked.append ih2 (ApLinked.of_adv hadv hk.2.1), ?_⟩
        intro hsuc hne'
        rw [apEnd_append]
        apply apEnd_adv hadv
        rcases (smStep_spec hs).2 with h3 | h3 | h3
        · exact absurd h3.2.2.2 hne'
        · exact absurd h3.2.2.1 hne'
        · exact hk.2.2 h3.1 h3.2.2.1
    refine ⟨key.1, key.2.1, ?_⟩
    by_cases hsuc : res'.success = true
    · simp only [hsuc, if_true]
      intro _ hne'
      exact key.2.2 hsuc hne'
    · simp only [hsuc]
      intro hdn
      simp at hdn

end JSL
