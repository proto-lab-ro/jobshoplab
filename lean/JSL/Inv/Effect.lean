import JSL.Inv.Pass

/-!
# What one transition changes and what it leaves alone
-/

namespace JSL

variable {orc : Oracle} {inst : Instance}

theorem opCfg_unique (w : WF inst) {a b : OpCfg} (ha : a ∈ inst.jobs.flatMap (·.ops)) (hb : b ∈ inst.jobs.flatMap (·.ops))
    (hj : a.job = b.job) (hi : a.idx = b.idx) : a = b := by
  obtain ⟨ja, hja, haa⟩ := List.mem_flatMap.mp ha
  obtain ⟨jb, hjb, hbb⟩ := List.mem_flatMap.mp hb
  have e1 := w.opJob ja hja a haa
  have e2 := w.opJob jb hjb b hbb
  have : ja = jb := eq_of_mem_of_key_eq (key := fun (y : JobCfg) => y.id) w.jobsNodup hja hjb (by rw [← e1, ← e2, hj])
  subst this
  exact eq_of_mem_of_key_eq (key := fun (y : OpCfg) => y.idx) (w.opIdxNodup ja hja) haa hbb hi

/-- What one applied machine transition does to the record `m0` of its machine: `M'` is the new
record.  One case per handler. -/
inductive MachEffect (orc : Oracle) (inst : Instance) (s : State) (r r' : Rng) (tr : Transition)
    (m0 M' : MachineState) : Prop
  | setup (j : JobState) (op : OpState) (oc : OpCfg) (b1 b2 : BSS) (occ : Int) : tr.new = .m .setup →
      m0.st = .idle → j ∈ s.jobs → tr.job = some j.id → j.nextNotDone? = some op →
      oc ∈ inst.jobs.flatMap (·.ops) → oc.job = op.job → oc.idx = op.idx →
      M' = m0.toSetup j.id b1 b2 occ oc.tool → MachEffect orc inst s r r' tr m0 M'
  | work (occ : Int) : tr.new = .m .working → m0.st = .setup → M' = m0.toWorking occ →
      MachEffect orc inst s r r' tr m0 M'
  | strike (mc : MachineCfg) (outs : List OutageState) : tr.new = .m .outage → m0.st = .working →
      mc ∈ inst.machines → mc.id = m0.id → newOutageStates orc s.time m0.outages mc.outages r = .ok (outs, r') →
      M' = m0.toOutage outs (s.time + occupiedFor outs) → MachEffect orc inst s r r' tr m0 M'
  | release (jid : Nat) (b1 b2 : BSS) : tr.new = .m .idle → m0.st = .outage → M' = m0.toIdle jid b1 b2 →
      MachEffect orc inst s r r' tr m0 M'

theorem machine_record_effect {s s' : State} {r r' : Rng} {tr : Transition} {mid : Nat}
    (hc : tr.comp = .m mid) (h : applyTransition orc inst s r tr = .ok (s', r')) :
    ∃ m0 ∈ s.machines, ∃ M' : MachineState, m0.id = mid ∧ M'.id = m0.id ∧
      s'.machines = (s.replaceMachine M').machines ∧ s'.transports = s.transports ∧ s'.buffers = s.buffers ∧
      MachEffect orc inst s r r' tr m0 M' := by
  cases applyTransition_ran h with
  | t t hct => rw [hc] at hct; cases hct
  | m m0 hcm hm0 hd ns hn hmh run =>
    have hid : m0.id = mid := by rw [hc] at hcm; cases hcm; rfl
    cases hd with
    | idleToSetup =>
      have hi := machineHandler_idleToSetup hmh
      obtain ⟨j, op, oc, mc, sd, b1, b2, hj, htj, _, hop, hoc, hocj, hoci, _, _, _, _, rfl⟩ := idleToSetup_spec run
      exact ⟨m0, hm0, m0.toSetup j.id b1 b2 (s.time + sd) oc.tool, hid, rfl, rfl, rfl, rfl,
        .setup j op oc b1 b2 (s.time + sd) (by rw [hn, hi.2]) hi.1 hj htj hop hoc hocj hoci rfl⟩
    | setupToWorking =>
      have hi := machineHandler_setupToWorking hmh
      obtain ⟨j, op, oc, d, _, _, _, _, _, _, _, _, rfl⟩ := setupToWorking_spec run
      exact ⟨m0, hm0, m0.toWorking (s.time + d), hid, rfl, rfl, rfl, rfl, .work (s.time + d) (by rw [hn, hi.2]) hi.1 rfl⟩
    | workingToOutage =>
      have hi := machineHandler_workingToOutage hmh
      obtain ⟨mc, outs, j, op, hmc, hmcid, hnew, _, _, _, rfl⟩ := workingToOutage_spec run
      exact ⟨m0, hm0, m0.toOutage outs (s.time + occupiedFor outs), hid, rfl, rfl, rfl, rfl,
        .strike mc outs (by rw [hn, hi.2]) hi.1 hmc hmcid hnew rfl⟩
    | outageToIdle =>
      have hi := machineHandler_outageToIdle hmh
      obtain ⟨j, op, mc, rest, b1, b2, _, _, _, _, _, _, _, rfl⟩ := outageToIdle_spec run
      exact ⟨m0, hm0, m0.toIdle j.id b1 b2, hid, rfl, rfl, rfl, rfl, .release j.id b1 b2 (by rw [hn, hi.2]) hi.1 rfl⟩

theorem machine_effect (w : WF inst) {s s' : State} {r r' : Rng} {tr : Transition} {mid : Nat} (hI : StructInv inst s)
    (hc : tr.comp = .m mid) (h : applyTransition orc inst s r tr = .ok (s', r')) :
    (∀ m' ∈ s'.machines, m'.id ≠ mid → m' ∈ s.machines) ∧ s'.transports = s.transports ∧ s'.buffers = s.buffers := by
  obtain ⟨m0, hm0, M', hmid, hid, hmach, htr, hbuf, _⟩ := machine_record_effect hc h
  refine ⟨fun y hy hne => ?_, htr, hbuf⟩
  rw [hmach] at hy
  rcases (mem_replaceMachine (hI.shape.machNodup w) hm0 hid y).mp hy with rfl | ⟨hy0, _⟩
  · exact absurd (by rw [hid, hmid]) hne
  · exact hy0

theorem agv_touch (w : WF inst) {s s' : State} {r r' : Rng} {tr : Transition} {tid : Nat} (hI : StructInv inst s)
    (hc : tr.comp = .t tid) (h : applyTransition orc inst s r tr = .ok (s', r')) :
    (∀ m' ∈ s'.machines, ∃ m ∈ s.machines, m' = { m with pre := m'.pre, buffer := m'.buffer, post := m'.post }) ∧
    (∀ j' ∈ s'.jobs, ∃ j ∈ s.jobs, j' = j.at j'.loc) := by
  have hs := hI.shape
  have same : ∀ m' ∈ s.machines, ∃ m ∈ s.machines,
      m' = { m with pre := m'.pre, buffer := m'.buffer, post := m'.post } := fun m' hm' => ⟨m', hm', rfl⟩
  have samej : ∀ j' ∈ s.jobs, ∃ j ∈ s.jobs, j' = j.at j'.loc := fun j' hj' => ⟨j', hj', rfl⟩
  have moved : ∀ {S : State} {j : JobState} (l : Nat), S.jobs = s.jobs → j ∈ s.jobs →
      ∀ j' ∈ (S.replaceJob (j.at l)).jobs, ∃ j ∈ s.jobs, j' = j.at j'.loc := by
    intro S j l hS hj j' hj'
    rcases (mem_replaceJob (s := S) (j := j) (j' := j.at l) (hS ▸ hs.jobsNodup w) (hS ▸ hj) rfl j').mp hj' with
      rfl | ⟨hj0, _⟩
    · exact ⟨j, hj, rfl⟩
    · exact ⟨j', hS ▸ hj0, rfl⟩
  have bufs : ∀ {ms ms' : MachineState}, ms ∈ s.machines → ms'.id = ms.id →
      ms' = { ms with pre := ms'.pre, buffer := ms'.buffer, post := ms'.post } →
      ∀ m' ∈ (s.replaceMachine ms').machines, ∃ m ∈ s.machines,
        m' = { m with pre := m'.pre, buffer := m'.buffer, post := m'.post } := by
    intro ms ms' hms hid e m' hm'
    rcases (mem_replaceMachine (hs.machNodup w) hms hid m').mp hm' with rfl | ⟨hm0, _⟩
    · exact ⟨ms, hms, e⟩
    · exact ⟨m', hm0, rfl⟩
  cases applyTransition_ran h with
  | m m hc' => rw [hc] at hc'; cases hc'
  | t t _ _ hd _ _ _ h =>
    cases hd with
    | idleToWorking => obtain ⟨_, _, _, _, _, _, _, _, _, _, _, _, _, _, _, rfl⟩ := idleToWorking_spec h; exact ⟨same, samej⟩
    | pickupToWaitingpickup => obtain ⟨_, _, _, _, rfl⟩ := pickupToWaiting_spec h; exact ⟨same, samej⟩
    | waitingPickupToWaitingPickup => obtain ⟨_, _, _, rfl⟩ := waitingToWaiting_spec h; exact ⟨same, samej⟩
    | outageToIdle => obtain ⟨_, rfl⟩ := agvOutageToIdle_spec h; exact ⟨same, samej⟩
    | pickupToTransit =>
      obtain ⟨j, src, dst, tt, bss1, bss2, hj, _, _, _, _, hcase⟩ := pickupToTransit_spec h
      rcases hcase with ⟨fb, _, _, _, _, _, rfl⟩ | ⟨mid, ms, bs, ms', _, _, hms, _, _, _, hms', rfl⟩
      · exact ⟨same, moved (S := s.replaceBuffer (fb.without j.id bss1)) t.buffer.id rfl hj⟩
      · refine ⟨bufs hms (replaceBufInMachine_same hms').2.1 ?_, moved (S := s.replaceMachine ms') t.buffer.id rfl hj⟩
        rcases replaceBufInMachine_ok hms' with ⟨_, rfl⟩ | ⟨_, rfl⟩ | ⟨_, rfl⟩ <;> rfl
    | transitToOutage =>
      obtain ⟨j, cur, pick, drop, tc, outs, bss1, bss2, hj, _, _, _, _, _, _, hcase⟩ := transitToOutage_spec h
      rcases hcase with ⟨mid, ms, _, hms, _, _, rfl⟩ | ⟨bid, b, _, hb, _, _, rfl⟩
      · exact ⟨bufs hms rfl rfl, moved (S := s) ms.pre.id rfl hj⟩
      · exact ⟨same, moved (S := s) b.id rfl hj⟩

theorem agv_effect (w : WF inst) {s s' : State} {r r' : Rng} {tr : Transition} {tid : Nat} (hI : StructInv inst s)
    (hc : tr.comp = .t tid) (h : applyTransition orc inst s r tr = .ok (s', r')) :
    (∀ m' ∈ s'.machines, ∃ m ∈ s.machines, m.id = m'.id ∧ m.st = m'.st ∧ m.occ = m'.occ) ∧
    (∀ j' ∈ s'.jobs, ∃ j ∈ s.jobs, j.id = j'.id ∧ j.ops = j'.ops) := by
  obtain ⟨hm, hj⟩ := agv_touch w hI hc h
  constructor
  · intro m' hm'
    obtain ⟨m, hm0, e⟩ := hm m' hm'
    exact ⟨m, hm0, (congrArg MachineState.id e).symm, (congrArg MachineState.st e).symm,
      (congrArg MachineState.occ e).symm⟩
  · intro j' hj'
    obtain ⟨j, hj0, e⟩ := hj j' hj'
    exact ⟨j, hj0, (congrArg JobState.id e).symm, (congrArg JobState.ops e).symm⟩

end JSL
