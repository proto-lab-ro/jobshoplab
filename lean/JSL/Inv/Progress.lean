import JSL.Model.Guards
import JSL.Inv.EnvReach

/-!
# Progress for instances whose pickup buffers are unordered (C11, the part that is true)

`FlexInst inst`: every buffer of the instance is a FLEX buffer; `PickFlex inst`: every buffer other
than a pre-buffer is – the type of a buffer is read only in `readyForPickup`, for the stand-alone
and post-buffers a job is picked up from.  `HasAgv inst`: some transport is an AGV.  For such
instances, in every state that satisfies the structural, schedule and AGV invariants and in which
no AGV waits without a fixed time (`NoDep`), a state that is not finished offers a transition or
has something pending (`Pending`): a running operation or a busy AGV with a fixed arrival /
waiting time that is not in the past.
-/

namespace JSL

variable {orc : Oracle} {inst : Instance}

def FlexInst (inst : Instance) : Prop := ∀ bc ∈ allBufCfgs inst, bc.type = .flex

theorem flexInstB_sound (h : flexInstB inst = true) : FlexInst inst := by
  intro bc hbc
  simp only [flexInstB, List.all_eq_true, beq_iff_eq] at h
  exact h bc hbc

structure PickFlex (inst : Instance) : Prop where
  standalone : ∀ bc ∈ inst.buffers, bc.type = .flex
  buf : ∀ mc ∈ inst.machines, mc.buf.type = .flex
  post : ∀ mc ∈ inst.machines, mc.post.type = .flex
  agv : ∀ tc ∈ inst.transports, tc.buf.type = .flex

theorem FlexInst.pick (h : FlexInst inst) : PickFlex inst :=
  ⟨fun bc hbc => h bc (by simp [allBufCfgs, hbc]), fun _ hmc => h _ (mem_allBufCfgs_of_machine hmc).2.1,
    fun _ hmc => h _ (mem_allBufCfgs_of_machine hmc).2.2, fun _ htc => h _ (mem_allBufCfgs_of_transport htc)⟩

/-- only AGVs are dispatched (`possibleTransports`) -/
def HasAgv (inst : Instance) : Prop := ∃ tc ∈ inst.transports, tc.type = .agv

theorem hasAgvB_sound (h : hasAgvB inst = true) : HasAgv inst := by
  simp only [hasAgvB, List.any_eq_true, beq_iff_eq] at h
  exact h

def Pending (s : State) : Prop :=
  (∃ j ∈ s.jobs, ∃ o ∈ j.ops, o.st = .processing ∧ ∃ e, o.stop = some e ∧ s.time ≤ e) ∨
  (∃ t ∈ s.transports, t.st ≠ .idle ∧ ∃ e, t.occ = .at e ∧ s.time ≤ e)

/-- no busy AGV is without a fixed time (`NoTime`) or parked on a time dependency -/
def NoDep (s : State) : Prop := ∀ t ∈ s.transports, t.st ≠ .idle → ∃ e, t.occ = .at e

theorem NoDep.of_time {s : State} {t : Int} (h : NoDep { s with time := t }) : NoDep s := h
theorem NoDep.time {s : State} (h : NoDep s) (t : Int) : NoDep { s with time := t } := h

theorem running_false_iff {j : JobState} : j.running = false ↔ ∀ o ∈ j.ops, o.st ≠ .processing := by
  unfold JobState.running
  constructor
  · intro h o ho e
    have : j.ops.any (·.st == .processing) = true := List.any_eq_true.mpr ⟨o, ho, by simp [e]⟩
    rw [h] at this; cases this
  · intro h
    apply Bool.eq_false_iff.mpr
    intro hr
    obtain ⟨o, ho, e⟩ := List.any_eq_true.mp hr
    exact h o ho (by simpa using e)

theorem firstOutput_mem {o : Nat} (h : firstOutput inst = .ok o) : o ∈ outputIds inst := by
  unfold firstOutput at h
  unfold outputIds
  cases hob : outputBuffers inst with
  | nil => simp [hob] at h
  | cons b bs => simp [hob] at h; simp [h]

theorem mapM_total {α β} {f : α → Except Err β} : ∀ {l : List α}, (∀ a ∈ l, ∃ b, f a = .ok b) →
    ∃ r, l.mapM f = .ok r
  | [], _ => ⟨[], by simp [List.mapM_nil]⟩
  | a :: as, h => by
    obtain ⟨b, hb⟩ := h a (by simp)
    obtain ⟨bs, hbs⟩ := mapM_total (l := as) (fun x hx => h x (by simp [hx]))
    exact ⟨b :: bs, by rw [List.mapM_cons]; simp [hb, hbs]⟩

theorem filterE_ok_of_forall {α} {p : α → Except Err Bool} :
    ∀ {l : List α}, (∀ a ∈ l, ∃ b, p a = .ok b) → ∃ r, filterE p l = .ok r
  | [], _ => ⟨[], rfl⟩
  | a :: as, h => by
    obtain ⟨b, hb⟩ := h a (by simp)
    obtain ⟨r, hr⟩ := filterE_ok_of_forall (l := as) (fun x hx => h x (by simp [hx]))
    simp only [filterE, hb, hr, except_bind_ok, except_pure]
    exact ⟨_, rfl⟩

theorem bind_total {α β} {x : Except Err α} {f : α → Except Err β} (hx : ∃ a, x = .ok a)
    (hf : ∀ a, x = .ok a → ∃ b, f a = .ok b) : ∃ b, (x >>= f) = .ok b := by
  obtain ⟨a, ha⟩ := hx
  obtain ⟨b, hb⟩ := hf a ha
  exact ⟨b, by rw [ha]; exact hb⟩

theorem filterE_total {α} {p : α → Except Err Bool} {l r : List α} (h : filterE p l = .ok r) :
    ∀ x ∈ l, ∃ b, p x = .ok b := by
  induction l generalizing r with
  | nil => intro x hx; cases hx
  | cons a as ih =>
    simp only [filterE] at h
    obtain ⟨b, hb, h⟩ := except_bind_eq_ok h
    obtain ⟨r', hr', _⟩ := except_bind_eq_ok h
    intro x hx
    rcases List.mem_cons.mp hx with rfl | hx
    · exact ⟨b, hb⟩
    · exact ih hr' x hx

theorem filterE_mem_of_true {α} {p : α → Except Err Bool} {l r : List α} (h : filterE p l = .ok r) :
    ∀ x ∈ l, p x = .ok true → x ∈ r := by
  induction l generalizing r with
  | nil => intro x hx; cases hx
  | cons a as ih =>
    simp only [filterE] at h
    obtain ⟨b, hb, h⟩ := except_bind_eq_ok h
    obtain ⟨r', hr', h⟩ := except_bind_eq_ok h
    simp at h
    intro x hx hp
    rcases List.mem_cons.mp hx with rfl | hx
    · rw [hp] at hb
      injection hb with hb
      subst hb
      simp at h; subst h; simp
    · have := ih hr' x hx hp
      cases b <;> simp at h <;> subst h <;> simp [this]

theorem pending_of_busy_machine {s : State} (hS : SchedInv s) {m : MachineState} (hm : m ∈ s.machines)
    (hb : m.st ≠ .idle) : Pending s := by
  obtain ⟨j, hj, _, op, hp, _, _, _⟩ := hS.busyHolds m hm hb
  obtain ⟨l1, l2, hl, _, hst⟩ := processing?_split' hp
  have hmem : op ∈ j.ops := by rw [hl]; simp
  obtain ⟨_, b, _, hb', _, _, hle⟩ := (OpsOK_mem _ _ (hS.ops j hj) op hmem).2.1 hst
  exact Or.inl ⟨j, hj, op, hmem, hst, b, hb', hle⟩

theorem pending_of_busy_agv {s : State} (hS : SchedInv s) (hN : NoDep s) {t : TransportState}
    (ht : t ∈ s.transports) (hb : t.st ≠ .idle) : Pending s := by
  obtain ⟨e, he⟩ := hN t ht hb
  exact Or.inr ⟨t, ht, hb, e, he, hS.agvPending t ht hb e he⟩

theorem getBufState_of_mem (w : WF inst) {s : State} (hs : Shape inst s) {b : BufState} (hb : b ∈ allBufStates s) :
    getBufState (allBufStates s) b.id = .ok b :=
  findE_of_mem (key := fun (y : BufState) => y.id) (hs.bufNodup w) hb _

theorem getBufCfg_of_state (w : WF inst) {s : State} (hs : Shape inst s) {b : BufState} (hb : b ∈ allBufStates s) :
    ∃ bc ∈ allBufCfgs inst, bc.id = b.id ∧ getBufCfg (allBufCfgs inst) b.id = .ok bc := by
  have : b.id ∈ (allBufCfgs inst).map (·.id) := by rw [← hs.bufIds]; exact List.mem_map.mpr ⟨b, hb, rfl⟩
  obtain ⟨bc, hbc, e⟩ := List.mem_map.mp this
  refine ⟨bc, hbc, e, ?_⟩
  have := findE_of_mem (key := fun (y : BufCfg) => y.id) w.bufNodup hbc Err.invalidValue
  simp only [e] at this
  exact this

theorem PickFlex.of_kind (w : WF inst) (hF : PickFlex inst) {bc : BufCfg} (hbc : bc ∈ allBufCfgs inst)
    (hk : pickupBufferKind inst bc.id = true) : bc.type = .flex := by
  simp only [pickupBufferKind, Bool.or_eq_true, List.contains_iff_mem, List.mem_map] at hk
  rcases hk with ⟨c, hc, e⟩ | ⟨mc, hmc, e⟩
  · have hc' : c ∈ allBufCfgs inst := by simp [allBufCfgs, hc]
    rw [← eq_of_mem_of_key_eq (key := fun (y : BufCfg) => y.id) w.bufNodup hc' hbc e]
    exact hF.standalone c hc
  · rw [← eq_of_mem_of_key_eq (key := fun (y : BufCfg) => y.id) w.bufNodup (mem_allBufCfgs_of_machine hmc).2.2 hbc e]
    exact hF.post mc hmc

theorem readyForPickup_flex (w : WF inst) (hF : PickFlex inst) {s : State} (hs : Shape inst s) {j : JobState}
    {b : BufState} (hb : b ∈ allBufStates s) (hloc : j.loc = b.id) (hin : j.id ∈ b.store)
    (hk : pickupBufferKind inst b.id = true) : readyForPickup inst s j = .ok true := by
  obtain ⟨bc, hbc, hid, hgc⟩ := getBufCfg_of_state w hs hb
  have hty := hF.of_kind w hbc (by rw [hid]; exact hk)
  obtain ⟨p, hp, hpe⟩ := List.mem_iff_getElem.mp hin
  cases hidx : b.store.idxOf? j.id with
  | none => exact absurd hin (List.idxOf?_eq_none_iff.mp hidx)
  | some q =>
    obtain ⟨hq, _, _⟩ := List.idxOf?_eq_some_iff.mp hidx
    have hlen : b.store ≠ [] := by intro e; rw [e] at hq; simp at hq
    simp [readyForPickup, hloc, getBufState_of_mem w hs hb, hgc, hidx, hk, posOk, hty, hq, hlen]

theorem actionPossible_true (w : WF inst) {s : State} (hI : StructInv inst s) (hS : SchedInv s) (hR : RouteInv inst s)
    {j : JobState} (hj : j ∈ s.jobs) {m : MachineState} (hm : m ∈ s.machines) (hidle : m.st = .idle)
    (hin : j.id ∈ m.pre.store) {b : Bool} (h : actionPossible inst s j = .ok b) : b = true := by
  have hs := hI.shape
  have hjn := hs.jobsNodup w
  obtain ⟨op, hni, hopm⟩ := hR.preNext m hm j.id hin j hj rfl
  have hst : j.id ∈ storeAt s m.pre.id := by rw [(pre_storeAt w hs hm).1]; exact hin
  have hloc : j.loc = m.pre.id := job_of_store hI.cons hj hst hjn
  have hnp := not_processing_of_stored hI hS w hj hst (fun m3 hm3 => (internal_ne_pre_post hs w hm3 hm).1)
  have hrun : j.running = false := running_false_iff.mpr hnp
  have hfree : j.nextOpFree = true := by
    unfold JobState.nextOpFree
    rw [hrun]
    simp only [Bool.not_false, Bool.true_and]
    have hoi : (op.st == OSt.idle) = true := by
      unfold JobState.nextIdle? at hni
      have := List.find?_some hni
      exact this
    exact List.any_eq_true.mpr ⟨op, List.mem_of_find?_eq_some hni, hoi⟩
  have hnn : j.nextNotDone = .ok op := by
    have : j.nextNotDone? = some op := by rw [nextNotDone_eq_nextIdle (hS.ops j hj) hrun, hni]
    simp [JobState.nextNotDone, this]
  have hgm : getMachine s.machines op.machine = .ok m := by rw [hopm]; exact getMachine_of_mem (hs.machNodup w) hm
  unfold actionPossible at h
  simp only [hfree, Bool.not_true, Bool.false_eq_true, if_false, bind, Except.bind, pure, Except.pure] at h
  cases ht0 : inst.transports with
  | nil => simp [ht0] at h
  | cons t0 ts =>
    simp only [ht0] at h
    split at h
    · simp at h
    · simp [hnn, hgm, jobAtMachine, hloc, hidle, bind, Except.bind, pure, Except.pure] at h
      exact h

theorem transportable_true {s : State} {j : JobState} (hout : j.loc ∉ outputIds inst)
    (hpre : ∀ m ∈ s.machines, m.pre.id ≠ j.loc) {b : Bool} (h : transportable inst s j = .ok b) : b = true := by
  have hd : jobDone inst j = false := by
    unfold jobDone
    have : (outputIds inst).contains j.loc = false := by
      cases hc : (outputIds inst).contains j.loc with
      | false => rfl
      | true => exact absurd (List.contains_iff_mem.mp hc) hout
    rw [this]; simp
  unfold transportable at h
  simp only [hd, bind, Except.bind, pure, Except.pure] at h
  by_cases hall : j.allDone = true
  · simp [hall] at h; exact h
  · simp only [hall] at h
    cases hni : j.nextIdle? with
    | none => simp [hni] at h
    | some op =>
      simp only [hni] at h
      cases hgm : getMachine s.machines op.machine with
      | error e => simp [hgm] at h
      | ok m =>
        simp only [hgm] at h
        have hm := (getMachine_ok hgm).1
        unfold jobAtMachine at h
        simp only [bind, Except.bind, pure, Except.pure] at h
        cases hnn : j.nextNotDone with
        | error e => simp [hnn] at h
        | ok o2 =>
          have : (m.pre.id == j.loc) = false := by simpa using hpre m hm
          simp [hnn, this] at h
          exact h

theorem possibleTransports_mem (w : WF inst) {s : State} {ts : List TransportState}
    (h : possibleTransports inst s = .ok ts) {t : TransportState} (ht : t ∈ s.transports) (hidle : t.st = .idle)
    {tc : TransportCfg} (htc : tc ∈ inst.transports) (hid : tc.id = t.id) (hty : tc.type = .agv) : t ∈ ts := by
  unfold possibleTransports at h
  obtain ⟨l, hl, h⟩ := except_bind_eq_ok h
  simp at h; subst h
  obtain ⟨y, hy, e⟩ := (mapM_ok_mem hl).1 t ht
  have hf : findE (fun c : TransportCfg => c.id == t.id) inst.transports Err.invalidKey = .ok tc := by
    have := findE_of_mem (key := fun (c : TransportCfg) => c.id) w.trNodup htc Err.invalidKey
    simp only [hid] at this
    exact this
  simp [hf, hidle, hty] at e
  subst e
  exact List.mem_filterMap.mpr ⟨some t, hy, rfl⟩

theorem dispatch_or_pending (w : WF inst) {cfg : SMConfig} (hF : cfg.allowEarly = true ∨ PickFlex inst) (hA : HasAgv inst) {s : State}
    (hI : StructInv inst s) (hS : SchedInv s) (hN : NoDep s) {j : JobState} (hj : j ∈ s.jobs)
    {b : BufState} (hb : b ∈ allBufStates s) (hloc : j.loc = b.id) (hin : j.id ∈ b.store)
    (hk : pickupBufferKind inst b.id = true) (hout : j.loc ∉ outputIds inst)
    (hpre : ∀ m ∈ s.machines, m.pre.id ≠ j.loc) (hint : ∀ m ∈ s.machines, m.buffer.id ≠ j.loc)
    {pt : List Transition} (hpt : possibleTransportTransitions inst cfg s = .ok pt) : pt ≠ [] ∨ Pending s := by
  have hs := hI.shape
  by_cases hcl : ∃ t ∈ s.transports, t.job = some j.id
  · obtain ⟨t, ht, htj⟩ := hcl
    right
    apply pending_of_busy_agv hS hN ht
    intro e
    have := hS.freeNoClaim t ht (Or.inl e)
    rw [this] at htj; cases htj
  · obtain ⟨tc, htc, hty⟩ := hA
    have : tc.id ∈ s.transports.map (·.id) := by rw [hs.transportIds]; exact List.mem_map.mpr ⟨tc, htc, rfl⟩
    obtain ⟨t0, ht0, hid⟩ := List.mem_map.mp this
    by_cases hidle : t0.st = .idle
    · left
      unfold possibleTransportTransitions at hpt
      obtain ⟨ts, hts, hpt⟩ := except_bind_eq_ok hpt
      obtain ⟨idle, hidl, hpt⟩ := except_bind_eq_ok hpt
      simp only at hpt
      obtain ⟨lonely, hlonely, hpt⟩ := except_bind_eq_ok hpt
      simp at hpt; subst hpt
      have ht0' : t0 ∈ ts := possibleTransports_mem w hts ht0 hidle htc hid.symm hty
      have hst : j.id ∈ storeAt s j.loc := by rw [hloc, storeAt_of_mem (hs.bufNodup w) hb]; exact hin
      have hnp := not_processing_of_stored hI hS w hj hst hint
      have hrun : j.running = false := running_false_iff.mpr hnp
      have hjf : j ∈ s.jobs.filter (!·.running) := List.mem_filter.mpr ⟨hj, by simp [hrun]⟩
      obtain ⟨b', hb'⟩ := filterE_total hidl j hjf
      have hbt := transportable_true hout hpre hb'
      subst hbt
      have hji : j ∈ idle := filterE_mem_of_true hidl j hjf hb'
      have hjl : j ∈ (s.jobs.filter (·.running) ++ idle).filter
          (fun j => !(s.transports.filterMap (·.job)).contains j.id) := by
        apply List.mem_filter.mpr
        refine ⟨List.mem_append.mpr (Or.inr hji), ?_⟩
        cases hc : (s.transports.filterMap (·.job)).contains j.id with
        | false => rfl
        | true =>
          obtain ⟨t, ht, e⟩ := List.mem_filterMap.mp (List.contains_iff_mem.mp hc)
          exact absurd ⟨t, ht, e⟩ hcl
      have hjlo : j ∈ lonely := by
        unfold earlyFilter at hlonely
        by_cases he : cfg.allowEarly = true
        · rw [if_pos he] at hlonely
          injection hlonely with h'
          rw [← h']; exact hjl
        · rw [if_neg he] at hlonely
          exact filterE_mem_of_true hlonely j hjl (readyForPickup_flex w (hF.resolve_left he) hs hb hloc hin hk)
      intro e
      have hmem : ({ comp := .t t0.id, new := .t .working, job := some j.id } : Transition) ∈
          ts.flatMap (fun t => lonely.map fun j => ({ comp := .t t.id, new := .t .working, job := some j.id } : Transition)) :=
        List.mem_flatMap.mpr ⟨t0, ht0', List.mem_map.mpr ⟨j, hjlo, rfl⟩⟩
      rw [e] at hmem; cases hmem
    · right; exact pending_of_busy_agv hS hN ht0 hidle

theorem kind_of_buffer {s : State} (hs : Shape inst s) {b : BufState} (hb : b ∈ s.buffers) :
    pickupBufferKind inst b.id = true := by
  unfold pickupBufferKind
  have : b.id ∈ inst.buffers.map (·.id) := by rw [← hs.buffers]; exact List.mem_map.mpr ⟨b, hb, rfl⟩
  rw [List.contains_iff_mem.mpr this]; rfl

theorem kind_of_post {s : State} (hs : Shape inst s) {m : MachineState} (hm : m ∈ s.machines) :
    pickupBufferKind inst m.post.id = true := by
  unfold pickupBufferKind
  have : m.post.id ∈ inst.machines.map (·.post.id) := by
    rw [← hs.postIds]; exact List.mem_map.mpr ⟨m, hm, rfl⟩
  rw [List.contains_iff_mem.mpr this]; simp

/-- **Progress, in terms of the two lists the time machine counts**: in a state that is not
finished a machine start or a dispatch is on offer, or something is pending.  The buffer types
matter only when early transport is disabled (readiness of a stored job); `NoDep` is a hypothesis
on the state here – it is an invariant only for instances with unordered buffers. -/
theorem progress_core (w : WF inst) {cfg : SMConfig} (hF : cfg.allowEarly = true ∨ PickFlex inst) (hA : HasAgv inst) {s : State}
    (hI : StructInv inst s) (hS : SchedInv s) (hP : AgvFull inst s) (hN : NoDep s)
    (hnd : isDone inst s = false) {pj : List JobState} {pt : List Transition}
    (hpj : possibleJobs inst s = .ok pj) (hpt : possibleTransportTransitions inst cfg s = .ok pt) :
    pj ≠ [] ∨ pt ≠ [] ∨ Pending s := by
  have hs := hI.shape
  have hjn := hs.jobsNodup w
  have : ∃ j ∈ s.jobs, j.loc ∉ outputIds inst := by
    apply Classical.byContradiction
    intro hno
    have : isDone inst s = true :=
      isDone_iff.mpr fun j hj => Classical.byContradiction fun hn => hno ⟨j, hj, hn⟩
    rw [this] at hnd; cases hnd
  obtain ⟨j, hj, hout⟩ := this
  have hst : j.id ∈ storeAt s j.loc := hI.cons.located (j.id, j.loc) (List.mem_map.mpr ⟨j, hj, rfl⟩)
  obtain ⟨b, hb, hbid, hbs⟩ := storeAt_mem hst
  have hin : j.id ∈ b.store := by rw [← hbs]; exact hst
  rcases (mem_allBufs s b).mp hb with hb1 | ⟨m, hm, rfl | rfl | rfl⟩ | ⟨t, ht, rfl⟩
  · -- a stand-alone buffer that is not an output buffer
    have hp := (ids_parts hs w).1 b hb1
    rcases dispatch_or_pending w hF hA hI hS hN hj hb hbid.symm hin (kind_of_buffer hs hb1) hout
      (fun m hm => by rw [← hbid]; exact (hp m hm).1.symm) (fun m hm => by rw [← hbid]; exact (hp m hm).2.1.symm) hpt with h | h
    · exact Or.inr (Or.inl h)
    · exact Or.inr (Or.inr h)
  · -- the pre-buffer of `m`
    by_cases hidle : m.st = .idle
    · left
      unfold possibleJobs at hpj
      obtain ⟨b', hb'⟩ := filterE_total hpj j hj
      have := actionPossible_true w hI hS hP.route hj hm hidle hin hb'
      subst this
      have := filterE_mem_of_true hpj j hj hb'
      intro e; rw [e] at this; cases this
    · exact Or.inr (Or.inr (pending_of_busy_machine hS hm hidle))
  · -- the internal buffer of `m`
    have hbusy : m.st ≠ .idle := by
      intro e
      have := hS.idleEmpty m hm e
      rw [this] at hin; cases hin
    exact Or.inr (Or.inr (pending_of_busy_machine hS hm hbusy))
  · -- the post-buffer of `m`
    rcases dispatch_or_pending w hF hA hI hS hN hj hb hbid.symm hin (kind_of_post hs hm) hout
      (fun m2 hm2 => by
        rw [← hbid]
        by_cases e2 : m2.id = m.id
        · have : m2 = m := eq_of_mem_of_key_eq (key := fun (y : MachineState) => y.id) (hs.machNodup w) hm2 hm e2
          subst this; exact (machine_buf_ids_ne hs w hm2).2.1
        · exact machines_bufs_ne hs w hm2 hm e2 _ (by simp) _ (by simp))
      (fun m2 hm2 => by rw [← hbid]; exact (internal_ne_pre_post hs w hm2 hm).2) hpt with h | h
    · exact Or.inr (Or.inl h)
    · exact Or.inr (Or.inr h)
  · -- on an AGV
    have hbusy : t.st ≠ .idle := by
      intro e
      have := hP.agv.empty t ht (by rw [e]; simp)
      rw [this] at hin; cases hin
    exact Or.inr (Or.inr (pending_of_busy_agv hS hN ht hbusy))

theorem possibleTransitions_parts {cfg : SMConfig} {s : State} {poss : List Transition}
    (h : possibleTransitions inst cfg s = .ok poss) :
    ∃ pj pt, possibleJobs inst s = .ok pj ∧ possibleTransportTransitions inst cfg s = .ok pt ∧
      (pj ≠ [] ∨ pt ≠ [] → poss ≠ []) := by
  unfold possibleTransitions at h
  obtain ⟨pj, hpj, h⟩ := except_bind_eq_ok h
  obtain ⟨pt, hpt, h⟩ := except_bind_eq_ok h
  obtain ⟨mt, hmt, h⟩ := except_bind_eq_ok h
  simp at h; subst h
  refine ⟨pj, pt, hpj, hpt, fun hne e => ?_⟩
  obtain ⟨e1, e2⟩ := List.append_eq_nil_iff.mp e
  rcases hne with hne | hne
  · cases pj with
    | nil => exact hne rfl
    | cons j rest =>
      obtain ⟨y, hy, _⟩ := (mapM_ok_mem hmt).1 j (by simp)
      rw [e1] at hy; cases hy
  · exact hne e2

theorem progress_state_gen (w : WF inst) {cfg : SMConfig} (hF : cfg.allowEarly = true ∨ PickFlex inst) (hA : HasAgv inst)
    {s : State} (hI : StructInv inst s) (hS : SchedInv s) (hP : AgvFull inst s) (hN : NoDep s)
    (hnd : isDone inst s = false) {poss : List Transition} (hp : possibleTransitions inst cfg s = .ok poss) :
    poss ≠ [] ∨ Pending s := by
  obtain ⟨pj, pt, hpj, hpt, hne⟩ := possibleTransitions_parts hp
  rcases progress_core w hF hA hI hS hP hN hnd hpj hpt with h | h | h
  · exact Or.inl (hne (Or.inl h))
  · exact Or.inl (hne (Or.inr h))
  · exact Or.inr h

/-- **Progress of a state** (unordered buffers): in a state that is not finished there is an offer,
or something is pending. -/
theorem progress_state (w : WF inst) (hF : PickFlex inst) (hA : HasAgv inst) {cfg : SMConfig} {s : State}
    (hI : StructInv inst s) (hS : SchedInv s) (hP : AgvFull inst s) (hN : NoDep s)
    (hnd : isDone inst s = false) {poss : List Transition} (hp : possibleTransitions inst cfg s = .ok poss) :
    poss ≠ [] ∨ Pending s :=
  progress_state_gen w (Or.inr hF) hA hI hS hP hN hnd hp

/-- the same for any buffer types when early transport is allowed – for a state in which no AGV is
parked on a time dependency (`NoDep`, which ordered post-buffers do not maintain) -/
theorem progress_state_early (w : WF inst) (hA : HasAgv inst) {cfg : SMConfig} (he : cfg.allowEarly = true) {s : State}
    (hI : StructInv inst s) (hS : SchedInv s) (hP : AgvFull inst s) (hN : NoDep s)
    (hnd : isDone inst s = false) {poss : List Transition} (hp : possibleTransitions inst cfg s = .ok poss) :
    poss ≠ [] ∨ Pending s :=
  progress_state_gen w (Or.inl he) hA hI hS hP hN hnd hp

/-- the same for the count `jump_to_event` looks at -/
theorem progress_count (w : WF inst) (hF : FlexInst inst) (hA : HasAgv inst) {cfg : SMConfig} {s : State}
    (hI : StructInv inst s) (hS : SchedInv s) (hP : AgvFull inst s) (hN : NoDep s)
    (hnd : isDone inst s = false) {n : Nat} (hn : numPossibleEvents inst cfg s = .ok n) :
    0 < n ∨ Pending s := by
  unfold numPossibleEvents at hn
  obtain ⟨pt, hpt, hn⟩ := except_bind_eq_ok hn
  obtain ⟨pj, hpj, hn⟩ := except_bind_eq_ok hn
  simp at hn; subst hn
  rcases progress_core w (Or.inr hF.pick) hA hI hS hP hN hnd hpj hpt with h | h | h
  · left
    cases pj with
    | nil => exact absurd rfl h
    | cons j rest => simp only [List.length_cons]; omega
  · left
    cases pt with
    | nil => exact absurd rfl h
    | cons j rest => simp only [List.length_cons]; omega
  · exact Or.inr h

/-- when something is pending, a forced jump lands on the recorded end of a running operation or on
the fixed time of a busy AGV, not on `s.time + 1` (the third alternative of `forceJump_spec`) -/
theorem forceJump_pending {s : State} (hS : SchedInv s) (hp : Pending s) {t : Int} (h : forceJump s = .ok t) :
    (∃ j ∈ s.jobs, ∃ o ∈ j.ops, o.st = .processing ∧ o.stop = some t) ∨
    (∃ x ∈ s.transports, x.st ≠ .idle ∧ x.occ = .at t) := by
  rcases (forceJump_spec hS h).2.2 with h1 | h1 | ⟨h1, h2, _⟩
  · exact Or.inl h1
  · exact Or.inr h1
  · rcases hp with ⟨j, hj, o, ho, hst, _⟩ | ⟨x, hx, hb, e, he, _⟩
    · exact absurd hst (h1 j hj o ho)
    · exact absurd he (h2 x hx hb e)

theorem possibleTransitions_time (cfg : SMConfig) (s : State) (t : Int) :
    possibleTransitions inst cfg { s with time := t } = possibleTransitions inst cfg s := rfl

end JSL
