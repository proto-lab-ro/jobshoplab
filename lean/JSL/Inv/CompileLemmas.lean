import JSL.Model.Compile

/-! Round-trip lemmas for the matrix parsers -/

namespace JSL.Compile

theorem splitOnC_ne_nil (c : Char) : ∀ t, splitOnC c t ≠ []
  | [] => by simp [splitOnC]
  | x :: xs => by
    simp only [splitOnC]
    split
    · simp
    · split <;> simp

theorem splitOnC_not_mem {c : Char} : ∀ {t : Text}, c ∉ t → splitOnC c t = [t]
  | [], _ => by simp [splitOnC]
  | x :: xs, h => by
    have hx : x ≠ c := fun e => h (by simp [e])
    have hxs : c ∉ xs := fun e => h (by simp [e])
    simp only [splitOnC, hx, if_false, splitOnC_not_mem hxs]

theorem splitOnC_append {c : Char} : ∀ {l : Text} (r : Text), c ∉ l → splitOnC c (l ++ c :: r) = l :: splitOnC c r
  | [], r, _ => by simp [splitOnC]
  | x :: xs, r, h => by
    have hx : x ≠ c := fun e => h (by simp [e])
    have hxs : c ∉ xs := fun e => h (by simp [e])
    simp only [List.cons_append, splitOnC, hx, if_false, splitOnC_append r hxs]

theorem splitOnC_joinWith {c : Char} : ∀ {ls : List Text}, ls ≠ [] → (∀ l ∈ ls, c ∉ l) → splitOnC c (joinWith c ls) = ls
  | [], h, _ => absurd rfl h
  | [l], _, hc => by simp [joinWith, splitOnC_not_mem (hc l (by simp))]
  | l :: l2 :: ls, _, hc => by
    simp only [joinWith]
    rw [splitOnC_append _ (hc l (by simp))]
    rw [splitOnC_joinWith (by simp) (fun x hx => hc x (by simp [hx]))]

theorem spanDigits_append_of : ∀ {a : Text} {b : Char} {r : Text}, (∀ c ∈ a, c.isDigit = true) → b.isDigit = false →
    spanDigits (a ++ b :: r) = (a, b :: r)
  | [], b, r, _, hb => by simp [spanDigits, hb]
  | x :: xs, b, r, ha, hb => by
    have hx : x.isDigit = true := ha x (by simp)
    have := spanDigits_append_of (a := xs) (b := b) (r := r) (fun c hc => ha c (by simp [hc])) hb
    simp only [spanDigits, Prod.mk.injEq] at this
    simp only [spanDigits, List.cons_append, List.takeWhile_cons, List.dropWhile_cons, hx, if_true, this.1, this.2]

theorem renderNat_digits (n : Nat) : ∀ c ∈ renderNat n, c.isDigit = true :=
  fun _ hc => Nat.isDigit_of_mem_toDigits (by omega) (by omega) hc

theorem renderNat_ne_nil (n : Nat) : renderNat n ≠ [] := Nat.toDigits_ne_nil

theorem parseDigits_renderNat (n : Nat) : parseDigits (renderNat n) = some n := by
  unfold parseDigits
  have h1 := renderNat_ne_nil n
  have h2 : (renderNat n).all Char.isDigit = true := List.all_eq_true.mpr (renderNat_digits n)
  simp only [h1, h2, ne_eq, not_false_eq_true, and_self, if_true]
  rw [renderNat, Nat.ofDigitChars_toDigits (by omega) (by omega)]

theorem not_digit_of {c : Char} (h : c.isDigit = false) (n : Nat) : c ∉ renderNat n := by
  intro hc; rw [renderNat_digits n c hc] at h; cases h

theorem parseInt_renderInt (i : Int) : parseInt (renderInt i) = some i := by
  unfold renderInt
  by_cases h : i < 0
  · have e : -(↑i.natAbs : Int) = i := by omega
    simp [h, parseInt, parseDigits_renderNat, e]
  · simp only [h, if_false]
    have hne : ∀ r, renderNat i.natAbs ≠ '-' :: r := by
      intro r e
      have := renderNat_digits i.natAbs '-' (by rw [e]; simp)
      revert this; decide
    have e : (↑i.natAbs : Int) = i := by omega
    unfold parseInt
    split
    · rename_i r heq; exact absurd heq (hne r)
    · simp [parseDigits_renderNat, e]

theorem renderGroup_eq (g : Nat × Nat) : renderGroup g = '(' :: (renderNat g.1 ++ ',' :: (renderNat g.2 ++ [')'])) := by
  simp [renderGroup]

theorem parseGroup_render (g : Nat × Nat) (rest : Text) : parseGroup (renderGroup g ++ rest) = some (g, rest) := by
  have e : renderGroup g ++ rest = '(' :: (renderNat g.1 ++ ',' :: (renderNat g.2 ++ ')' :: rest)) := by
    rw [renderGroup_eq]; simp
  rw [e]
  unfold parseGroup
  simp only
  rw [spanDigits_append_of (renderNat_digits g.1) (by decide)]
  simp only
  rw [spanDigits_append_of (renderNat_digits g.2) (by decide)]
  simp [parseDigits_renderNat]

theorem flatMap_renderGroup_ne_nil {row : List (Nat × Nat)} (h : row ≠ []) : row.flatMap renderGroup ≠ [] := by
  cases row with
  | nil => exact absurd rfl h
  | cons g gs => simp [renderGroup]

theorem parseOpsF_render : ∀ (row : List (Nat × Nat)) (f : Nat), row ≠ [] → row.length ≤ f →
    parseOpsF f (row.flatMap renderGroup) = some row
  | [], _, h, _ => absurd rfl h
  | g :: gs, 0, _, hf => by simp at hf
  | g :: gs, f + 1, _, hf => by
    simp only [List.flatMap_cons, parseOpsF, parseGroup_render]
    cases gs with
    | nil => simp
    | cons g2 gs2 =>
      have hne : (g2 :: gs2).flatMap renderGroup ≠ [] := flatMap_renderGroup_ne_nil (by simp)
      have ih := parseOpsF_render (g2 :: gs2) f (by simp) (by simp at hf ⊢; omega)
      have hdrop : ((g2 :: gs2).flatMap renderGroup).dropWhile isWs = (g2 :: gs2).flatMap renderGroup := by
        simp [List.flatMap_cons, renderGroup, isWs]
      rw [hdrop]
      cases hx : (g2 :: gs2).flatMap renderGroup with
      | nil => exact absurd hx hne
      | cons y ys => rw [hx] at ih; simp [ih]

theorem length_renderGroup (g : Nat × Nat) : 1 ≤ (renderGroup g).length := by simp [renderGroup]

theorem length_flatMap_renderGroup : ∀ (row : List (Nat × Nat)), row.length ≤ (row.flatMap renderGroup).length
  | [] => by simp
  | g :: gs => by
    have := length_flatMap_renderGroup gs
    have := length_renderGroup g
    simp only [List.flatMap_cons, List.length_append, List.length_cons]; omega

theorem parseOps_render (row : List (Nat × Nat)) (h : row ≠ []) : parseOps (row.flatMap renderGroup) = some row :=
  parseOpsF_render row _ h (length_flatMap_renderGroup row)

theorem renderJobLine_eq (k : Nat) (row : List (Nat × Nat)) :
    renderJobLine k row = 'j' :: (renderNat k ++ '|' :: row.flatMap renderGroup) := by
  simp [renderJobLine]

theorem parseJobLine_render (k : Nat) (row : List (Nat × Nat)) (h : row ≠ []) :
    parseJobLine (renderJobLine k row) = some row := by
  rw [renderJobLine_eq]
  unfold parseJobLine
  simp only
  rw [spanDigits_append_of (renderNat_digits k) (by decide)]
  simp [renderNat_ne_nil, parseOps_render row h]

theorem not_mem_group {c : Char} (hd : c.isDigit = false) (h3 : c ≠ '(') (h4 : c ≠ ',') (h5 : c ≠ ')') (g : Nat × Nat) :
    c ∉ renderGroup g := by
  intro hc
  rw [renderGroup_eq] at hc
  rcases List.mem_cons.mp hc with e | hc
  · exact h3 e
  rcases List.mem_append.mp hc with e | hc
  · exact not_digit_of hd _ e
  rcases List.mem_cons.mp hc with e | hc
  · exact h4 e
  rcases List.mem_append.mp hc with e | hc
  · exact not_digit_of hd _ e
  · simp at hc; exact h5 hc

theorem not_mem_jobLine {c : Char} (hd : c.isDigit = false) (h1 : c ≠ 'j') (h2 : c ≠ '|') (h3 : c ≠ '(') (h4 : c ≠ ',')
    (h5 : c ≠ ')') (k : Nat) (row : List (Nat × Nat)) : c ∉ renderJobLine k row := by
  intro hc
  rw [renderJobLine_eq] at hc
  rcases List.mem_cons.mp hc with e | hc
  · exact h1 e
  rcases List.mem_append.mp hc with e | hc
  · exact not_digit_of hd _ e
  rcases List.mem_cons.mp hc with e | hc
  · exact h2 e
  obtain ⟨g, _, e⟩ := List.mem_flatMap.mp hc
  exact not_mem_group hd h3 h4 h5 g e

theorem stripSpaces_of_no_space {t : Text} (h : ' ' ∉ t) : stripSpaces t = t := by
  unfold stripSpaces
  apply List.filter_eq_self.mpr
  intro c hc
  simp only [ne_eq, decide_eq_true_eq]
  intro e; subst e; exact h hc

theorem filterMap_jobLines : ∀ (rows : List (List (Nat × Nat))) (k : Nat), (∀ r ∈ rows, r ≠ []) →
    ((renderJobLinesFrom k rows).map stripSpaces).filterMap parseJobLine = rows
  | [], _, _ => by simp [renderJobLinesFrom]
  | r :: rs, k, h => by
    simp only [renderJobLinesFrom, List.map_cons, List.filterMap_cons]
    rw [stripSpaces_of_no_space (not_mem_jobLine (by decide) (by decide) (by decide) (by decide) (by decide) (by decide) k r)]
    rw [parseJobLine_render k r (h r (by simp))]
    simp only
    rw [filterMap_jobLines rs (k + 1) (fun x hx => h x (by simp [hx]))]

theorem no_newline_jobLines : ∀ (rows : List (List (Nat × Nat))) (k : Nat), ∀ l ∈ renderJobLinesFrom k rows, '\n' ∉ l
  | [], _, l, hl => by simp [renderJobLinesFrom] at hl
  | r :: rs, k, l, hl => by
    simp only [renderJobLinesFrom, List.mem_cons] at hl
    rcases hl with rfl | hl
    · exact not_mem_jobLine (by decide) (by decide) (by decide) (by decide) (by decide) (by decide) k r
    · exact no_newline_jobLines rs (k + 1) l hl

theorem getLast?_append_of_ne_nil {l1 l2 : Text} (h : l2 ≠ []) : (l1 ++ l2).getLast? = l2.getLast? := by
  rw [List.getLast?_append]
  cases hl : l2.getLast? with
  | none => exact absurd (List.getLast?_eq_none_iff.mp hl) h
  | some x => rfl

theorem trimLeft_of_head {t : Text} (h : t.head? ≠ some ' ') : trimLeft t = t := by
  cases t with
  | nil => rfl
  | cons x xs =>
    have : x ≠ ' ' := by intro e; apply h; simp [e]
    simp [trimLeft, this]

theorem trim_of_ends {t : Text} (h1 : t.head? ≠ some ' ') (h2 : t.getLast? ≠ some ' ') : trim t = t := by
  unfold trim
  rw [trimLeft_of_head h1, trimLeft_of_head (by rw [List.head?_reverse]; exact h2), List.reverse_reverse]

theorem trim_of_no_space {t : Text} (h : ' ' ∉ t) : trim t = t := by
  apply trim_of_ends
  · intro e; exact h (List.mem_of_mem_head? e)
  · intro e; exact h (List.mem_of_getLast? e)

theorem not_mem_joinWith {c sep : Char} (hs : c ≠ sep) : ∀ {ls : List Text}, (∀ l ∈ ls, c ∉ l) → c ∉ joinWith sep ls
  | [], _ => by simp [joinWith]
  | [l], h => by simpa [joinWith] using h l (by simp)
  | l :: l2 :: ls, h => by
    simp only [joinWith, List.mem_append, List.mem_cons, not_or]
    exact ⟨h l (by simp), hs, not_mem_joinWith hs (fun x hx => h x (by simp [hx]))⟩

theorem not_mem_renderInt {c : Char} (hd : c.isDigit = false) (hm : c ≠ '-') (i : Int) : c ∉ renderInt i := by
  unfold renderInt
  split
  · simp only [List.mem_cons, not_or]; exact ⟨hm, not_digit_of hd _⟩
  · exact not_digit_of hd _

theorem renderInt_ne_nil (i : Int) : renderInt i ≠ [] := by
  unfold renderInt; split
  · simp
  · exact renderNat_ne_nil _

def GoodName (n : Text) : Prop := n ≠ [] ∧ ' ' ∉ n ∧ '|' ∉ n ∧ '\n' ∉ n

theorem splitWS_joinWith_ints (vs : List Int) : splitWS (joinWith ' ' (vs.map renderInt)) = vs.map renderInt := by
  unfold splitWS
  cases vs with
  | nil => simp [joinWith, splitOnC]
  | cons v vs =>
    rw [splitOnC_joinWith (by simp)]
    · apply List.filter_eq_self.mpr
      intro t ht
      obtain ⟨i, _, rfl⟩ := List.mem_map.mp ht
      simpa using renderInt_ne_nil i
    · intro t ht
      obtain ⟨i, _, rfl⟩ := List.mem_map.mp ht
      exact not_mem_renderInt (by decide) (by decide) i

theorem mapM_parseInt_render : ∀ (vs : List Int), (vs.map renderInt).mapM parseInt = some vs
  | [] => by simp
  | v :: vs => by
    simp [List.mapM_cons, parseInt_renderInt, mapM_parseInt_render vs]

theorem not_mem_vals {c : Char} (hd : c.isDigit = false) (hm : c ≠ '-') (hs : c ≠ ' ') (vs : List Int) :
    c ∉ joinWith ' ' (vs.map renderInt) :=
  not_mem_joinWith hs (fun t ht => by
    obtain ⟨i, _, rfl⟩ := List.mem_map.mp ht
    exact not_mem_renderInt hd hm i)

theorem parseRow_render (r : Text × List Int) (hn : GoodName r.1) : parseRowLine (renderRow r) = some r := by
  unfold parseRowLine renderRow
  rw [splitOnC_append _ hn.2.2.1, splitOnC_not_mem (not_mem_vals (by decide) (by decide) (by decide) r.2)]
  simp only [splitWS_joinWith_ints, mapM_parseInt_render, Option.map_some]

theorem mapM_rows : ∀ (rows : List (Text × List Int)), (∀ r ∈ rows, GoodName r.1) →
    (rows.map renderRow).mapM parseRowLine = some rows
  | [], _ => by simp
  | r :: rs, h => by
    simp [List.mapM_cons, parseRow_render r (h r (by simp)), mapM_rows rs (fun x hx => h x (by simp [hx]))]

theorem eq_of_mem_of_fst_eq : ∀ {l : List (Text × List Int)}, (l.map (·.1)).Nodup → ∀ {a b}, a ∈ l → b ∈ l → a.1 = b.1 → a = b
  | [], _, _, _, ha, _, _ => by cases ha
  | x :: xs, hnd, a, b, ha, hb, h => by
    simp only [List.map_cons, List.nodup_cons, List.mem_map, not_exists, not_and] at hnd
    rcases List.mem_cons.mp ha with rfl | ha'
    · rcases List.mem_cons.mp hb with rfl | hb'
      · rfl
      · exact absurd h.symm (hnd.1 b hb')
    · rcases List.mem_cons.mp hb with rfl | hb'
      · exact absurd h (hnd.1 a ha')
      · exact eq_of_mem_of_fst_eq hnd.2 ha' hb' h

theorem getLast?_joinWith (sep : Char) : ∀ {ts : List Text} {t : Text}, ts.getLast? = some t → t ≠ [] →
    (joinWith sep ts).getLast? = t.getLast?
  | [], _, h, _ => by cases h
  | [t0], t, h, _ => by
    cases h
    rfl
  | t0 :: t1 :: ts, t, h, hne => by
    have ih := getLast?_joinWith sep (ts := t1 :: ts) (t := t) (by simpa using h) hne
    have hne' : joinWith sep (t1 :: ts) ≠ [] := by
      intro h0
      rw [h0] at ih
      exact hne (List.getLast?_eq_none_iff.mp ih.symm)
    simp only [joinWith]
    rw [show t0 ++ sep :: joinWith sep (t1 :: ts) = (t0 ++ [sep]) ++ joinWith sep (t1 :: ts) by simp,
      getLast?_append_of_ne_nil hne', ih]

theorem renderRow_trim (r : Text × List Int) (hn : GoodName r.1) : trim (renderRow r) = renderRow r := by
  apply trim_of_ends
  · unfold renderRow
    cases h : r.1 with
    | nil => exact absurd h hn.1
    | cons x xs =>
      simp only [List.cons_append, List.head?_cons]
      intro e
      apply hn.2.1
      rw [h]; simp at e; simp [e]
  · unfold renderRow
    intro e
    -- the last character: of the last numeral if there are values, else the separator
    cases hv : r.2 with
    | nil => rw [hv] at e; simp [joinWith] at e
    | cons v vs =>
      have hl : ((v :: vs).map renderInt).getLast? = some (renderInt ((v :: vs).getLast (List.cons_ne_nil _ _))) := by
        rw [List.getLast?_map, List.getLast?_eq_getLast (List.cons_ne_nil _ _)]
        rfl
      have hj := getLast?_joinWith ' ' hl (renderInt_ne_nil _)
      have hne : joinWith ' ' ((v :: vs).map renderInt) ≠ [] := by
        intro h0
        rw [h0] at hj
        exact renderInt_ne_nil _ (List.getLast?_eq_none_iff.mp hj.symm)
      rw [hv, show r.1 ++ '|' :: joinWith ' ' ((v :: vs).map renderInt) =
          (r.1 ++ ['|']) ++ joinWith ' ' ((v :: vs).map renderInt) by simp,
        getLast?_append_of_ne_nil hne, hj] at e
      exact not_mem_renderInt (by decide) (by decide) _ (List.mem_of_getLast? e)

end JSL.Compile
