import JSL.Inv.SetupDefs

/-!
# Records of a state: uniqueness, times, and what a rewritten record changes
-/

namespace JSL

variable {orc : Oracle} {inst : Instance}

theorem recs_key_unique (w : WF inst) {s : State} (hI : StructInv inst s) {a b : OpState}
    (ha : a ∈ recs s) (hb : b ∈ recs s) (hk : a.job = b.job ∧ a.idx = b.idx) : a = b := by
  obtain ⟨ja, hja, haa⟩ := mem_recs.mp ha
  obtain ⟨jb, hjb, hbb⟩ := mem_recs.mp hb
  have e1 := hI.shape.ops_job w hja haa
  have e2 := hI.shape.ops_job w hjb hbb
  have : ja = jb := eq_of_mem_of_key_eq (key := fun (y : JobState) => y.id) (hI.shape.jobsNodup w) hja hjb
    (by rw [← e1, ← e2, hk.1])
  subst this
  exact key_unique_in_job w hI hja haa hbb hk

theorem done_times {s : State} (hS : SchedInv s) {a : OpState} (ha : a ∈ recs s) (hst : a.st = .done) :
    a.start = some (tS a) ∧ a.stop = some (tE a) ∧ tS a ≤ tE a ∧ tE a ≤ s.time := by
  obtain ⟨j, hj, hx⟩ := mem_recs.mp ha
  obtain ⟨x, y, h1, h2, h3, h4⟩ := (OpsOK_mem _ _ (hS.ops j hj) a hx).1 hst
  simp [tS, tE, h1, h2, h3, h4]

theorem proc_times {s : State} (hS : SchedInv s) {a : OpState} (ha : a ∈ recs s) (hst : a.st = .processing) :
    a.start = some (tS a) ∧ a.stop = some (tE a) ∧ tS a ≤ tE a ∧ tS a ≤ s.time ∧ s.time ≤ tE a := by
  obtain ⟨j, hj, hx⟩ := mem_recs.mp ha
  obtain ⟨x, y, h1, h2, h3, h4, h5⟩ := (OpsOK_mem _ _ (hS.ops j hj) a hx).2.1 hst
  simp [tS, tE, h1, h2, h3, h4, h5]

theorem done_before_proc {s : State} (hS : SchedInv s) {a b : OpState} (ha : a ∈ recs s) (hb : b ∈ recs s)
    (hm : a.machine = b.machine) (hsa : a.st = .done) (hsb : b.st = .processing) : tE a ≤ tS b := by
  obtain ⟨ja, hja, haa⟩ := mem_recs.mp ha
  obtain ⟨jb, hjb, hbb⟩ := mem_recs.mp hb
  exact hS.doneBeforeProc ja hja a haa jb hjb b hbb hm hsa hsb _ _ (done_times hS ha hsa).2.1 (proc_times hS hb hsb).1

theorem proc_unique (w : WF inst) {s : State} (hI : StructInv inst s) (hS : SchedInv s) {a b : OpState}
    (ha : a ∈ recs s) (hb : b ∈ recs s) (hm : a.machine = b.machine) (hsa : a.st = .processing)
    (hsb : b.st = .processing) : a = b := by
  obtain ⟨j₁, hj₁, ho₁⟩ := mem_recs.mp ha
  obtain ⟨j₂, hj₂, ho₂⟩ := mem_recs.mp hb
  obtain ⟨ma, hma, ea, _, sa⟩ := hS.procOnBusy j₁ hj₁ a ho₁ hsa
  obtain ⟨mb, hmb, eb, _, sb⟩ := hS.procOnBusy j₂ hj₂ b ho₂ hsb
  have : ma = mb := eq_of_mem_of_key_eq (key := fun (y : MachineState) => y.id) (hI.shape.machNodup w) hma hmb
    (by rw [ea, eb, hm])
  subst this
  rw [sa] at sb; simp at sb
  have : j₁ = j₂ := eq_of_mem_of_key_eq (key := fun (y : JobState) => y.id) (hI.shape.jobsNodup w) hj₁ hj₂ sb
  subst this
  exact OpsOK_one_processing _ _ (hS.ops j₁ hj₁) a ho₁ b ho₂ hsa hsb

theorem no_proc_on_idle (w : WF inst) {s : State} (hI : StructInv inst s) (hS : SchedInv s) {m : MachineState}
    (hm : m ∈ s.machines) (hst : m.st = .idle) {b : OpState} (hb : ProcOn (recs s) m.id b) : False := by
  obtain ⟨j, hj, ho⟩ := mem_recs.mp hb.mem
  obtain ⟨m', hm', e, hne, _⟩ := hS.procOnBusy j hj b ho hb.st
  have : m' = m := eq_of_mem_of_key_eq (key := fun (y : MachineState) => y.id) (hI.shape.machNodup w) hm' hm
    (by rw [e, hb.mach])
  subst this
  exact hne hst

theorem mem_recs_replace (w : WF inst) {s s' : State} (hI : StructInv inst s) {j J' : JobState} {target rec : OpState}
    (hj : j ∈ s.jobs) (htm : target ∈ j.ops) (hkey : rec.job = target.job ∧ rec.idx = target.idx)
    (hJid : J'.id = j.id) (hJops : J'.ops = (j.replaceOp rec).ops) (hjobs : s'.jobs = (s.replaceJob J').jobs) (x : OpState) :
    x ∈ recs s' ↔ x = rec ∨ (x ∈ recs s ∧ x ≠ target) := by
  have hjn := hI.shape.jobsNodup w
  constructor
  · intro hx
    obtain ⟨j1, hj1, hx1⟩ := mem_recs.mp hx
    rw [hjobs] at hj1
    rcases (mem_replaceJob hjn hj hJid j1).mp hj1 with rfl | ⟨hj0, hne⟩
    · rw [hJops] at hx1
      rcases mem_replaceOp.mp hx1 with ⟨rfl, _⟩ | ⟨hx0, hk⟩
      · exact Or.inl rfl
      · refine Or.inr ⟨mem_recs.mpr ⟨j, hj, hx0⟩, ?_⟩
        intro e; subst e
        exact hk ⟨hkey.1.symm, hkey.2.symm⟩
    · refine Or.inr ⟨mem_recs.mpr ⟨j1, hj0, hx1⟩, ?_⟩
      intro e; subst e
      apply hne
      rw [← hI.shape.ops_job w hj0 hx1, hI.shape.ops_job w hj htm]
  · rintro (rfl | ⟨hx, hne⟩)
    · apply mem_recs.mpr
      refine ⟨J', by rw [hjobs]; exact (mem_replaceJob hjn hj hJid J').mpr (Or.inl rfl), ?_⟩
      rw [hJops]
      exact mem_replaceOp.mpr (Or.inl ⟨rfl, target, htm, hkey.1.symm, hkey.2.symm⟩)
    · obtain ⟨j1, hj1, hx1⟩ := mem_recs.mp hx
      by_cases e : j1.id = j.id
      · have : j1 = j := eq_of_mem_of_key_eq (key := fun (y : JobState) => y.id) hjn hj1 hj e
        subst this
        apply mem_recs.mpr
        refine ⟨J', by rw [hjobs]; exact (mem_replaceJob hjn hj hJid J').mpr (Or.inl rfl), ?_⟩
        rw [hJops]
        refine mem_replaceOp.mpr (Or.inr ⟨hx1, ?_⟩)
        intro hk
        exact hne (key_unique_in_job w hI hj1 hx1 htm ⟨by rw [hk.1, hkey.1], by rw [hk.2, hkey.2]⟩)
      · exact mem_recs.mpr ⟨j1, by rw [hjobs]; exact (mem_replaceJob hjn hj hJid j1).mpr (Or.inr ⟨hj1, e⟩), hx1⟩

theorem rec_not_old (w : WF inst) {s : State} (hI : StructInv inst s) {target rec p : OpState}
    (ht : target ∈ recs s) (hkey : rec.job = target.job ∧ rec.idx = target.idx) (hp : p ∈ recs s) (he : p = rec) :
    p = target :=
  recs_key_unique w hI hp ht (by rw [he]; exact hkey)

end JSL
