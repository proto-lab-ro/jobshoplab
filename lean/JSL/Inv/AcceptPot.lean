import JSL.Inv.ProgressPass
import JSL.Inv.StartOnly
import JSL.Inv.Startable
import JSL.Inv.Applies

/-!
# A potential that every accepted offer decreases (C11, the step bound of the always-accept agent)

`pot inst s` = Σ over the jobs of `2 · (number of idle operation records) + (1 if the job waits
for a dispatch)`.  A job *waits for a dispatch* when it lies in no output buffer, no AGV has
claimed it, and it does not lie in the pre-buffer of the machine of its next idle operation.

* a machine start turns an idle record into a processing one: `-2`, and the job may begin to wait
  for its next dispatch: `+1`;
* a dispatch claims a waiting job: `-1`;
* a delivery releases the claim, but the job then lies in the pre-buffer of the machine of its next
  idle operation, or in an output buffer: `0`;
* no other transition changes the potential.

`pot inst s ≤ potBound inst`, and while there is an offer the potential is positive.
-/

namespace JSL

variable {orc : Oracle} {inst : Instance}

def idleCount (j : JobState) : Nat := j.ops.countP (·.st == .idle)

def prePairs (inst : Instance) : List (Nat × Nat) := inst.machines.map fun mc => (mc.id, mc.pre.id)

def atNextPre (inst : Instance) (j : JobState) : Bool :=
  match j.nextIdle? with
  | some op => (prePairs inst).contains (op.machine, j.loc)
  | none => false

def claimedB (ts : List TransportState) (x : Nat) : Bool := ts.any (·.job == some x)

def waitingB (inst : Instance) (ts : List TransportState) (j : JobState) : Bool :=
  !(outputIds inst).contains j.loc && !claimedB ts j.id && !atNextPre inst j

def jobPot (inst : Instance) (ts : List TransportState) (j : JobState) : Nat :=
  2 * idleCount j + (if waitingB inst ts j then 1 else 0)

def pot (inst : Instance) (s : State) : Nat := (s.jobs.map (jobPot inst s.transports)).sum

/-- two per operation (one dispatch to its machine, one start) and one per job (the dispatch to the
output buffer) -/
def potBound (inst : Instance) : Nat := 2 * (allOps inst).length + inst.jobs.length

theorem pot_time (s : State) (t : Int) : pot inst { s with time := t } = pot inst s := rfl

theorem sum_pos_of_mem {α} {f : α → Nat} : ∀ {l : List α} {x : α}, x ∈ l → 0 < f x → 0 < (l.map f).sum
  | a :: as, x, h, hp => by
    simp only [List.map_cons, List.sum_cons]
    rcases List.mem_cons.mp h with rfl | h
    · exact Nat.add_pos_left hp _
    · exact Nat.add_pos_right _ (sum_pos_of_mem h hp)

theorem pot_le_of_map {s s' : State} (g : JobState → JobState) (hj : s'.jobs = s.jobs.map g)
    (h : ∀ x ∈ s.jobs, jobPot inst s'.transports (g x) ≤ jobPot inst s.transports x) : pot inst s' ≤ pot inst s := by
  unfold pot
  rw [hj, List.map_map]
  exact sum_le_sum h

theorem pot_lt_of_map {s s' : State} (g : JobState → JobState) (hj : s'.jobs = s.jobs.map g)
    (h : ∀ x ∈ s.jobs, jobPot inst s'.transports (g x) ≤ jobPot inst s.transports x)
    (hex : ∃ x ∈ s.jobs, jobPot inst s'.transports (g x) < jobPot inst s.transports x) : pot inst s' < pot inst s := by
  unfold pot
  rw [hj, List.map_map]
  exact sum_lt_sum h hex

theorem jobPot_bounds (ts : List TransportState) (j : JobState) :
    2 * idleCount j ≤ jobPot inst ts j ∧ jobPot inst ts j ≤ 2 * idleCount j + 1 := by
  unfold jobPot
  split
  · exact ⟨Nat.le_add_right _ _, Nat.le_refl _⟩
  · exact ⟨Nat.le_refl _, Nat.le_add_right _ _⟩

theorem jobPot_le {ts ts' : List TransportState} {j j' : JobState} (h1 : idleCount j' ≤ idleCount j)
    (h2 : idleCount j' = idleCount j → waitingB inst ts' j' = true → waitingB inst ts j = true) :
    jobPot inst ts' j' ≤ jobPot inst ts j := by
  by_cases e : idleCount j' = idleCount j
  · unfold jobPot
    rw [e]
    by_cases hw : waitingB inst ts' j' = true
    · rw [if_pos hw, if_pos (h2 e hw)]; exact Nat.le_refl _
    · rw [if_neg hw]; exact Nat.le_add_right _ _
  · have := (jobPot_bounds (inst := inst) ts j).1
    have := (jobPot_bounds (inst := inst) ts' j').2
    omega

theorem jobPot_lt_of_idle {ts ts' : List TransportState} {j j' : JobState} (h1 : idleCount j' < idleCount j) :
    jobPot inst ts' j' < jobPot inst ts j := by
  have := (jobPot_bounds (inst := inst) ts j).1
  have := (jobPot_bounds (inst := inst) ts' j').2
  omega

theorem jobPot_le_len (ts : List TransportState) (j : JobState) : jobPot inst ts j ≤ 2 * j.ops.length + 1 :=
  Nat.le_trans (jobPot_bounds ts j).2 (Nat.add_le_add_right (Nat.mul_le_mul_left 2 List.countP_le_length) 1)

theorem sum_le_len {α} {f len : α → Nat} : ∀ {l : List α}, (∀ x ∈ l, f x ≤ 2 * len x + 1) →
    (l.map f).sum ≤ 2 * (l.map len).sum + l.length
  | [], _ => by simp
  | a :: as, h => by
    have h1 := h a (by simp)
    have h2 := sum_le_len (l := as) fun x hx => h x (by simp [hx])
    simp only [List.map_cons, List.sum_cons, List.length_cons]
    omega

theorem pot_le_bound {s : State} (hs : Shape inst s) : pot inst s ≤ potBound inst := by
  have h1 : s.jobs.map (fun j => j.ops.length) = inst.jobs.map (fun jc => jc.ops.length) := by
    have := congrArg (List.map (fun k : Nat × List (Nat × Nat × Nat) => k.2.length)) hs.jobs
    simpa [List.map_map, Function.comp_def, jKey, jcKey] using this
  have h2 : s.jobs.length = inst.jobs.length := by
    have := congrArg List.length hs.jobs
    simpa using this
  unfold pot potBound allOps
  rw [List.length_flatMap, ← h1, ← h2]
  exact sum_le_len fun x _ => jobPot_le_len s.transports x

/-- `hg`: `g` changes an element only into one that fails `p` -/
theorem countP_map_le {α} {p : α → Bool} {g : α → α} (hg : ∀ a, p (g a) = true → g a = a) : ∀ l : List α,
    (l.map g).countP p ≤ l.countP p ∧
    ((l.map g).countP p = l.countP p → (l.map g).find? p = l.find? p) ∧
    ((∃ a ∈ l, p a = true ∧ p (g a) = false) → (l.map g).countP p < l.countP p)
  | [] => by simp
  | a :: as => by
    obtain ⟨ih1, ih2, ih3⟩ := countP_map_le hg as
    simp only [List.map_cons, List.countP_cons, List.find?_cons, List.mem_cons]
    cases hga : p (g a) with
    | true =>
      have e := hg a hga
      rw [e] at hga
      simp only [e, hga, if_true]
      refine ⟨by omega, fun _ => trivial, ?_⟩
      rintro ⟨b, rfl | hb, h1, h2⟩
      · rw [e, hga] at h2; cases h2
      · have := ih3 ⟨b, hb, h1, h2⟩; omega
    | false =>
      cases hpa : p a with
      | true => simp only [if_true, Bool.false_eq_true, if_false]; exact ⟨by omega, by omega, fun _ => by omega⟩
      | false =>
        simp only [Bool.false_eq_true, if_false, Nat.add_zero]
        refine ⟨ih1, ih2, ?_⟩
        rintro ⟨b, rfl | hb, h1, h2⟩
        · rw [hpa] at h1; cases h1
        · exact ih3 ⟨b, hb, h1, h2⟩

theorem replaceOp_idle (j : JobState) (x : OpState) (hx : x.st ≠ .idle) :
    idleCount (j.replaceOp x) ≤ idleCount j ∧
    (idleCount (j.replaceOp x) = idleCount j → (j.replaceOp x).nextIdle? = j.nextIdle?) ∧
    ((∃ o ∈ j.ops, o.st = .idle ∧ o.job = x.job ∧ o.idx = x.idx) → idleCount (j.replaceOp x) < idleCount j) := by
  obtain ⟨h1, h2, h3⟩ := countP_map_le (p := fun o : OpState => o.st == .idle)
    (g := fun o => if o.job == x.job && o.idx == x.idx then x else o) (fun o h => by
      split at h
      · exact absurd (by simpa using h) hx
      · exact if_neg ‹_›) j.ops
  refine ⟨h1, h2, fun ⟨o, ho, hst, hj, hi⟩ => h3 ⟨o, ho, by simp [hst], ?_⟩⟩
  have e1 : (x.st == OSt.idle) = false := by simpa using hx
  simp [hj, hi, e1]

theorem claimedB_iff {ts : List TransportState} {x : Nat} : claimedB ts x = true ↔ ∃ t ∈ ts, t.job = some x := by
  simp [claimedB, List.any_eq_true]

theorem atNextPre_iff {j : JobState} :
    atNextPre inst j = true ↔ ∃ op, j.nextIdle? = some op ∧ (op.machine, j.loc) ∈ prePairs inst := by
  unfold atNextPre
  cases j.nextIdle? with
  | none => simp
  | some op => simp

theorem waitingB_iff {ts : List TransportState} {j : JobState} :
    waitingB inst ts j = true ↔
      j.loc ∉ outputIds inst ∧ (∀ t ∈ ts, t.job ≠ some j.id) ∧ atNextPre inst j = false := by
  simp [waitingB, claimedB, and_assoc]

theorem prePairs_state {s : State} (hs : Shape inst s) : s.machines.map (fun m => (m.id, m.pre.id)) = prePairs inst := by
  have := congrArg (List.map (fun k : Nat × Nat × Nat × Nat => (k.1, k.2.1))) hs.machines
  simpa [List.map_map, Function.comp_def, mKey, mcKey, prePairs] using this

theorem mem_prePairs {s : State} (hs : Shape inst s) {a b : Nat} :
    (a, b) ∈ prePairs inst ↔ ∃ m ∈ s.machines, m.id = a ∧ m.pre.id = b := by
  rw [← prePairs_state hs]
  simp [List.mem_map]

theorem not_atNextPre_of_loc {s : State} (hs : Shape inst s) {j : JobState}
    (h : ∀ m ∈ s.machines, m.pre.id ≠ j.loc) : atNextPre inst j = false := by
  cases hc : atNextPre inst j with
  | false => rfl
  | true =>
    obtain ⟨op, _, hm⟩ := atNextPre_iff.mp hc
    obtain ⟨m, hm', _, e⟩ := (mem_prePairs hs).mp hm
    exact absurd e (h m hm')

theorem idleCount_of_ops {j j' : JobState} (h : j'.ops = j.ops) : idleCount j' = idleCount j := by
  unfold idleCount; rw [h]

theorem nextIdle_of_ops {j j' : JobState} (h : j'.ops = j.ops) : j'.nextIdle? = j.nextIdle? := by
  unfold JobState.nextIdle?; rw [h]

theorem atNextPre_congr {j j' : JobState} (h1 : j'.nextIdle? = j.nextIdle?) (h2 : j'.loc = j.loc) :
    atNextPre inst j' = atNextPre inst j := by
  unfold atNextPre; rw [h1, h2]

theorem waitingB_congr {ts : List TransportState} {j j' : JobState} (h1 : j'.nextIdle? = j.nextIdle?)
    (h2 : j'.loc = j.loc) (h3 : j'.id = j.id) : waitingB inst ts j' = waitingB inst ts j := by
  unfold waitingB; rw [atNextPre_congr h1 h2, h2, h3]

theorem pot_replaceJob (w : WF inst) {s s' : State} (hs : Shape inst s) {j J' : JobState} (hj : j ∈ s.jobs)
    (hid : J'.id = j.id) (hjobs : s'.jobs = (s.replaceJob J').jobs)
    (hother : ∀ x ∈ s.jobs, x.id ≠ j.id → jobPot inst s'.transports x ≤ jobPot inst s.transports x)
    (hJ : jobPot inst s'.transports J' ≤ jobPot inst s.transports j) :
    pot inst s' ≤ pot inst s ∧
      (jobPot inst s'.transports J' < jobPot inst s.transports j → pot inst s' < pot inst s) := by
  have hmap : s'.jobs = s.jobs.map (fun x => if x.id == J'.id then J' else x) := hjobs
  have hpt : ∀ x ∈ s.jobs, jobPot inst s'.transports (if x.id == J'.id then J' else x) ≤ jobPot inst s.transports x := by
    intro x hx
    by_cases e : x.id = j.id
    · have : x = j := eq_of_mem_of_key_eq (key := fun (y : JobState) => y.id) (hs.jobsNodup w) hx hj e
      subst this
      rw [if_pos (by simp [hid])]
      exact hJ
    · rw [if_neg (by simpa [hid] using e)]
      exact hother x hx e
  refine ⟨pot_le_of_map _ hmap hpt, fun hlt => pot_lt_of_map _ hmap hpt ⟨j, hj, ?_⟩⟩
  rw [if_pos (by simp [hid])]
  exact hlt

/-- the rewritten job has one idle record fewer (a start), or as many and is not newly waiting – it
stays where it is, or leaves the internal buffer of a machine for the post-buffer -/
theorem machine_pot (w : WF inst) {s s' : State} {r r' : Rng} {tr : Transition} {mid : Nat} (hI : StructInv inst s)
    (hS : SchedInv s) (hc : tr.comp = .m mid) (h : applyTransition orc inst s r tr = .ok (s', r')) :
    pot inst s' ≤ pot inst s ∧ (tr.new = .m .setup → pot inst s' < pot inst s) := by
  have hs := hI.shape
  obtain ⟨j, hj, J', op, rec, hid, hops, hjobs, htr, hop, hk1, hk2, hrec, hcase⟩ := machine_rec_effect w hI hS hc h
  have hic : idleCount J' = idleCount (j.replaceOp rec) := idleCount_of_ops hops
  obtain ⟨hle, hsame, hlt⟩ := replaceOp_idle j rec hrec
  have hJ : jobPot inst s'.transports J' ≤ jobPot inst s.transports j ∧
      (tr.new = .m .setup → jobPot inst s'.transports J' < jobPot inst s.transports j) := by
    rw [htr]
    rcases hcase with ⟨_, hidle⟩ | ⟨hn, _, hloc⟩
    · have := jobPot_lt_of_idle (inst := inst) (ts := s.transports) (ts' := s.transports) (j := j) (j' := J')
        (by rw [hic]; exact hlt ⟨op, hop, hidle, hk1.symm, hk2.symm⟩)
      exact ⟨Nat.le_of_lt this, fun _ => this⟩
    · refine ⟨jobPot_le (by rw [hic]; exact hle) fun e hw => ?_, fun e => absurd e hn⟩
      rw [hic] at e
      rcases hloc with hloc | ⟨m, hm, hloc⟩
      · rw [← waitingB_congr ((nextIdle_of_ops hops).trans (hsame e)) hloc hid]; exact hw
      · obtain ⟨_, h2, _⟩ := waitingB_iff.mp hw
        refine waitingB_iff.mpr ⟨?_, fun t ht => by rw [← hid]; exact h2 t ht,
          not_atNextPre_of_loc hs fun m2 hm2 e => (internal_ne_pre_post hs w hm hm2).1 (by rw [e, hloc])⟩
        rw [hloc]; exact (machine_buf_not_output w hs hm).2.1
  have := pot_replaceJob w hs hj hid hjobs (fun x _ _ => by rw [htr]; exact Nat.le_refl _) hJ.1
  exact ⟨this.1, fun e => this.2 (hJ.2 e)⟩

theorem unclaimed_back {s s' : State} (htn : (s.transports.map (·.id)).Nodup) {t0 t' : TransportState}
    (ht0 : t0 ∈ s.transports) (hid' : t'.id = t0.id) (htrs : s'.transports = (s.replaceTransport t').transports)
    {x : Nat} (hk : t0.job = some x → t'.job = some x) (h : ∀ t ∈ s'.transports, t.job ≠ some x) :
    ∀ t ∈ s.transports, t.job ≠ some x := by
  have hmemT : ∀ y, y ∈ s'.transports ↔ (y = t' ∨ (y ∈ s.transports ∧ y.id ≠ t0.id)) := by
    intro y; rw [htrs]; exact mem_replaceTransport htn ht0 hid' y
  intro t ht e
  by_cases hid : t.id = t0.id
  · have : t = t0 := eq_of_mem_of_key_eq (key := fun (y : TransportState) => y.id) htn ht ht0 hid
    subst this
    exact h t' ((hmemT t').mpr (Or.inl rfl)) (hk e)
  · exact h t ((hmemT t).mpr (Or.inr ⟨ht, hid⟩)) e

theorem jobPot_le_of_waiting {ts ts' : List TransportState} {j j' : JobState} (h1 : j'.ops = j.ops)
    (h2 : waitingB inst ts' j' = true → waitingB inst ts j = true) : jobPot inst ts' j' ≤ jobPot inst ts j :=
  jobPot_le (Nat.le_of_eq (idleCount_of_ops h1)) (fun _ => h2)

theorem agv_pot (w : WF inst) {s s' : State} {tr : Transition} {t0 t' : TransportState} (hI : StructInv inst s)
    (hS : SchedInv s) (hA : AgvInv s) (hR : RouteInv inst s) (ht0 : t0 ∈ s.transports) (hid' : t'.id = t0.id)
    (hcomp : tr.comp = .t t0.id)
    (htrs : s'.transports = (s.replaceTransport t').transports) (he : AgvEffectR inst s s' tr t0 t')
    (hown : tr.new = .t .transit → ∀ t ∈ s.transports, tr.comp = .t t.id → tr.job = t.job) :
    pot inst s' ≤ pot inst s ∧
    (tr.new = .t .working → t0.st = .idle →
      (∀ j ∈ s.jobs, tr.job = some j.id → waitingB inst s.transports j = true) → pot inst s' < pot inst s) := by
  have hs := hI.shape
  have htn := hs.trNodup w
  have ht' : t' ∈ s'.transports := by
    rw [htrs]; exact (mem_replaceTransport htn ht0 hid' t').mpr (Or.inl rfl)
  -- a job that is not touched and whose claim is not given up
  have same : ∀ x : JobState, (t0.job = some x.id → t'.job = some x.id) →
      jobPot inst s'.transports x ≤ jobPot inst s.transports x := by
    intro x hk
    apply jobPot_le_of_waiting rfl
    intro hw
    obtain ⟨h1, h2, h3⟩ := waitingB_iff.mp hw
    exact waitingB_iff.mpr ⟨h1, unclaimed_back htn ht0 hid' htrs hk h2, h3⟩
  have unchanged : s'.jobs = s.jobs → (∀ x ∈ s.jobs, t0.job = some x.id → t'.job = some x.id) →
      pot inst s' ≤ pot inst s := by
    intro hjobs hk
    exact pot_le_of_map id (by rw [hjobs, List.map_id]) (fun x hx => same x (hk x hx))
  -- one job is relocated and is not waiting afterwards
  have moved : ∀ (j : JobState) (l : Nat), j ∈ s.jobs → s'.jobs = (s.replaceJob (j.at l)).jobs →
      waitingB inst s'.transports (j.at l) = false →
      (∀ x ∈ s.jobs, x.id ≠ j.id → t0.job = some x.id → t'.job = some x.id) → pot inst s' ≤ pot inst s := by
    intro j l hj hjobs hnw hk
    exact (pot_replaceJob w hs hj (J' := j.at l) rfl hjobs (fun x hx e => same x (hk x hx e))
      (jobPot_le_of_waiting rfl fun hw => by rw [hnw] at hw; cases hw)).1
  -- a delivery: the AGV carries the job it claimed to the place its route names, where the job does not wait
  have delivered : ∀ (j : JobState) (cur : Loc) (pick : Nat) (drop : Loc) (l : Nat),
      (t0.st = .transit ∨ t0.st = .working) → t0.loc = .route cur pick drop → j ∈ s.jobs → j.id ∈ t0.buffer.store →
      s'.jobs = (s.replaceJob (j.at l)).jobs →
      (dropOK inst j JobState.nextIdle? drop → waitingB inst s'.transports (j.at l) = false) →
      pot inst s' ≤ pot inst s := by
    intro j cur pick drop l h1 hloc hj hin hjobs hnw
    have hst0 : t0.st = .transit := by
      rcases h1 with e | e
      · exact e
      · have := hA.empty t0 ht0 (by rw [e]; simp); rw [this] at hin; cases hin
    have hclaim : t0.job = some j.id := hR.transitOwn t0 ht0 hst0 j.id hin
    obtain ⟨cur', pick', drop', el, edrop⟩ := hR.route t0 ht0 j.id hclaim j hj rfl
    rw [hloc] at el
    simp only [TLoc.route.injEq] at el
    rw [el.2.2] at hnw
    refine moved j l hj hjobs (hnw edrop) fun x _ hne e => ?_
    rw [hclaim] at e
    exact absurd (Option.some.inj e).symm hne
  cases he with
  | dispatch j cur pick drop hnew h1 h2 h3 h4 h5 hj htj hdrop hjobs hmach =>
    have hnone : t0.job = none := hS.freeNoClaim t0 ht0 (Or.inl h1)
    have hk : ∀ x ∈ s.jobs, t0.job = some x.id → t'.job = some x.id := fun x _ e => by rw [hnone] at e; cases e
    refine ⟨unchanged hjobs hk, fun _ _ hwait => ?_⟩
    refine pot_lt_of_map id (by rw [hjobs, List.map_id]) (fun x hx => same x (hk x hx)) ⟨j, hj, ?_⟩
    have hw : waitingB inst s.transports j = true := hwait j hj htj
    have hnw : waitingB inst s'.transports j = false :=
      Bool.eq_false_iff.mpr fun hc => (waitingB_iff.mp hc).2.1 t' ht' h3
    simp only [id, jobPot, hw, hnw, if_true, Bool.false_eq_true, if_false]
    omega
  | keep h1 h2 h3 h4 h5 hjobs hmach =>
    refine ⟨unchanged hjobs (fun x _ e => by rw [h3]; exact e), fun _ hidle => ?_⟩
    rcases h1 with e1 | e1 | e1 <;> rw [hidle] at e1 <;> cases e1
  | pickup j hnew h1 h2 h3 h4 h5 hj htj hjobs hmach =>
    have hclaim : t'.job = some j.id := by rw [h3, ← hown hnew t0 ht0 hcomp]; exact htj
    exact ⟨moved j t0.buffer.id hj hjobs (Bool.eq_false_iff.mpr fun hc => (waitingB_iff.mp hc).2.1 t' ht' hclaim)
      (fun x _ _ e => by rw [h3]; exact e), fun e => by rw [hnew] at e; simp at e⟩
  | deliverM j cur pick ms bss hnew h1 h2 h3 hloc hms hj hin hjobs hmach =>
    refine ⟨delivered j cur pick _ ms.pre.id h1 hloc hj hin hjobs ?_, fun e => by rw [hnew] at e; simp at e⟩
    -- delivered to the pre-buffer of the machine of its next idle operation
    rintro (⟨_, o, _, e⟩ | ⟨_, op, e1, e2⟩)
    · cases e
    · have hat : atNextPre inst (j.at ms.pre.id) = true :=
        atNextPre_iff.mpr ⟨op, e1, (mem_prePairs hs).mpr ⟨ms, hms, by simpa using e2, rfl⟩⟩
      simp [waitingB, hat]
  | deliverB j cur pick b bss hnew h1 h2 h3 hloc hb hj hin hjobs hmach hbufs =>
    refine ⟨delivered j cur pick _ b.id h1 hloc hj hin hjobs ?_, fun e => by rw [hnew] at e; simp at e⟩
    -- delivered to the output buffer
    rintro (⟨_, o, e1, e2⟩ | ⟨_, op, _, e⟩)
    · have hout : b.id ∈ outputIds inst := by rw [Loc.b.inj e2]; exact firstOutput_mem e1
      simp [waitingB, hout]
    · cases e

theorem applyTransition_pot (w : WF inst) {s s' : State} {r r' : Rng} {tr : Transition} {R : List Transition}
    (hI : StructInv inst s) (hS : SchedInv s) (hP : AgvFull inst s) (hgs : FullGS s (tr :: R))
    (h : applyTransition orc inst s r tr = .ok (s', r')) :
    pot inst s' ≤ pot inst s ∧
    ((∃ mid, tr.comp = .m mid ∧ tr.new = .m .setup) → pot inst s' < pot inst s) ∧
    ((∃ tid, tr.comp = .t tid ∧ tr.new = .t .working) → (∀ t ∈ s.transports, tr.comp = .t t.id → t.st = .idle) →
      (∀ j ∈ s.jobs, tr.job = some j.id → waitingB inst s.transports j = true) → pot inst s' < pot inst s) := by
  cases applyTransition_ran h with
  | m m hc =>
    have := machine_pot w hI hS hc h
    exact ⟨this.1, fun ⟨_, _, e⟩ => this.2 e, fun ⟨_, e, _⟩ => by rw [hc] at e; cases e⟩
  | t t hc =>
    obtain ⟨t0, t', ht0, hid0, hid', htrs, he⟩ := agv_effectR w hI hc h
    have hcomp : tr.comp = .t t0.id := by rw [hc, hid0]
    have := agv_pot w hI hS hP.agv hP.route ht0 hid' hcomp htrs he (fun hn => hgs.route.own tr (by simp) hn)
    refine ⟨this.1, ?_, ?_⟩
    · rintro ⟨_, e, _⟩; rw [hc] at e; cases e
    · rintro ⟨_, _, e⟩ hidle hw
      exact this.2 e (hidle t0 ht0 (by rw [hc, hid0])) hw

theorem idleCount_pos_of_nextIdle {j : JobState} {o : OpState} (h : j.nextIdle? = some o) : 0 < idleCount j := by
  unfold idleCount
  unfold JobState.nextIdle? at h
  apply List.countP_pos_iff.mpr
  have h2 : o.st = OSt.idle := by simpa using List.find?_some h
  exact ⟨o, List.mem_of_find?_eq_some h, by simp [h2]⟩

theorem offer_facts (w : WF inst) {cfg : SMConfig} {s : State} (hI : StructInv inst s) (hS : SchedInv s)
    (hR : RouteInv inst s) {poss : List Transition} (hposs : possibleTransitions inst cfg s = .ok poss)
    (tr : Transition) (hp : tr ∈ poss) :
    ((∃ mid, tr.comp = .m mid ∧ tr.new = .m .setup) ∧ ∃ j ∈ s.jobs, 0 < idleCount j) ∨
    ((∃ tid, tr.comp = .t tid ∧ tr.new = .t .working) ∧ (∀ t ∈ s.transports, tr.comp = .t t.id → t.st = .idle) ∧
      ∃ j ∈ s.jobs, tr.job = some j.id ∧ waitingB inst s.transports j = true) := by
  have hs := hI.shape
  have hnotpre := offers_not_in_pre w hI hS hR hposs tr hp
  rcases mem_possibleTransitions hposs hp with ⟨j, hj, o, _, hn, rfl⟩ | ⟨pt, hpt, h1⟩
  · exact Or.inl ⟨⟨_, rfl, rfl⟩, j, hj, idleCount_pos_of_nextIdle hn⟩
  · right
    obtain ⟨t, htm, tc, j, hj, rfl, hidle, _, _, hunc, hkind, _⟩ := possibleTransport_offer hpt _ h1
    refine ⟨⟨t.id, rfl, rfl⟩, fun t2 ht2 hc => ?_, j, hj, rfl,
      waitingB_iff.mpr ⟨fun hloc => not_offered_in_output hR hj hloc hkind, hunc, not_atNextPre_of_loc hs fun m hm e => ?_⟩⟩
    · rw [eq_of_mem_of_key_eq (key := fun (y : TransportState) => y.id) (hs.trNodup w) ht2 htm (Comp.t.inj hc).symm]
      exact hidle
    · have hst : j.id ∈ storeAt s j.loc := hI.cons.located (j.id, j.loc) (List.mem_map.mpr ⟨j, hj, rfl⟩)
      rw [← e, (pre_storeAt w hs hm).1] at hst
      exact hnotpre rfl j.id rfl m hm hst

theorem offer_pot_pos (w : WF inst) {cfg : SMConfig} {s : State} (hI : StructInv inst s) (hS : SchedInv s)
    (hR : RouteInv inst s) {poss : List Transition} (hposs : possibleTransitions inst cfg s = .ok poss)
    (hne : poss ≠ []) : 0 < pot inst s := by
  cases poss with
  | nil => exact absurd rfl hne
  | cons tr rest =>
    rcases offer_facts w hI hS hR hposs tr (by simp) with ⟨_, j, hj, hpos⟩ | ⟨_, _, j, hj, _, hw⟩
    · exact sum_pos_of_mem hj (Nat.lt_of_lt_of_le (Nat.mul_pos (by decide) hpos) (jobPot_bounds _ j).1)
    · exact sum_pos_of_mem hj (by unfold jobPot; rw [if_pos hw]; exact Nat.succ_pos _)

end JSL
