import JSL.Inv.Shift
import JSL.Lib.StepSpec

/-!
# Translation of simulated time and `env.step`

`env.step` is translation invariant except for the reward: the sparse reward paid at termination is
`(tmax - time) / (tmax - lb)` with the absolute clock.  `c12_translation_invariant_env_step` (Props/C12) states that everything
else (environment state, observation result, flags, makespan moved by `δ`, ghost trace, raised
error) is the shifted outcome; `envStep_shift_running` that the reward is the same too unless the step
terminates the episode without truncation.  The last two theorems show where the outage sampling
reads the absolute clock (`outageSince`), which is why `NoOutages` is assumed.
-/

namespace JSL
variable (δ : Int) {inst : Instance}

def shiftEnv (δ : Int) (e : EnvState) : EnvState := { e with res := shiftResult δ e.res }

/-- what a step returns with every timestamp moved (the reward is left as it is) -/
def shiftStepOut (δ : Int) (o : StepOut) : StepOut :=
  { o with env := shiftEnv δ o.env, obsRes := shiftResult δ o.obsRes, makespan := o.makespan.map (· + δ),
           micro := o.micro.map (shiftState δ) }

def StepOut.noReward (o : StepOut) : StepOut := { o with reward := 0 }

/-- two computations whose first parts agree up to `p'`, `p` give the same result up to `n'`, `n` if
the rest does on such values -/
theorem bind_upto {α α' β β' γ ζ : Type} {x' : Except Err α'} {x : Except Err α} {p' : α' → γ} {p : α → γ}
    {F : α' → Except Err β'} {G : α → Except Err β} {n' : β' → ζ} {n : β → ζ} (hx : x'.map p' = x.map p)
    (h : ∀ a' a, p' a' = p a → (F a').map n' = (G a).map n) : (x' >>= F).map n' = (x >>= G).map n := by
  cases x' with
  | error e' =>
    cases x with
    | error e => cases hx; rfl
    | ok a => cases hx
  | ok a' =>
    cases x with
    | error e => cases hx
    | ok a => exact h a' a (Except.ok.inj hx)

theorem map_id_of_eq_map {α β : Type} {x' : Except Err β} {x : Except Err α} {k : α → β} (h : x' = x.map k) :
    x'.map id = x.map k := by
  subst h
  cases x <;> rfl

theorem bind_eq_ok {α β : Type} {x : Except Err α} {F : α → Except Err β} {a : α} {b : β} (hx : x = .ok a)
    (h : F a = .ok b) : (x >>= F) = .ok b := by
  subst hx
  exact h

theorem sparseReward_err (rc : RewardCfg) (st : RewardStatic) (t t2 : Int) (te tr : Bool) :
    (sparseReward rc st t2 te tr).map (fun _ => ()) = (sparseReward rc st t te tr).map (fun _ => ()) := by
  unfold sparseReward
  cases tr
  · cases te
    · rfl
    · by_cases h0 : st.tmax - st.lb = 0
      · rw [if_pos h0, if_pos h0]
      · rw [if_neg h0, if_neg h0]; rfl
  · rfl

/-- the clock enters the sparse reward only at termination without truncation -/
theorem sparseReward_eq (rc : RewardCfg) (st : RewardStatic) (t t2 : Int) (te tr : Bool)
    (h : te = false ∨ tr = true) : sparseReward rc st t2 te tr = sparseReward rc st t te tr := by
  unfold sparseReward
  rcases h with rfl | rfl
  · cases tr <;> rfl
  · rfl

theorem rewardMake_cnt (rc : RewardCfg) (st : RewardStatic) (cnt : Nat) (res : SMResult) {te' te : Bool}
    (hte : te' = te) (tr : Bool) :
    (rewardMake rc st cnt (shiftResult δ res) te' tr).map (·.2) = (rewardMake rc st cnt res te tr).map (·.2) := by
  subst hte
  unfold rewardMake
  refine bind_upto (sparseReward_err rc st res.state.time (shiftResult δ res).state.time te' tr) fun s' s _ => ?_
  rw [show denseReward st cnt (shiftResult δ res) = denseReward st cnt res from rfl]
  cases denseReward st cnt res <;> rfl

theorem rewardMake_eq (rc : RewardCfg) (st : RewardStatic) (cnt : Nat) (res : SMResult) {te' te : Bool}
    (hte : te' = te) (tr : Bool) (h : te = false ∨ tr = true) :
    rewardMake rc st cnt (shiftResult δ res) te' tr = rewardMake rc st cnt res te tr := by
  subst hte
  unfold rewardMake
  rw [sparseReward_eq rc st res.state.time (shiftResult δ res).state.time te' tr h]
  rfl

/-- `env.step` from the shifted environment state when the step does not end the episode by
termination (not terminated, or truncated): the reward is the same too -/
theorem envStep_shift_running (hno : NoOutages inst) (orc : Oracle) (ec : EnvCfg) (st : RewardStatic) (e : EnvState)
    (a : AgentAct) (o : StepOut) (h : envStep orc inst ec st e a = .ok o)
    (hrun : o.env.terminated = false ∨ o.env.truncated = true) :
    envStep orc inst ec st (shiftEnv δ e) a = .ok (shiftStepOut δ o) := by
  obtain ⟨hd, ⟨s', subs, act, succ, dn, poss⟩, mw, r, mic, rew, cnt, _, hm, rfl, hrew, rfl⟩ := envStep_ok h
  unfold envStep
  rw [show (shiftEnv δ e).done = e.done from rfl, hd]
  refine bind_eq_ok ((mwStep_shift δ hno orc ec.sm ec.mw ec.fuel e.res e.mw e.rng a).trans (congrArg _ hm)) ?_
  cases succ with
  | false => exact bind_eq_ok ((rewardMake_eq δ ec.rw st e.rwCnt e.res rfl true (.inr rfl)).trans hrew) rfl
  | true =>
    refine bind_eq_ok ((rewardMake_eq δ ec.rw st e.rwCnt ⟨s', subs, act, true, dn, poss⟩ (isDone_shift δ inst s')
      (decide (mw.joker < 0)) hrun).trans hrew) ?_
    simp only [shiftResult_state, isDone_shift]
    cases isDone inst s' <;> rfl

/-- an outage record that was active before measures its idle time relative to its last end: this
part is translation invariant -/
theorem outageSince_shift_some (δ now l : Int) :
    outageSince (now + δ) (.inactive (some (l + δ))) = outageSince now (.inactive (some l)) := by
  simp only [outageSince, except_pure, Except.ok.injEq]
  omega

/-- a record that was never active measures its idle time from the absolute time 0, so whether the
outage strikes depends on the start time: with a constant frequency 5, at time 3 it does, at time
3 + 10 it does not.  This is why `NoOutages` is assumed. -/
theorem never_active_outage_reads_clock (orc : Oracle) (r : Rng) :
    (outageSince 3 (.inactive none)).map (fun since => (shouldApply orc r (.det 5) since).1) = .ok true ∧
    (outageSince (3 + 10) (.inactive none)).map (fun since => (shouldApply orc r (.det 5) since).1) = .ok false := by
  constructor <;> rfl
end JSL
