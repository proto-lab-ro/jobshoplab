import JSL.Inv.ClassicEnvE
import JSL.Inv.ClassicReturns

/-!
# Classic instances without early dispatch: the interface `StepIface`

* `ClassicRun` – the hypotheses on instance, start state and environment configuration;
* `cinv_init`, `cpass_init`, `ClassicRun.pass` – the classic pass `CPass` is a pass for such a run
  (`PassRun`): the start state satisfies its invariant;
* `classic_settled` – at a decision point every AGV is idle, unclaimed and empty, and
  every machine is idle or working;
* `stepIface` – the interface the steering strategy works with.
-/

namespace JSL

variable {orc : Oracle} {inst : Instance}

structure ClassicRun (orc : Oracle) (inst : Instance) (ec : EnvCfg) (st : RewardStatic) (s0 : State) : Prop where
  start : Start orc inst s0
  classic : Classic inst
  startOK : classicStartB inst s0 = true
  early : ec.sm.allowEarly = false
  trunc : ec.mw.truncActive = false
  joker : 0 ≤ ec.mw.jokerInit
  numOps : st.numOps ≠ 0
  norm : st.tmax - st.lb ≠ 0
  fuel : 3 * inst.machines.length + 5 * inst.transports.length + 2 ≤ ec.fuel
  jobs : inst.jobs ≠ []

variable {ec : EnvCfg} {st : RewardStatic} {s0 : State}

theorem ClassicRun.wf (hR : ClassicRun orc inst ec st s0) : WF inst := (initOKB_sound hR.start.init).1
theorem ClassicRun.nn (hR : ClassicRun orc inst ec st s0) : NonNeg orc inst :=
  nonnegB_sound hR.start.samples hR.start.nonneg

theorem cinv_init (hR : ClassicRun orc inst ec st s0) : CInv inst s0 := cinv_start hR.start hR.classic hR.startOK

theorem cpass_init (hR : ClassicRun orc inst ec st s0) : Bundle inst s0 ∧ DurInv inst s0 :=
  ⟨⟨AgvFull.of_rest hR.start.rest hR.start.placed, readyB_sound (classicStartB_facts hR.startOK).1, cinv_init hR⟩,
   DurInv.of_rest hR.start.rest⟩

theorem ClassicRun.pass (hR : ClassicRun orc inst ec st s0) :
    PassRun orc inst ec st s0 (CPass orc inst ec.sm hR.wf hR.nn hR.classic hR.early) where
  start := hR.start
  classic := hR.classic
  startOK := hR.startOK
  trunc := hR.trunc
  joker := hR.joker
  numOps := hR.numOps
  norm := hR.norm
  jobs := hR.jobs
  adm := fun _ _ _ h => h
  init := cpass_init hR
  agv := fun hP => ⟨hP.1.full, fun t ht hb => by obtain ⟨c, hc, _⟩ := hP.1.cinv.agvDue t ht hb; exact ⟨c, hc⟩⟩


theorem classic_settled (hR : ClassicRun orc inst ec st s0) {e : EnvState} (h : EnvReach orc inst ec st s0 e)
    (hne : e.res.possible ≠ []) :
    (∀ t ∈ e.res.state.transports, t.st = .idle ∧ t.job = none ∧ t.buffer.store = []) ∧
    (∀ m ∈ e.res.state.machines, m.st = .idle ∨ m.st = .working) ∧
    Bundle inst e.res.state ∧ DurInv inst e.res.state := by
  obtain ⟨hI, hS, hB, hD⟩ := hR.pass.live h hne
  obtain ⟨h1, h2⟩ := settled_of_quiet hS hB.toE ((envReach_inv hR.start h).quiet hne)
  refine ⟨fun t ht => ?_, h2, hB, hD⟩
  rcases h1 t ht with hi | ⟨hw, _, _, _, _, _, c, hc, hlt, _⟩
  · exact hi
  · -- a busy AGV is due
    obtain ⟨c', hc', hle⟩ := hB.cinv.agvDue t ht (by rw [hw]; simp)
    rw [hc] at hc'
    cases hc'
    exact absurd hle (Int.not_le.mpr hlt)


theorem stepIface (hR : ClassicRun orc inst ec st s0) {S : Nat → Nat → Int} (hT : TargetOK inst S) :
    StepIface orc inst ec st s0 S where
  reset := hR.pass.syncReset hT (cpass_total hR.wf hR.nn hR.classic hR.early hT).toR hR.fuel
  step := hR.pass.syncStep (cpass_total hR.wf hR.nn hR.classic hR.early hT).toR hR.fuel
    (fun hI hS hP _ _ hnew happ hQ => sync_step hR.wf hI hS hP.1 hnew happ hQ)
    (fun hI hS hP hQ hnone hf => sync_jump hR.wf hR.classic hT hI hS hP.2 hP.1.cinv hQ hnone hf)
  settled := by
    intro e hreach hne
    obtain ⟨h1, _, h3, _⟩ := classic_settled hR hreach hne
    exact ⟨fun t ht => (h1 t ht).1, h3⟩

end JSL
