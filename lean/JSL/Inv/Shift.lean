import JSL.Inv.ShiftLoop

/-!
# Translation invariance of simulated time

For an instance on which no outage is configured (`NoOutages inst`), running the state machine, the
middleware, `reset`, or a whole run from the state `shiftState δ s` – the state `s` with `δ` added to
the clock and to every recorded timestamp – gives exactly the shifted outcome: every state in the
result (final state, intermediate states, post-states of the applied transitions) is the shifted
one, and the action, the success and done flags, the offers, the middleware bookkeeping, the update
counters of the stochastic objects and the raised error (if any) are the same.

Assumptions: only `NoOutages inst`.  The outage records of machines and transports are left as they
are by `shiftState`; with no outage configured `get_new_outage_states` returns the empty list at
every call, whatever the records.  With outages configured the statement is false: a record that was
never active counts its idle time from the absolute time 0 (`outageSince`).  `env.step` is in
`ShiftEnv`: the sparse reward at termination reads the absolute clock.
-/

namespace JSL
variable (δ : Int) {inst : Instance}

theorem dropLast_map_shift {α} (f : α → α) : ∀ l : List α, (l.map f).dropLast = l.dropLast.map f
  | [] => rfl
  | [_] => rfl
  | a :: b :: l => by
    simp only [List.map_cons, List.dropLast_cons_cons]
    rw [← List.map_cons, dropLast_map_shift f (b :: l)]

@[simp] theorem shiftProcOut_nerr (o : ProcOut) : (shiftProcOut δ o).nerr = o.nerr := rfl
@[simp] theorem shiftProcOut_state (o : ProcOut) : (shiftProcOut δ o).state = shiftState δ o.state := rfl
@[simp] theorem shiftProcOut_rng (o : ProcOut) : (shiftProcOut δ o).rng = o.rng := rfl
@[simp] theorem shiftProcOut_micro (o : ProcOut) : (shiftProcOut δ o).micro = o.micro.map (shiftState δ) := rfl
@[simp] theorem shiftLoopOut_state (o : LoopOut) : (shiftLoopOut δ o).state = shiftState δ o.state := rfl
@[simp] theorem shiftLoopOut_rng (o : LoopOut) : (shiftLoopOut δ o).rng = o.rng := rfl
@[simp] theorem shiftLoopOut_failed (o : LoopOut) : (shiftLoopOut δ o).failed = o.failed := rfl
@[simp] theorem shiftLoopOut_subs (o : LoopOut) : (shiftLoopOut δ o).subs = o.subs.map (shiftState δ) := rfl
@[simp] theorem shiftLoopOut_micro (o : LoopOut) : (shiftLoopOut δ o).micro = o.micro.map (shiftState δ) := rfl

theorem smStep_shift (hno : NoOutages inst) (orc : Oracle) (cfg : SMConfig) (fuel : Nat) (s : State) (r : Rng)
    (a : Action) :
    smStep orc inst cfg fuel (shiftState δ s) r a =
      (smStep orc inst cfg fuel s r a).map
        (fun p => (shiftResult δ p.1, p.2.1, p.2.2.map (shiftState δ))) := by
  unfold smStep
  refine bind_map_peel (processTransitions_shift δ hno orc _ s r) fun p => ite_peel rfl ?_
  refine bind_map_peel (runTimeMachine_shift δ cfg p.state a.tm) fun t => ?_
  dsimp only
  have e : ({ (shiftProcOut δ p).state with time := t + δ } : State) = shiftState δ { p.state with time := t } := rfl
  rw [e, timedTransitions_shift, possibleTransitions_shift]
  refine bind_peel _ _ _ _ fun timed => bind_peel _ _ _ _ fun poss => ?_
  rw [filterTeleport_shift]
  refine bind_peel _ _ _ _ fun tele => ?_
  refine bind_map_peel (timedLoop_shift δ hno orc cfg fuel (timed ++ tele) { p.state with time := t } p.rng
    [p.state] p.micro) fun out => ite_peel rfl ?_
  rw [shiftLoopOut_state, isDone_shift]
  refine ite_peel ?_ ?_
  · refine bind_map_peel (lastDoneEnd_shift δ out.state) fun x => ?_
    cases x <;> simp only [Option.map_none, Option.map_some, except_pure, except_map'_ok, shiftResult,
      dropLast_map_shift, shiftLoopOut_subs, shiftLoopOut_micro, shiftLoopOut_rng, shiftState_setTime]
  · rw [possibleTransitions_shift]
    refine bind_peel _ _ _ _ fun poss2 => ?_
    simp only [except_pure, except_map'_ok, shiftResult, dropLast_map_shift, shiftLoopOut_subs, shiftLoopOut_micro,
      shiftLoopOut_rng]

@[simp] theorem shiftResult_state (res : SMResult) : (shiftResult δ res).state = shiftState δ res.state := rfl
@[simp] theorem shiftResult_subStates (res : SMResult) :
    (shiftResult δ res).subStates = res.subStates.map (shiftState δ) := rfl
@[simp] theorem shiftResult_possible (res : SMResult) : (shiftResult δ res).possible = res.possible := rfl
@[simp] theorem shiftResult_action (res : SMResult) : (shiftResult δ res).action = res.action := rfl
@[simp] theorem shiftResult_success (res : SMResult) : (shiftResult δ res).success = res.success := rfl
@[simp] theorem shiftResult_done (res : SMResult) : (shiftResult δ res).done = res.done := rfl

/-- what the middleware returns, shifted: result, bookkeeping, counters, ghost trace -/
def shiftMw (δ : Int) (p : SMResult × MwState × Rng × List State) : SMResult × MwState × Rng × List State :=
  (shiftResult δ p.1, p.2.1, p.2.2.1, p.2.2.2.map (shiftState δ))

theorem interpret_shift (res : SMResult) (a : AgentAct) : interpret (shiftResult δ res) a = interpret res a := rfl

theorem mwReset_shift (hno : NoOutages inst) (orc : Oracle) (cfg : SMConfig) (mc : MwCfg) (fuel : Nat) (s : State)
    (r : Rng) :
    mwReset orc inst cfg mc fuel (shiftState δ s) r = (mwReset orc inst cfg mc fuel s r).map (shiftMw δ) := by
  unfold mwReset
  exact bind_map_peel (smStep_shift δ hno orc cfg fuel s r noOpAction) fun q => rfl

theorem noOpResult_shift (hno : NoOutages inst) (orc : Oracle) (cfg : SMConfig) (mc : MwCfg) (fuel : Nat)
    (res : SMResult) (m : MwState) (r : Rng) (a : Action) :
    noOpResult orc inst cfg mc fuel (shiftResult δ res) m r a =
      (noOpResult orc inst cfg mc fuel res m r a).map (shiftMw δ) := by
  unfold noOpResult
  rw [shiftResult_possible]
  split
  · rfl
  · refine bind_map_peel (smStep_shift δ hno orc cfg fuel res.state r _) fun q => ?_
    refine ite_peel ?_ rfl
    rw [shiftResult_state, isDone_shift]
    exact ite_peel rfl rfl
  · rfl

theorem mwStep_shift (hno : NoOutages inst) (orc : Oracle) (cfg : SMConfig) (mc : MwCfg) (fuel : Nat)
    (res : SMResult) (m : MwState) (r : Rng) (a : AgentAct) :
    mwStep orc inst cfg mc fuel (shiftResult δ res) m r a =
      (mwStep orc inst cfg mc fuel res m r a).map (shiftMw δ) := by
  unfold mwStep
  rw [interpret_shift]
  refine bind_peel _ _ _ _ fun act => ite_peel (noOpResult_shift δ hno orc cfg mc fuel res _ r act) ?_
  exact bind_map_peel (smStep_shift δ hno orc cfg fuel res.state r act) fun q => rfl

/-- a run through the middleware from a result on: every agent action gives the new result, the
bookkeeping and the ghost trace, or the error it raises (which leaves the run where it was) -/
def mwRunFrom (orc : Oracle) (inst : Instance) (cfg : SMConfig) (mc : MwCfg) (fuel : Nat) :
    SMResult → MwState → Rng → List AgentAct → List (Except Err (SMResult × MwState × List State))
  | _, _, _, [] => []
  | res, m, r, a :: as =>
    match mwStep orc inst cfg mc fuel res m r a with
    | .error e => .error e :: mwRunFrom orc inst cfg mc fuel res m r as
    | .ok q => .ok (q.1, q.2.1, q.2.2.2) :: mwRunFrom orc inst cfg mc fuel q.1 q.2.1 q.2.2.1 as

def mwRun (orc : Oracle) (inst : Instance) (cfg : SMConfig) (mc : MwCfg) (fuel : Nat) (s0 : State) (r : Rng)
    (as : List AgentAct) :
    Except Err ((SMResult × List State) × List (Except Err (SMResult × MwState × List State))) :=
  (mwReset orc inst cfg mc fuel s0 r).map fun p =>
    ((p.1, p.2.2.2), mwRunFrom orc inst cfg mc fuel p.1 p.2.1 p.2.2.1 as)

def shiftEntry (δ : Int) (p : SMResult × MwState × List State) : SMResult × MwState × List State :=
  (shiftResult δ p.1, p.2.1, p.2.2.map (shiftState δ))

theorem mwRunFrom_shift (hno : NoOutages inst) (orc : Oracle) (cfg : SMConfig) (mc : MwCfg) (fuel : Nat) :
    ∀ (as : List AgentAct) (res : SMResult) (m : MwState) (r : Rng),
      mwRunFrom orc inst cfg mc fuel (shiftResult δ res) m r as =
        (mwRunFrom orc inst cfg mc fuel res m r as).map (Except.map (shiftEntry δ))
  | [], _, _, _ => rfl
  | a :: as, res, m, r => by
    unfold mwRunFrom
    rw [mwStep_shift δ hno]
    cases mwStep orc inst cfg mc fuel res m r a with
    | error e =>
      simp only [except_map'_error, List.map_cons]
      rw [mwRunFrom_shift hno orc cfg mc fuel as res m r]
    | ok q =>
      simp only [except_map'_ok, List.map_cons]
      have := mwRunFrom_shift hno orc cfg mc fuel as q.1 q.2.1 q.2.2.1
      simp only [shiftMw]
      rw [this]
      rfl

theorem shiftState_zero (s : State) : shiftState 0 s = s := by
  have hop : ∀ o : OpState, shiftOp 0 o = o := by
    intro o; cases o with
    | mk job idx start stop machine st =>
      cases start <;> cases stop <;> simp [shiftOp]
  have hj : ∀ j : JobState, shiftJob 0 j = j := by
    intro j; cases j with
    | mk jid ops loc =>
      simp only [shiftJob]
      congr 1
      have : shiftOp 0 = id := funext hop
      rw [this, List.map_id]
  have hm : ∀ m : MachineState, shiftMachine 0 m = m := by
    intro m; cases m with
    | mk mid buffer occ pre post st tool outages => cases occ <;> simp [shiftMachine]
  have ht : ∀ t : TransportState, shiftTransport 0 t = t := by
    intro t; cases t with
    | mk st tid occ buffer loc outages job => cases occ <;> simp [shiftTransport, shiftOcc]
  cases s with
  | mk jobs time machines transports buffers =>
    have e1 : shiftJob 0 = id := funext hj
    have e2 : shiftMachine 0 = id := funext hm
    have e3 : shiftTransport 0 = id := funext ht
    simp only [shiftState, e1, e2, e3, List.map_id, Int.add_zero]
end JSL
