import JSL.Model.Env
import JSL.Lib.Except
import JSL.Lib.Lists
import JSL.Lib.ExceptCongr
import JSL.Inv.Spec
import JSL.Model.Check

/-!
# An instance without stochastic elements never consults the sampled values

For an instance in which every duration, setup time, travel time, outage duration and outage
frequency is a constant, every model function that takes the oracle of sampled values and the
update counters returns the same result whatever they are, and hands the counters back unchanged.
-/

namespace JSL

def TimeCfg.isDet (c : TimeCfg) : Prop := ∃ t, c = .det t

theorem TimeCfg.isDetB_sound {c : TimeCfg} (h : c.isDetB = true) : c.isDet := by
  cases c with
  | det t => exact ⟨t, rfl⟩
  | stoch _ => cases h

structure DetInst (inst : Instance) : Prop where
  ops : ∀ j ∈ inst.jobs, ∀ o ∈ j.ops, o.dur.isDet
  setup : ∀ m ∈ inst.machines, ∀ e ∈ m.setup, e.2.isDet
  travel : ∀ e ∈ inst.travel, e.2.isDet
  mout : ∀ m ∈ inst.machines, ∀ o ∈ m.outages, o.dur.isDet ∧ o.freq.isDet
  tout : ∀ t ∈ inst.transports, ∀ o ∈ t.outages, o.dur.isDet ∧ o.freq.isDet

theorem detInstB_sound {inst : Instance} (h : detInstB inst = true) : DetInst inst := by
  simp only [detInstB, Bool.and_eq_true, List.all_eq_true] at h
  obtain ⟨⟨⟨h1, h2⟩, h3⟩, h4⟩ := h
  exact {
    ops := fun j hj o ho => TimeCfg.isDetB_sound (h1 j hj o ho)
    setup := fun m hm e he => TimeCfg.isDetB_sound ((h2 m hm).1 e he)
    travel := fun e he => TimeCfg.isDetB_sound (h3 e he)
    mout := fun m hm o ho => ⟨TimeCfg.isDetB_sound ((h2 m hm).2 o ho).1, TimeCfg.isDetB_sound ((h2 m hm).2 o ho).2⟩
    tout := fun t ht o ho => ⟨TimeCfg.isDetB_sound (h4 t ht o ho).1, TimeCfg.isDetB_sound (h4 t ht o ho).2⟩ }

variable {inst : Instance}

section
variable (orc orc' : Oracle) (r r' : Rng)

theorem shouldApply_blind {f : TimeCfg} (h : f.isDet) (since : Int) :
    shouldApply orc' r' f since = ((shouldApply orc r f since).1, r') := by
  obtain ⟨t, rfl⟩ := h; rfl

theorem sampleOutage_blind {o : OutageCfg} (h : o.dur.isDet ∧ o.freq.isDet) (now : Int) (comp : List OutageState) :
    sampleOutage orc' now comp r' o = (sampleOutage orc now comp r o).map (fun p => (p.1, r')) := by
  obtain ⟨⟨d, hd⟩, ⟨f, hf⟩⟩ := h
  unfold sampleOutage
  refine bind_peel _ _ _ _ fun st => bind_peel _ _ _ _ fun since => ?_
  rw [hd, hf]
  exact ite_peel rfl rfl

theorem newOutageStates_blind (now : Int) (comp : List OutageState) : ∀ (os : List OutageCfg) (r r' : Rng),
    (∀ o ∈ os, o.dur.isDet ∧ o.freq.isDet) →
    newOutageStates orc' now comp os r' = (newOutageStates orc now comp os r).map (fun p => (p.1, r'))
  | [], _, _, _ => rfl
  | o :: os, r, r', h => by
    unfold newOutageStates
    refine bind_map_peel (sampleOutage_blind orc orc' r r' (h o (by simp)) now comp) fun p => ?_
    exact bind_map_peel (newOutageStates_blind now comp os p.2 r' fun o ho => h o (by simp [ho])) fun q => rfl

theorem setupDuration_blind {mc : MachineCfg} (h : ∀ e ∈ mc.setup, e.2.isDet) (old new : Nat) :
    setupDuration orc' r' mc old new = (setupDuration orc r mc old new).map (fun p => (p.1, r')) := by
  unfold setupDuration
  cases hl : mc.setup.lookup (old, new) with
  | none => rfl
  | some c =>
    obtain ⟨l1, l2, e, _⟩ := List.lookup_eq_some_iff.mp hl
    obtain ⟨t, rfl⟩ := h ((old, new), c) (by rw [e]; simp)
    rfl

theorem beginMachineSetup_blind (hd : DetInst inst) (now : Int) (j : JobState) (m : MachineState) :
    beginMachineSetup orc' inst now r' j m =
      (beginMachineSetup orc inst now r j m).map (fun p => (p.1, p.2.1, r')) := by
  unfold beginMachineSetup
  refine bind_peel _ _ _ _ fun op => bind_peel _ _ _ _ fun oc => bind_peel_ok _ _ _ _ fun mc h3 => ?_
  refine bind_map_peel (setupDuration_blind orc orc' r r' (hd.setup mc (getMachineCfg_ok h3).1) _ _) fun p => ?_
  exact bind_peel _ _ _ _ fun pre => bind_peel _ _ _ _ fun q => rfl

theorem beginNext_blind (hd : DetInst inst) (now : Int) (j : JobState) (m : MachineState) :
    beginNextJobOnMachine orc' inst now r' j m =
      (beginNextJobOnMachine orc inst now r j m).map (fun p => (p.1, p.2.1, r')) := by
  unfold beginNextJobOnMachine
  refine bind_peel _ _ _ _ fun op => bind_peel_ok _ _ _ _ fun oc h2 => ?_
  obtain ⟨jc, hjc, hoc⟩ := List.mem_flatMap.mp (getOpCfg_ok h2).1
  obtain ⟨t, ht⟩ := hd.ops jc hjc oc hoc
  rw [ht]
  rfl

theorem completeTransportTask_blind (hd : DetInst inst) (now : Int) (j : JobState) (t : TransportState) (drop : Loc)
    (target : Target) :
    completeTransportTask orc' inst now r' j t drop target =
      (completeTransportTask orc inst now r j t drop target).map (fun p => (p.1, p.2.1, p.2.2.1, r')) := by
  unfold completeTransportTask
  refine bind_peel _ _ _ _ fun p => bind_peel_ok _ _ _ _ fun tc h2 => ?_
  exact bind_map_peel (newOutageStates_blind orc orc' now t.outages tc.outages r r'
    (hd.tout tc (getTransportCfg_ok h2).1)) fun q => rfl

theorem idleToSetup_blind (hd : DetInst inst) (s : State) (tr : Transition) (m : MachineState) :
    handleMachineIdleToSetup orc' inst s r' tr m =
      (handleMachineIdleToSetup orc inst s r tr m).map (fun p => (p.1, r')) := by
  unfold handleMachineIdleToSetup
  cases tr.job with
  | none => rfl
  | some jid =>
    refine bind_peel _ _ _ _ fun jid => bind_peel _ _ _ _ fun j => ite_peel rfl ?_
    exact bind_map_peel (beginMachineSetup_blind orc orc' r r' hd _ _ _) fun q => rfl

theorem setupToWorking_blind (hd : DetInst inst) (s : State) (tr : Transition) (m : MachineState) :
    handleMachineSetupToWorking orc' inst s r' tr m =
      (handleMachineSetupToWorking orc inst s r tr m).map (fun p => (p.1, r')) := by
  unfold handleMachineSetupToWorking
  cases tr.job with
  | none => rfl
  | some jid =>
    refine bind_peel _ _ _ _ fun jid => bind_peel _ _ _ _ fun j => ite_peel rfl ?_
    exact bind_map_peel (beginNext_blind orc orc' r r' hd _ _ _) fun q => rfl

theorem workingToOutage_blind (hd : DetInst inst) (s : State) (tr : Transition) (m : MachineState) :
    handleMachineWorkingToOutage orc' inst s r' tr m =
      (handleMachineWorkingToOutage orc inst s r tr m).map (fun p => (p.1, r')) := by
  unfold handleMachineWorkingToOutage
  refine bind_peel_ok _ _ _ _ fun mc h1 => ?_
  refine bind_map_peel (newOutageStates_blind orc orc' s.time m.outages mc.outages r r'
    (hd.mout mc (getMachineCfg_ok h1).1)) fun q => ?_
  exact bind_peel _ _ _ _ fun j => bind_peel _ _ _ _ fun q => rfl

theorem machineTransition_blind (hd : DetInst inst) (s : State) (tr : Transition) (mid : Nat) :
    handleMachineTransition orc' inst s r' tr mid =
      (handleMachineTransition orc inst s r tr mid).map (fun p => (p.1, r')) := by
  unfold handleMachineTransition
  refine bind_peel _ _ _ _ fun m => bind_peel _ _ _ _ fun h => ?_
  cases h with
  | idleToSetup => exact idleToSetup_blind orc orc' r r' hd s tr m
  | setupToWorking => exact setupToWorking_blind orc orc' r r' hd s tr m
  | workingToOutage => exact workingToOutage_blind orc orc' r r' hd s tr m
  | outageToIdle => exact bind_peel _ _ _ _ fun q => rfl

theorem travelCfg_det (hd : DetInst inst) {a b : Loc} {c : TimeCfg} (h : travelCfg inst a b = some c) : c.isDet := by
  unfold travelCfg at h
  obtain ⟨l1, l2, e, _⟩ := List.lookup_eq_some_iff.mp h
  exact hd.travel ((a, b), c) (by rw [e]; simp)

theorem travelTimeFromSpec_blind (hd : DetInst inst) (src dst : Loc) :
    travelTimeFromSpec orc' inst r' src dst = (travelTimeFromSpec orc inst r src dst).map (fun p => (p.1, r')) := by
  unfold travelTimeFromSpec
  split
  · rfl
  · cases h : travelCfg inst src dst with
    | none => rfl
    | some c => obtain ⟨t, rfl⟩ := travelCfg_det hd h; rfl

theorem travelCur_blind (hd : DetInst inst) (a b : Loc) (e : Err) :
    (match travelCfg inst a b with
      | some c => (pure (c.cur orc' r') : Except Err Int)
      | none => throw e) =
    (match travelCfg inst a b with
      | some c => pure (c.cur orc r)
      | none => throw e) := by
  cases h : travelCfg inst a b with
  | none => rfl
  | some c => obtain ⟨t, rfl⟩ := travelCfg_det hd h; rfl

theorem travelNoUpdate_blind (hd : DetInst inst) (a b : Loc) :
    travelNoUpdate orc' inst r' a b = travelNoUpdate orc inst r a b :=
  travelCur_blind orc orc' r r' hd a b _

theorem pickupToTransit_blind (hd : DetInst inst) (s : State) (tr : Transition) (t : TransportState) :
    handleAgvPickupToTransit orc' inst s r' tr t =
      (handleAgvPickupToTransit orc inst s r tr t).map (fun p => (p.1, r')) := by
  unfold handleAgvPickupToTransit
  cases tr.job with
  | none => rfl
  | some jid =>
    refine bind_peel _ _ _ _ fun jid => bind_peel _ _ _ _ fun j => bind_peel _ _ _ _ fun dst => ?_
    refine bind_map_peel (travelTimeFromSpec_blind orc orc' r r' hd _ _) fun q => ?_
    cases machineIdOfBuffer inst.machines j.loc with
    | none => exact bind_peel _ _ _ _ fun fb => bind_peel _ _ _ _ fun q => rfl
    | some mid =>
      exact bind_peel _ _ _ _ fun ms => bind_peel _ _ _ _ fun bs => bind_peel _ _ _ _ fun q =>
        bind_peel _ _ _ _ fun ms2 => rfl

theorem idleToWorking_blind (hd : DetInst inst) (s : State) (tr : Transition) (t : TransportState) :
    handleAgvIdleToWorking orc' inst s r' tr t =
      (handleAgvIdleToWorking orc inst s r tr t).map (fun p => (p.1, r')) := by
  unfold handleAgvIdleToWorking
  cases tr.job with
  | none => rfl
  | some jid =>
    cases t.loc with
    | route a b c => rfl
    | «at» cur =>
      refine bind_peel _ _ _ _ fun jid => bind_peel _ _ _ _ fun cur => bind_peel _ _ _ _ fun j =>
        bind_peel _ _ _ _ fun target => bind_peel _ _ _ _ fun bc => bind_peel _ _ _ _ fun src => ?_
      rw [travelNoUpdate_blind orc orc' r r' hd]
      exact bind_peel _ _ _ _ fun ttp => rfl

theorem transitToOutage_blind (hd : DetInst inst) (s : State) (tr : Transition) (t : TransportState) :
    handleAgvTransitToOutage orc' inst s r' tr t =
      (handleAgvTransitToOutage orc inst s r tr t).map (fun p => (p.1, r')) := by
  unfold handleAgvTransitToOutage
  cases tr.job with
  | none => rfl
  | some jid =>
    refine bind_peel _ _ _ _ fun jid => bind_peel _ _ _ _ fun j => ?_
    cases t.loc with
    | «at» l => rfl
    | route a b drop =>
      refine bind_peel _ _ _ _ fun drop => bind_peel _ _ _ _ fun target => ?_
      exact bind_map_peel (completeTransportTask_blind orc orc' r r' hd _ _ _ _ _) fun q => rfl

theorem transportTransition_blind (hd : DetInst inst) (s : State) (tr : Transition) (tid : Nat) :
    handleTransportTransition orc' inst s r' tr tid =
      (handleTransportTransition orc inst s r tr tid).map (fun p => (p.1, r')) := by
  unfold handleTransportTransition
  refine bind_peel _ _ _ _ fun t => bind_peel _ _ _ _ fun tc => ite_peel rfl (bind_peel _ _ _ _ fun h => ?_)
  cases h with
  | idleToWorking => exact idleToWorking_blind orc orc' r r' hd s tr t
  | pickupToTransit => exact pickupToTransit_blind orc orc' r r' hd s tr t
  | transitToOutage => exact transitToOutage_blind orc orc' r r' hd s tr t
  | pickupToWaitingpickup => exact ite_peel rfl (bind_peel _ _ _ _ fun occ => rfl)
  | outageToIdle => rfl
  | waitingPickupToWaitingPickup => exact bind_peel _ _ _ _ fun occ => rfl

theorem applyTransition_blind (hd : DetInst inst) (s : State) (tr : Transition) :
    applyTransition orc' inst s r' tr = (applyTransition orc inst s r tr).map (fun p => (p.1, r')) := by
  unfold applyTransition
  cases tr.comp with
  | m mid => exact bind_peel _ _ _ _ fun _ => machineTransition_blind orc orc' r r' hd s tr mid
  | t tid => exact bind_peel _ _ _ _ fun _ => transportTransition_blind orc orc' r r' hd s tr tid
  | b bid => exact bind_peel _ _ _ _ fun _ => rfl

end

theorem processTransitions_blind (orc orc' : Oracle) (hd : DetInst inst) : ∀ (trs : List Transition) (s : State) (r r' : Rng),
    processTransitions orc' inst trs s r' = (processTransitions orc inst trs s r).map (fun o => { o with rng := r' })
  | [], _, _, _ => rfl
  | tr :: trs, s, r, r' => by
    unfold processTransitions
    refine bind_peel _ _ _ _ fun v => ite_peel ?_ ?_
    · refine bind_map_peel (applyTransition_blind orc orc' r r' hd s tr) fun q => ?_
      exact bind_map_peel (processTransitions_blind orc orc' hd trs q.1 q.2 r') fun o => rfl
    · exact bind_map_peel (processTransitions_blind orc orc' hd trs s r r') fun o => rfl

theorem travelTimeForTransport_blind (orc orc' : Oracle) (r r' : Rng) (hd : DetInst inst) (s : State) (jid : Option Nat) :
    travelTimeForTransport orc' inst r' s jid = travelTimeForTransport orc inst r s jid := by
  unfold travelTimeForTransport
  refine bind_congr fun j => bind_congr fun bc => ite_congr rfl (fun _ => ?_) fun _ => ?_
  · exact bind_congr fun nxt => bind_congr fun cur =>
      ite_congr rfl (fun _ => rfl) fun _ => travelCur_blind orc orc' r r' hd cur nxt _
  · cases j.nextIdle? with
    | none => rfl
    | some o =>
      exact bind_congr fun nxt => bind_congr fun cur =>
        ite_congr rfl (fun _ => rfl) fun _ => travelCur_blind orc orc' r r' hd cur nxt _

theorem filterTeleport_blind (orc orc' : Oracle) (r r' : Rng) (hd : DetInst inst) (s : State) (poss : List Transition) :
    filterTeleport orc' inst r' s poss = filterTeleport orc inst r s poss := by
  unfold filterTeleport
  simp only [travelTimeForTransport_blind orc orc' r r' hd]

theorem timedLoop_blind (orc orc' : Oracle) (hd : DetInst inst) (cfg : SMConfig) : ∀ (fuel : Nat) (tt : List Transition)
    (s : State) (r r' : Rng) (subs mic : List State),
    timedLoop orc' inst cfg fuel tt s r' subs mic =
      (timedLoop orc inst cfg fuel tt s r subs mic).map (fun o => { o with rng := r' })
  | 0, [], _, _, _, _, _ => rfl
  | _ + 1, [], _, _, _, _, _ => rfl
  | 0, _ :: _, _, _, _, _, _ => rfl
  | fuel + 1, t :: ts, s, r, r', subs, mic => by
    unfold timedLoop
    refine bind_map_peel (processTransitions_blind orc orc' hd (t :: ts) s r r') fun o => ite_peel rfl ?_
    refine bind_peel _ _ _ _ fun tm => bind_peel _ _ _ _ fun tt2 => ?_
    exact timedLoop_blind orc orc' hd cfg fuel tt2 _ o.rng r' _ _

theorem smStep_blind (orc orc' : Oracle) (r r' : Rng) (hd : DetInst inst) (cfg : SMConfig) (fuel : Nat) (s0 : State) (a : Action) :
    smStep orc' inst cfg fuel s0 r' a = (smStep orc inst cfg fuel s0 r a).map (fun p => (p.1, r', p.2.2)) := by
  unfold smStep
  refine bind_map_peel (processTransitions_blind orc orc' hd _ s0 r r') fun p => ite_peel rfl ?_
  refine bind_peel _ _ _ _ fun t => bind_peel _ _ _ _ fun timed => bind_peel _ _ _ _ fun poss => ?_
  rw [filterTeleport_blind orc orc' p.rng r' hd]
  refine bind_peel _ _ _ _ fun tele => ?_
  refine bind_map_peel (timedLoop_blind orc orc' hd cfg fuel _ _ p.rng r' _ _) fun out => ite_peel rfl (ite_peel ?_ ?_)
  · exact bind_peel _ _ _ _ fun x => rfl
  · exact bind_peel _ _ _ _ fun poss2 => rfl

theorem mwReset_blind (orc orc' : Oracle) (r r' : Rng) (hd : DetInst inst) (cfg : SMConfig) (mc : MwCfg) (fuel : Nat) (s0 : State) :
    mwReset orc' inst cfg mc fuel s0 r' = (mwReset orc inst cfg mc fuel s0 r).map (fun p => (p.1, p.2.1, r', p.2.2.2)) := by
  unfold mwReset
  exact bind_map_peel (smStep_blind orc orc' r r' hd cfg fuel s0 noOpAction) fun q => rfl

theorem noOpResult_blind (orc orc' : Oracle) (r r' : Rng) (hd : DetInst inst) (cfg : SMConfig) (mc : MwCfg) (fuel : Nat)
    (res : SMResult) (m : MwState) (a : Action) :
    noOpResult orc' inst cfg mc fuel res m r' a =
      (noOpResult orc inst cfg mc fuel res m r a).map (fun p => (p.1, p.2.1, r', p.2.2.2)) := by
  unfold noOpResult
  split
  · rfl
  · refine bind_map_peel (smStep_blind orc orc' r r' hd cfg fuel res.state _) fun q => ?_
    exact ite_peel (ite_peel rfl rfl) rfl
  · rfl

theorem mwStep_blind (orc orc' : Oracle) (r r' : Rng) (hd : DetInst inst) (cfg : SMConfig) (mc : MwCfg) (fuel : Nat)
    (res : SMResult) (m : MwState) (a : AgentAct) :
    mwStep orc' inst cfg mc fuel res m r' a =
      (mwStep orc inst cfg mc fuel res m r a).map (fun p => (p.1, p.2.1, r', p.2.2.2)) := by
  unfold mwStep
  refine bind_peel _ _ _ _ fun act => ite_peel (noOpResult_blind orc orc' r r' hd cfg mc fuel res _ act) ?_
  exact bind_map_peel (smStep_blind orc orc' r r' hd cfg fuel res.state act) fun q => rfl

end JSL
