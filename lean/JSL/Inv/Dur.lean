import JSL.Inv.Effect

/-!
# Durations

Every completed operation lasted at least the value its configured duration yielded when processing
began – exactly that value when its machine has no outage configured – and the same holds for the
end scheduled for an operation in progress on a WORKING / OUTAGE machine.  For a constant `d` the
value is `d`.  For a stochastic object `sid` the handler of `SETUP → WORKING` calls `update()` and
reads the value, i.e. `orc sid (r sid + 1)`: a sample with index `k ≥ 1` (index 0 is the value the
object was created with).  Both are `c.at orc k`, and the invariant is carried once, for a family
`f : ι → TimeCfg` of configurations (`.det`, `.stoch`, or all of them).
-/

namespace JSL

variable {orc : Oracle} {inst : Instance}

/-- the value a time configuration has after its `k`-th `update()` -/
def TimeCfg.at (orc : Oracle) (k : Nat) : TimeCfg → Int
  | .det t => t
  | .stoch sid => orc sid k

theorem updRead_at (c : TimeCfg) (r : Rng) : ∃ k, 1 ≤ k ∧ (c.updRead orc r).1 = c.at orc k := by
  cases c with
  | det t => exact ⟨1, Nat.le_refl _, rfl⟩
  | stoch sid => exact ⟨r sid + 1, Nat.le_add_left 1 _, rfl⟩

theorem readUpd_at (c : TimeCfg) (r : Rng) : ∃ k, (c.readUpd orc r).1 = c.at orc k := by
  cases c with
  | det t => exact ⟨0, rfl⟩
  | stoch sid => exact ⟨r sid, rfl⟩

def detDur (inst : Instance) (o : OpState) (d : Int) : Prop :=
  ∃ oc ∈ inst.jobs.flatMap (·.ops), oc.job = o.job ∧ oc.idx = o.idx ∧ oc.dur = .det d

def noOutages (inst : Instance) (mid : Nat) : Prop := ∀ mc ∈ inst.machines, mc.id = mid → mc.outages = []

def DurOK (inst : Instance) (o : OpState) : Prop :=
  ∀ d, detDur inst o d → ∃ a b, o.start = some a ∧ o.stop = some b ∧ a + d ≤ b ∧ (noOutages inst o.machine → b = a + d)

structure DurInv (inst : Instance) (s : State) : Prop where
  done : ∀ j ∈ s.jobs, ∀ o ∈ j.ops, o.st = .done → DurOK inst o
  running : ∀ j ∈ s.jobs, ∀ o ∈ j.ops, o.st = .processing → ∀ m ∈ s.machines, m.id = o.machine →
    (m.st = .working ∨ m.st = .outage) → DurOK inst o

def stochDur (inst : Instance) (o : OpState) (sid : Nat) : Prop :=
  ∃ oc ∈ inst.jobs.flatMap (·.ops), oc.job = o.job ∧ oc.idx = o.idx ∧ oc.dur = .stoch sid

def DurOKS (orc : Oracle) (inst : Instance) (o : OpState) : Prop :=
  ∀ sid, stochDur inst o sid → ∃ a b k, 1 ≤ k ∧ o.start = some a ∧ o.stop = some b ∧ a + orc sid k ≤ b ∧
    (noOutages inst o.machine → b = a + orc sid k)

structure DurInvS (orc : Oracle) (inst : Instance) (s : State) : Prop where
  done : ∀ j ∈ s.jobs, ∀ o ∈ j.ops, o.st = .done → DurOKS orc inst o
  running : ∀ j ∈ s.jobs, ∀ o ∈ j.ops, o.st = .processing → ∀ m ∈ s.machines, m.id = o.machine →
    (m.st = .working ∨ m.st = .outage) → DurOKS orc inst o

theorem DurOKS.weaken {o : OpState} (h : DurOKS orc inst o) :
    ∀ sid, stochDur inst o sid → ∃ a b k, o.start = some a ∧ o.stop = some b ∧ a + orc sid k ≤ b ∧
      (noOutages inst o.machine → b = a + orc sid k) := by
  intro sid hs
  obtain ⟨a, b, k, _, h1, h2, h3, h4⟩ := h sid hs
  exact ⟨a, b, k, h1, h2, h3, h4⟩

def cfgDur (inst : Instance) (o : OpState) (c : TimeCfg) : Prop :=
  ∃ oc ∈ inst.jobs.flatMap (·.ops), oc.job = o.job ∧ oc.idx = o.idx ∧ oc.dur = c

variable {ι : Type} {f : ι → TimeCfg}

def DurOKG (orc : Oracle) (inst : Instance) (f : ι → TimeCfg) (o : OpState) : Prop :=
  ∀ i, cfgDur inst o (f i) → ∃ a b k, 1 ≤ k ∧ o.start = some a ∧ o.stop = some b ∧ a + (f i).at orc k ≤ b ∧
    (noOutages inst o.machine → b = a + (f i).at orc k)

structure DurInvG (orc : Oracle) (inst : Instance) (f : ι → TimeCfg) (s : State) : Prop where
  done : ∀ j ∈ s.jobs, ∀ o ∈ j.ops, o.st = .done → DurOKG orc inst f o
  running : ∀ j ∈ s.jobs, ∀ o ∈ j.ops, o.st = .processing → ∀ m ∈ s.machines, m.id = o.machine →
    (m.st = .working ∨ m.st = .outage) → DurOKG orc inst f o

theorem DurOKG.det {o : OpState} (h : DurOKG orc inst .det o) : DurOK inst o := by
  intro d hd
  obtain ⟨a, b, _, _, h⟩ := h d hd
  exact ⟨a, b, h⟩

theorem DurOK.toG {o : OpState} (h : DurOK inst o) : DurOKG orc inst .det o := by
  intro d hd
  obtain ⟨a, b, h⟩ := h d hd
  exact ⟨a, b, 1, Nat.le_refl _, h⟩

theorem DurInvG.det {s : State} (h : DurInvG orc inst .det s) : DurInv inst s :=
  ⟨fun j hj o ho hst => (h.done j hj o ho hst).det, fun j hj o ho hst m hm hid hms => (h.running j hj o ho hst m hm hid hms).det⟩

theorem DurInv.toG {s : State} (h : DurInv inst s) : DurInvG orc inst .det s :=
  ⟨fun j hj o ho hst => (h.done j hj o ho hst).toG, fun j hj o ho hst m hm hid hms => (h.running j hj o ho hst m hm hid hms).toG⟩

theorem DurInvG.stoch {s : State} (h : DurInvG orc inst .stoch s) : DurInvS orc inst s :=
  ⟨h.done, h.running⟩

/-- what the remaining transitions of a batch may assume: a machine transition into OUTAGE, IDLE
or WORKING is due, and no earlier transition of the batch belongs to the same machine -/
structure DueGS (s : State) (L : List Transition) : Prop where
  due : ∀ tr ∈ L, ∀ mid, tr.comp = .m mid → (tr.new = .m .outage ∨ tr.new = .m .idle ∨ tr.new = .m .working) →
    ∀ m ∈ s.machines, m.id = mid → dueAt m.occ s.time = true
  once : L.Pairwise (fun a b => ∀ mid, b.comp = .m mid →
    (b.new = .m .outage ∨ b.new = .m .idle ∨ b.new = .m .working) → a.comp ≠ .m mid)

theorem DueGS.tail {s : State} {tr : Transition} {R : List Transition} (h : DueGS s (tr :: R)) : DueGS s R :=
  ⟨fun t ht => h.due t (by simp [ht]), (List.pairwise_cons.mp h.once).2⟩

/-- the guard survives an applied transition: the machines of the later transitions are untouched -/
theorem DueGS.step (w : WF inst) {s s' : State} {r r' : Rng} {tr : Transition} {R : List Transition}
    (hI : StructInv inst s) (hgs : DueGS s (tr :: R))
    (h : applyTransition orc inst s r tr = .ok (s', r')) : DueGS s' R := by
  refine ⟨?_, (List.pairwise_cons.mp hgs.once).2⟩
  intro t ht mid hc hn m' hm' hid
  have hne : tr.comp ≠ .m mid := (List.pairwise_cons.mp hgs.once).1 t ht mid hc hn
  rw [applyTransition_time h]
  cases applyTransition_ran h with
  | m m0 hc0 _ _ _ _ _ _ =>
    have := (machine_effect w hI hc0 h).1 m' hm' (by intro e; apply hne; rw [hc0, ← e, hid])
    exact hgs.due t (by simp [ht]) mid hc hn m' this hid
  | t t0 hc0 _ _ _ _ _ _ =>
    obtain ⟨m, hm, e1, _, e3⟩ := (agv_effect w hI hc0 h).1 m' hm'
    rw [← e3]
    exact hgs.due t (by simp [ht]) mid hc hn m hm (by rw [e1, hid])

/-- offers of the agent lead into SETUP or dispatch an AGV: the guard says nothing about them -/
theorem DueGS.of_offers {s : State} {L : List Transition} (h : ∀ tr ∈ L, OfferShaped tr) : DueGS s L := by
  have hsh : ∀ tr ∈ L, ¬ (tr.new = .m .outage ∨ tr.new = .m .idle ∨ tr.new = .m .working) := by
    intro tr htr hn
    rcases h tr htr with e | e <;> rw [e] at hn <;> simp at hn
  refine ⟨fun tr htr mid _ hn => absurd hn (hsh tr htr), ?_⟩
  apply List.pairwise_of_forall_mem_list
  intro a _ b hb mid _ hn
  exact absurd hn (hsh b hb)

/-- the common shape of the four machine handlers -/
theorem dur_step (w : WF inst) {s s' : State} (hI : StructInv inst s) (hP : DurInvG orc inst f s)
    {j J' : JobState} {m0 M' : MachineState} {rec : OpState} (hj : j ∈ s.jobs) (hm0 : m0 ∈ s.machines)
    (hJid : J'.id = j.id) (hJops : J'.ops = (j.replaceOp rec).ops) (hMid : M'.id = m0.id)
    (hjobs : s'.jobs = (s.replaceJob J').jobs) (hmach : s'.machines = (s.replaceMachine M').machines)
    (hrecm : rec.machine = m0.id)
    (hrecd : rec.st = .done → DurOKG orc inst f rec)
    (hrecp : rec.st = .processing → (M'.st = .working ∨ M'.st = .outage) → DurOKG orc inst f rec)
    (hother : ∀ o ∈ j.ops, ¬ (o.job = rec.job ∧ o.idx = rec.idx) → o.st = .processing →
      (M'.st = .working ∨ M'.st = .outage) → False)
    (hforeign : ∀ j1 ∈ s.jobs, j1.id ≠ j.id → ∀ o ∈ j1.ops, o.st = .processing → o.machine = m0.id →
      (M'.st = .working ∨ M'.st = .outage) → False) :
    DurInvG orc inst f s' := by
  have hjn := hI.shape.jobsNodup w
  have hmn := hI.shape.machNodup w
  constructor
  · intro j1 hj1 o ho hst
    rw [hjobs] at hj1
    rcases (mem_replaceJob hjn hj hJid j1).mp hj1 with rfl | ⟨hj0, _⟩
    · rw [hJops] at ho
      rcases mem_replaceOp.mp ho with ⟨rfl, _⟩ | ⟨ho', _⟩
      · exact hrecd hst
      · exact hP.done j hj o ho' hst
    · exact hP.done j1 hj0 o ho hst
  · intro j1 hj1 o ho hst m1 hm1 hid hmst
    rw [hjobs] at hj1
    rw [hmach] at hm1
    rcases (mem_replaceMachine hmn hm0 hMid m1).mp hm1 with rfl | ⟨hm1', hne⟩
    · rcases (mem_replaceJob hjn hj hJid j1).mp hj1 with rfl | ⟨hj0, hjne⟩
      · rw [hJops] at ho
        rcases mem_replaceOp.mp ho with ⟨rfl, _⟩ | ⟨ho', hk⟩
        · exact hrecp hst hmst
        · exact (hother o ho' hk hst hmst).elim
      · exact (hforeign j1 hj0 hjne o ho hst (by rw [← hid, hMid]) hmst).elim
    · rcases (mem_replaceJob hjn hj hJid j1).mp hj1 with rfl | ⟨hj0, _⟩
      · rw [hJops] at ho
        rcases mem_replaceOp.mp ho with ⟨rfl, _⟩ | ⟨ho', _⟩
        · exact absurd (by rw [hid, hrecm]) hne
        · exact hP.running j hj o ho' hst m1 hm1' hid hmst
      · exact hP.running j1 hj0 o ho hst m1 hm1' hid hmst

theorem held_record {s : State} (w : WF inst) (hI : StructInv inst s) (hS : SchedInv s) {m0 : MachineState}
    (hm0 : m0 ∈ s.machines) (hb : m0.st ≠ .idle) {j : JobState} (hj : j ∈ s.jobs) (hin : j.id ∈ m0.buffer.store)
    {op : OpState} (hp : j.processing? = some op) :
    op ∈ j.ops ∧ op.st = .processing ∧ op.machine = m0.id ∧ op.stop = m0.occ := by
  obtain ⟨_, op0, hp0, hmach, hstop, _⟩ := busy_job hI hS w hm0 hb hj hin
  rw [hp] at hp0; cases hp0
  obtain ⟨_, _, hl, _, hpst⟩ := processing?_split' hp
  exact ⟨by rw [hl]; simp, hpst, hmach, hstop⟩

theorem held_next {s : State} (w : WF inst) (hI : StructInv inst s) (hS : SchedInv s) {m0 : MachineState}
    (hm0 : m0 ∈ s.machines) (hb : m0.st ≠ .idle) {j : JobState} (hj : j ∈ s.jobs) (hin : j.id ∈ m0.buffer.store)
    {op : OpState} (hnn : j.nextNotDone? = some op) : j.processing? = some op := by
  obtain ⟨_, op0, hp0, _⟩ := busy_job hI hS w hm0 hb hj hin
  have := nextNotDone_of_processing (hS.ops j hj) hp0
  rw [hnn] at this; cases this
  exact hp0

theorem foreign_not_on {s : State} (w : WF inst) (hI : StructInv inst s) (hS : SchedInv s) {m0 : MachineState}
    (hm0 : m0 ∈ s.machines) {j : JobState} (hjin : j.id ∈ m0.buffer.store) {j1 : JobState} (hj1 : j1 ∈ s.jobs)
    (hne : j1.id ≠ j.id) {o : OpState} (ho : o ∈ j1.ops) (hst : o.st = .processing) (hom : o.machine = m0.id) : False := by
  obtain ⟨m, hm, e1, _, e3⟩ := hS.procOnBusy j1 hj1 o ho hst
  have : m = m0 := eq_of_mem_of_key_eq (key := fun (y : MachineState) => y.id) (hI.shape.machNodup w) hm hm0 (by rw [e1, hom])
  subst this
  rw [e3] at hjin
  simp at hjin
  exact hne hjin.symm

theorem only_running {s : State} (hS : SchedInv s) {j : JobState} (hj : j ∈ s.jobs) {op : OpState}
    (hop : j.processing? = some op) {o : OpState} (ho : o ∈ j.ops) (hst : o.st = .processing) : o = op := by
  obtain ⟨_, _, hl, _, hpst⟩ := processing?_split' hop
  exact OpsOK_one_processing _ _ (hS.ops j hj) o ho op (by rw [hl]; simp) hst hpst

theorem applyTransition_dur (w : WF inst) (nn : NonNeg orc inst) {s s' : State} {r r' : Rng} {tr : Transition}
    {R : List Transition} (hI : StructInv inst s) (hS : SchedInv s) (hP : DurInvG orc inst f s)
    (hsafe : Safe s (tr :: R)) (hgs : DueGS s (tr :: R))
    (h : applyTransition orc inst s r tr = .ok (s', r')) : DurInvG orc inst f s' := by
  have hg := hsafe.guard
  cases applyTransition_ran h with
  | t t0 hc _ _ _ _ _ _ =>
    obtain ⟨hm, hj⟩ := agv_effect w hI hc h
    constructor
    · intro j1 hj1 o ho hst
      obtain ⟨j, hj0, _, e⟩ := hj j1 hj1
      exact hP.done j hj0 o (by rw [e]; exact ho) hst
    · intro j1 hj1 o ho hst m1 hm1 hid hmst
      obtain ⟨j, hj0, _, e⟩ := hj j1 hj1
      obtain ⟨m, hm0, e1, e2, _⟩ := hm m1 hm1
      exact hP.running j hj0 o (by rw [e]; exact ho) hst m hm0 (by rw [e1, hid]) (by rw [e2]; exact hmst)
  | m m0 hc hm0 hd ns hn hmh run =>
    cases hd with
    | idleToSetup =>
      obtain ⟨j, op, oc, mc, sd, b1, b2, hj, _, _, _, _, _, _, _, _, _, _, rfl⟩ := idleToSetup_spec run
      exact dur_step w hI hP (rec := opRec oc s.time (s.time + sd) m0.id) hj hm0 (by simp) (by simp)
        (by simp [MachineState.toSetup]) rfl rfl rfl (by simp [opRec])
        (by intro _ h'; simp [MachineState.toSetup] at h')
        (by intro _ _ _ _ h'; simp [MachineState.toSetup] at h')
        (by intro _ _ _ _ _ _ _ h'; simp [MachineState.toSetup] at h')
    | setupToWorking =>
      have hst0 := (machineHandler_setupToWorking hmh).1
      obtain ⟨j, op, oc, d, hj, _, hjin, hnn, hoc, hocj, hoci, hd, rfl⟩ := setupToWorking_spec run
      have hbusy : m0.st ≠ .idle := by rw [hst0]; simp
      have hp0 := held_next w hI hS hm0 hbusy hj hjin hnn
      refine dur_step w hI hP (rec := opRec oc s.time (s.time + d) m0.id) hj hm0 (by simp) (by simp)
        (by simp [MachineState.toWorking]) rfl rfl rfl (by simp [opRec]) ?_ ?_ ?_
      · intro _ _ i ⟨oc', hoc', e1, e2, e3⟩
        have : oc' = oc := opCfg_unique w hoc' hoc (by simpa [opRec] using e1) (by simpa [opRec] using e2)
        subst this
        obtain ⟨k, hk1, hk⟩ := updRead_at (orc := orc) (f i) r
        have hd' : d = (f i).at orc k := by
          have := congrArg Prod.fst hd; simp only at this; rw [this, e3, hk]
        exact ⟨s.time, s.time + d, k, hk1, rfl, rfl, Int.le_of_eq (by rw [hd']), fun _ => by rw [hd']⟩
      · intro o ho hk hst _
        have := only_running hS hj hp0 ho hst
        subst this
        exact hk ⟨by simp [opRec, hocj], by simp [opRec, hoci]⟩
      · intro j1 hj1 hne o ho hst hom _
        exact foreign_not_on w hI hS hm0 hjin hj1 hne ho hst hom
    | workingToOutage =>
      have hst0 := (machineHandler_workingToOutage hmh)
      obtain ⟨mc, outs, j, op0, hmc, hmcid, hnew, hj, htj, hp, rfl⟩ := workingToOutage_spec run
      have hbusy : m0.st ≠ .idle := by rw [hst0.1]; simp
      have hjin : j.id ∈ m0.buffer.store := hg.ownJob m0.id hc (by rw [hn, hst0.2]) m0 hm0 rfl j.id htj
      obtain ⟨hopmem, hpst, hmach0, hstop0⟩ := held_record w hI hS hm0 hbusy hj hjin hp
      have hdue := hgs.due tr (by simp) m0.id hc (Or.inl (by rw [hn, hst0.2])) m0 hm0 rfl
      have hocc := occupiedFor_new_nonneg nn.orc (fun o ho => nn.mout mc hmc o ho) hnew
      refine dur_step w hI hP (rec := { op0 with stop := some (s.time + occupiedFor outs) })
        (J' := j.replaceOp { op0 with stop := some (s.time + occupiedFor outs) })
        (M' := m0.toOutage outs (s.time + occupiedFor outs)) hj hm0 rfl rfl
        (by simp [MachineState.toOutage]) rfl rfl hmach0 (by simp [hpst]) ?_ ?_ ?_
      · intro _ _ i hdd
        obtain ⟨a, b, k, hk1, h1, h2, h3, h4⟩ :=
          hP.running j hj op0 hopmem hpst m0 hm0 hmach0.symm (Or.inl hst0.1) i hdd
        obtain ⟨_, b', _, hb', _, _, hnb⟩ := (OpsOK_mem _ _ (hS.ops j hj) op0 hopmem).2.1 hpst
        rw [h2] at hb'; simp at hb'; subst hb'
        have hbn : b ≤ s.time := by
          rw [← hstop0, h2] at hdue; simpa [dueAt] using hdue
        refine ⟨a, s.time + occupiedFor outs, k, hk1, h1, rfl, by omega, ?_⟩
        intro hno
        have hno' : mc.outages = [] := hno mc hmc (by rw [hmcid, hmach0])
        rw [hno'] at hnew
        simp [newOutageStates] at hnew
        obtain ⟨rfl, _⟩ := hnew
        have := h4 (by simpa using hno)
        simp [occupiedFor, activeDurations]
        omega
      · intro o ho hk hst _
        have := only_running hS hj hp ho hst
        subst this
        exact hk ⟨rfl, rfl⟩
      · intro j1 hj1 hne o ho hst hom _
        exact foreign_not_on w hI hS hm0 hjin hj1 hne ho hst hom
    | outageToIdle =>
      have hst0 := (machineHandler_outageToIdle hmh)
      obtain ⟨j, op0, mc, rest, b1, b2, hstore, hj, hp, _, _, _, _, rfl⟩ := outageToIdle_spec run
      have hbusy : m0.st ≠ .idle := by rw [hst0.1]; simp
      have hjin : j.id ∈ m0.buffer.store := by rw [hstore]; simp
      obtain ⟨hopmem, hpst, hmach0, hstop0⟩ := held_record w hI hS hm0 hbusy hj hjin hp
      have hdue := hgs.due tr (by simp) m0.id hc (Or.inr (Or.inl (by rw [hn, hst0.2]))) m0 hm0 rfl
      refine dur_step w hI hP (rec := { op0 with stop := some s.time, st := .done }) hj hm0 (by simp) (by simp)
        (by simp [MachineState.toIdle]) rfl rfl hmach0 ?_ (by intro h'; simp at h') ?_ ?_
      · intro _ i hdd
        obtain ⟨a, b, k, hk1, h1, h2, h3, h4⟩ :=
          hP.running j hj op0 hopmem hpst m0 hm0 hmach0.symm (Or.inr hst0.1) i hdd
        obtain ⟨_, b', _, hb', _, _, hnb⟩ := (OpsOK_mem _ _ (hS.ops j hj) op0 hopmem).2.1 hpst
        rw [h2] at hb'; simp at hb'; subst hb'
        have hbn : b ≤ s.time := by
          rw [← hstop0, h2] at hdue; simpa [dueAt] using hdue
        refine ⟨a, s.time, k, hk1, h1, rfl, by omega, ?_⟩
        intro hno
        have := h4 (by simpa using hno)
        omega
      · intro _ _ _ _ h'; simp [MachineState.toIdle] at h'
      · intro _ _ _ _ _ _ _ h'; simp [MachineState.toIdle] at h'

theorem timedMachine_due {now : Int} {m : MachineState} {tr : Transition}
    (h : timedMachine inst now m = .ok (some tr)) :
    tr.comp = .m m.id ∧ (tr.new ≠ .m .setup → dueAt m.occ now = true) := by
  obtain ⟨hc, ⟨_, _, _, hd, _⟩ | ⟨_, hn, _⟩⟩ := timedMachine_ok h
  · exact ⟨hc, fun _ => hd⟩
  · exact ⟨hc, fun hne => absurd hn hne⟩

theorem timed_due (w : WF inst) {s : State} (hI : StructInv inst s) (hS : SchedInv s) {tt tele : List Transition}
    (htt : timedTransitions inst s = .ok tt) (htele : ∀ tr ∈ tele, tr.new = .t .working) : DueGS s (tt ++ tele) := by
  have hs := hI.shape
  obtain ⟨ra, rb, hra, hrb, rfl⟩ := timedTransitions_ok htt
  have hA := timedMachines_spec (inst := inst) s.machines (fun m hm => hm) (hs.machNodup w) ra hra
  have hmem := mapM_ok_mem hra
  have hB := timedTransports_spec (inst := inst) hS s.transports (fun t ht => ht) rb hrb
  have hT : ∀ tr ∈ rb.filterMap id ++ tele, ¬ (tr.new = .m .outage ∨ tr.new = .m .idle ∨ tr.new = .m .working) := by
    intro tr htr hn
    have : IsT tr := by
      rcases List.mem_append.mp htr with h | h
      · exact (hB tr h).1
      · exact ⟨_, htele tr h⟩
    obtain ⟨ns, e⟩ := this
    rw [e] at hn; simp at hn
  rw [List.append_assoc]
  constructor
  · intro tr htr mid hc hn m1 hm1 hid
    rcases List.mem_append.mp htr with h | h
    · obtain ⟨x, hx, e⟩ := List.mem_filterMap.mp h
      simp at e; subst e
      obtain ⟨m, hm, e⟩ := hmem.2 _ hx
      have hd := timedMachine_due e
      have : m = m1 := by
        apply eq_of_mem_of_key_eq (key := fun (y : MachineState) => y.id) (hs.machNodup w) hm hm1
        rw [hc] at hd; simp at hd; rw [hid]; exact hd.1.symm
      subst this
      apply hd.2
      rcases hn with hn | hn | hn <;> rw [hn] <;> simp
    · exact absurd hn (hT tr h)
  · apply List.pairwise_append.mpr
    refine ⟨?_, ?_, ?_⟩
    · exact hA.2.imp (fun {a b} hab mid hc _ => by rw [← hc]; exact hab)
    · apply List.pairwise_of_forall_mem_list
      intro a _ b hb mid _ hn
      exact absurd hn (hT b hb)
    · intro a _ b hb mid _ hn
      exact absurd hn (hT b hb)


def DurPassG (orc : Oracle) (inst : Instance) (cfg : SMConfig) (w : WF inst) (nn : NonNeg orc inst) (f : ι → TimeCfg) :
    Pass orc inst cfg where
  P := DurInvG orc inst f
  GS := DueGS
  Adm := fun _ a => ∀ tr ∈ a.transitions, OfferShaped tr
  tail := fun h => h.tail
  step := fun hI hS hP _ hsafe _ hgs ha => ⟨applyTransition_dur w nn hI hS hP hsafe hgs ha, hgs.step w hI ha⟩
  advance := fun _ _ hP _ _ => ⟨hP.done, hP.running⟩
  timed := fun hI hS _ htt hposs htele => timed_due w hI hS htt (filterTeleport_shape hposs htele)
  timedOnly := fun hI hS _ htt => by simpa using timed_due w hI hS (tele := []) htt (by simp)
  action := fun _ _ _ hadm => DueGS.of_offers fun tr htr => hadm tr (mem_sortedByTransport htr)

def DurPass (orc : Oracle) (inst : Instance) (cfg : SMConfig) (w : WF inst) (nn : NonNeg orc inst) : Pass orc inst cfg :=
  (DurPassG orc inst cfg w nn .det).map (DurInv inst) DurInv.toG DurInvG.det

theorem DurInvG.of_time {s : State} {t : Int} (h : DurInvG orc inst f { s with time := t }) : DurInvG orc inst f s :=
  ⟨h.done, h.running⟩

theorem DurInv.of_time {s : State} {t : Int} (h : DurInv inst { s with time := t }) : DurInv inst s :=
  ⟨h.done, h.running⟩

/-- at rest nothing has started: the duration invariant holds vacuously -/
theorem DurInvG.of_rest {s : State} (h : restB s = true) : DurInvG orc inst f s := by
  simp only [restB, Bool.and_eq_true, List.all_eq_true, beq_iff_eq] at h
  obtain ⟨⟨_, hj⟩, _⟩ := h
  constructor
  · intro j hj' o ho hst
    rw [hj j hj' o ho] at hst; cases hst
  · intro j hj' o ho hst
    rw [hj j hj' o ho] at hst; cases hst

theorem DurInv.of_rest {s : State} (h : restB s = true) : DurInv inst s :=
  (DurInvG.of_rest (orc := fun _ _ => 0) h).det

end JSL
