import JSL.Gen.Tables

/-! Facts about the regenerated dispatch tables: from which phase to which each handler leads. -/

namespace JSL

theorem machineHandler_inv {a b : MSt} {h : MHandler} (e : machineHandler a b = some h) :
    match h with
    | .idleToSetup => a = .idle ∧ b = .setup
    | .setupToWorking => a = .setup ∧ b = .working
    | .workingToOutage => a = .working ∧ b = .outage
    | .outageToIdle => a = .outage ∧ b = .idle := by
  cases a <;> cases b <;> cases e <;> exact ⟨rfl, rfl⟩

theorem agvHandler_inv {a b : TSt} {h : THandler} (e : agvHandler a b = some h) :
    match h with
    | .pickupToTransit => b = .transit ∧ (a = .pickup ∨ a = .waitingpickup)
    | .pickupToWaitingpickup => b = .waitingpickup ∧ a = .pickup
    | .waitingPickupToWaitingPickup => b = .waitingpickup ∧ a = .waitingpickup
    | .outageToIdle => a = .outage ∧ b = .idle
    | .idleToWorking => a = .idle ∧ b = .working
    | .transitToOutage => b = .outage ∧ (a = .transit ∨ a = .working) := by
  cases a <;> cases b <;> cases e <;> simp

theorem machineHandler_idleToSetup {a b : MSt} (h : machineHandler a b = some .idleToSetup) : a = .idle ∧ b = .setup :=
  machineHandler_inv h
theorem machineHandler_setupToWorking {a b : MSt} (h : machineHandler a b = some .setupToWorking) :
    a = .setup ∧ b = .working :=
  machineHandler_inv h
theorem machineHandler_workingToOutage {a b : MSt} (h : machineHandler a b = some .workingToOutage) :
    a = .working ∧ b = .outage :=
  machineHandler_inv h
theorem machineHandler_outageToIdle {a b : MSt} (h : machineHandler a b = some .outageToIdle) :
    a = .outage ∧ b = .idle :=
  machineHandler_inv h

theorem agvHandler_pickupToTransit {a b : TSt} (h : agvHandler a b = some .pickupToTransit) :
    b = .transit ∧ (a = .pickup ∨ a = .waitingpickup) :=
  agvHandler_inv h
theorem agvHandler_pickupToWaiting {a b : TSt} (h : agvHandler a b = some .pickupToWaitingpickup) :
    b = .waitingpickup ∧ a = .pickup :=
  agvHandler_inv h
theorem agvHandler_waitingToWaiting {a b : TSt} (h : agvHandler a b = some .waitingPickupToWaitingPickup) :
    b = .waitingpickup ∧ a = .waitingpickup :=
  agvHandler_inv h
theorem agvHandler_outageToIdle {a b : TSt} (h : agvHandler a b = some .outageToIdle) : a = .outage ∧ b = .idle :=
  agvHandler_inv h
theorem agvHandler_idleToWorking {a b : TSt} (h : agvHandler a b = some .idleToWorking) : a = .idle ∧ b = .working :=
  agvHandler_inv h
theorem agvHandler_transitToOutage {a b : TSt} (h : agvHandler a b = some .transitToOutage) :
    b = .outage ∧ (a = .transit ∨ a = .working) :=
  agvHandler_inv h

end JSL
