import JSL.Inv.FuelHead
import JSL.Inv.TotalEnv

/-!
# The timed loop of one `state.step` ends within `fuelBound inst` rounds

For an instance of the class (`TotClassP`) with unordered pre-buffers, from a state with the invariants:

* `fb_process`  – a worked-off batch without machine start and dispatch does not raise the measure `fbM`,
                  and lowers it when its first transition does (`FbHead`);
* `FbFuel`      – the fuel that suffices for the `while timed_transitions` loop: more than the measure of the
                  current state (a purely timed batch), or at least `fuelBound inst` (the first batch of
                  `state.step`, which may contain teleport dispatches); it is handed on from round to round
                  (`FbFuel.round`), so `loop_totalT` / `smStep_totalT` exclude "out of fuel";
* `stepTotal_of_fuel` – so `state.step` is total along the executions of the environment, without the
                  alternative "the timed loop runs out of fuel".
-/

namespace JSL

variable {orc : Oracle} {inst : Instance}

/-- the first transition of a batch is not a `WAITINGPICKUP → WAITINGPICKUP` of an AGV that is not behind -/
def FbHead (s : State) (a : Transition) : Prop :=
  ∀ tid, a.comp = .t tid → a.new = .t .waitingpickup → ∀ t0 ∈ s.transports, t0.id = tid →
    t0.st = .waitingpickup → fbLate s.machines t0 = true

theorem fb_process (w : WF inst) (nn : NonNeg orc inst) (C : TotClassP inst) (cfg : SMConfig) :
    ∀ (L : List Transition) (s : State) (r : Rng) (o : ProcOut), (TotPass orc inst cfg w nn C).Mid s L →
      (∀ tr ∈ L, tr.new ≠ .m .setup ∧ tr.new ≠ .t .working) →
      processTransitions orc inst L s r = .ok o →
      fbM o.state ≤ fbM s ∧ (∀ a rest, L = a :: rest → FbHead s a → fbM o.state + 1 ≤ fbM s) := by
  intro L
  induction L with
  | nil =>
    intro s r o _ _ h
    cases h
    exact ⟨Nat.le_refl _, fun a rest e => by cases e⟩
  | cons tr L ih =>
    intro s r o hM hnn h
    have hI := hM.batch.struct
    have hS := hM.batch.sched
    have haim := hM.gs.aim tr (by simp)
    have hv := valid_true w (hM.inv.inv hI hS) haim (hM.gs.mvalid tr (by simp))
    rcases processTransitions_cons_ok h with ⟨_, s1, r1, o1, ha, ho1, rfl⟩ | ⟨hv', _⟩
    case inr => rw [hv] at hv'; cases hv'
    have hP1 := (TotPass orc inst cfg w nn C).step hI hS hM.inv hv hM.batch.safe hM.batch.fresh hM.gs ha
    have hrec := (ih s1 r1 o1 ⟨hM.batch.step w nn hv ha, hP1.1, hP1.2⟩ (fun t ht => hnn t (by simp [ht])) ho1).1
    have hstep := fb_step w C.parents hI hS hM.inv.full.agv.unique haim (hnn tr (by simp)).1 (hnn tr (by simp)).2 ha
    refine ⟨Nat.le_trans hrec hstep.1, ?_⟩
    intro a rest e hh
    simp only [List.cons.injEq] at e
    obtain ⟨rfl, _⟩ := e
    have := hstep.2 hh
    show fbM o1.state + 1 ≤ fbM s
    omega

theorem fuelBound_pos (inst : Instance) : 2 ≤ fuelBound inst := by unfold fuelBound; omega

/-- `n` rounds suffice: more than the measure of the state when the batch is the timed batch of the state, or
at least `fuelBound inst` (the first batch of `state.step`, which may contain teleport dispatches) -/
def FbFuel (inst : Instance) (n : Nat) (s : State) (tt : List Transition) : Prop :=
  (timedTransitions inst s = .ok tt ∧ fbM s < n) ∨ fuelBound inst ≤ n

theorem FbFuel.zero {s : State} {a : Transition} {as : List Transition} : ¬ FbFuel inst 0 s (a :: as) := by
  have := fuelBound_pos inst
  rintro (⟨_, h⟩ | h) <;> omega

/-- a round leaves enough fuel: a timed batch lowers the measure (`fb_head`), and the measure never exceeds
`fuelBound inst - 2` -/
theorem FbFuel.round (w : WF inst) (nn : NonNeg orc inst) (C : TotClassP inst) (hflex : PreFlex inst) {cfg : SMConfig}
    {n : Nat} {s : State} {a : Transition} {as : List Transition} {r : Rng} {o : ProcOut} {t : Int}
    {tt' : List Transition} (hM : (TotPass orc inst cfg w nn C).Mid s (a :: as)) (hfuel : FbFuel inst (n + 1) s (a :: as))
    (ho : processTransitions orc inst (a :: as) s r = .ok o)
    (htt' : timedTransitions inst { o.state with time := t } = .ok tt') : FbFuel inst n { o.state with time := t } tt' := by
  refine Or.inl ⟨htt', ?_⟩
  rw [fbM_time]
  rcases hfuel with ⟨htt, hlt⟩ | hB
  · have hI := hM.batch.struct
    have hS := hM.batch.sched
    have hns := timed_no_setup w hI hS hflex htt
    have hnd := timed_no_dispatch hS htt
    have := (fb_process w nn C cfg (a :: as) s r o hM (fun tr htr => ⟨hns tr htr, hnd tr htr⟩) ho).2 a as rfl
      (fb_head w C (hM.inv.inv hI hS) htt)
    omega
  · have := fbM_le (inst := inst) (((TotPass orc inst cfg w nn C).batch w nn hM ho).1.batch.struct.shape)
    omega

theorem stepTotal_of_fuel {cfg : SMConfig} {s0 : State} (hst : Start orc inst s0) (C : TotClassP inst) (hflex : PreFlex inst)
    (h0 : TotP inst s0) {fuel : Nat} (hfuel : fuelBound inst ≤ fuel) : StepTotal orc inst cfg fuel s0 False := by
  intro s a h ha hadm r
  obtain ⟨w, hI, hS⟩ := occursA_inv hst h.toA
  have nn := nonnegB_sound hst.samples hst.nonneg
  exact Or.inl ((smStep_totalT w nn C FbFuel.zero (fun hM hf ho _ htt' => FbFuel.round w nn C hflex hM hf ho htt') hI hS
    (occursF_tot hst C h0 h) ha hadm).resolve_right (fun ⟨_, _, _, hn⟩ => hn (Or.inr hfuel)))

end JSL
