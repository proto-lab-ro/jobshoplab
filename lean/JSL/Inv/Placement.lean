import JSL.Model.Compile

/-!
# Initial placement and outage assignment of the compiler (model: `Model/Compile.lean`)
-/

namespace JSL.Compile

theorem mem_firstOccs {x : Nat} : ∀ {l : List Nat}, x ∈ firstOccs l ↔ x ∈ l
  | [] => by simp [firstOccs]
  | a :: l => by
    simp only [firstOccs, List.mem_cons, List.mem_filter, mem_firstOccs (l := l), bne_iff_ne, ne_eq]
    constructor
    · rintro (h | ⟨h, _⟩)
      · exact Or.inl h
      · exact Or.inr h
    · rintro (h | h)
      · exact Or.inl h
      · by_cases hx : x = a
        · exact Or.inl hx
        · exact Or.inr ⟨h, hx⟩

theorem firstOccs_nodup : ∀ l : List Nat, (firstOccs l).Nodup
  | [] => by simp [firstOccs]
  | a :: l => by
    simp only [firstOccs, List.nodup_cons, List.mem_filter, bne_iff_ne, ne_eq, not_and]
    exact ⟨fun _ h => h trivial, (firstOccs_nodup l).filter _⟩

theorem firstOccs_of_nodup : ∀ {l : List Nat}, l.Nodup → firstOccs l = l
  | [], _ => rfl
  | a :: l, h => by
    rw [List.nodup_cons] at h
    simp only [firstOccs, firstOccs_of_nodup h.2]
    congr 1
    apply List.filter_eq_self.2
    intro x hx
    simp only [bne_iff_ne, ne_eq]
    rintro rfl
    exact h.1 hx

theorem firstOccs_append : ∀ l r : List Nat,
    firstOccs (l ++ r) = firstOccs l ++ (firstOccs r).filter (fun x => !l.contains x)
  | [], r => by
    simp only [List.nil_append, firstOccs]
    exact (List.filter_eq_self.2 (by simp)).symm
  | a :: l, r => by
    simp only [List.cons_append, firstOccs, firstOccs_append l r, List.filter_append, List.filter_filter,
      List.contains_cons]
    congr 2
    apply List.filter_congr
    intro x _
    by_cases h : x = a
    · simp [h]
    · have h1 : (x != a) = true := by simp [h]
      have h2 : (x == a) = false := by simp [h]
      simp [h1, h2]

variable {inputId : Nat} {jobs : List (Nat × Option Nat)}

theorem mem_locatedIn {b j : Nat} :
    j ∈ locatedIn inputId jobs b ↔ ∃ sp, (j, sp) ∈ jobs ∧ jobLocation inputId sp = b := by
  simp only [locatedIn, List.mem_map, List.mem_filter, beq_iff_eq]
  constructor
  · rintro ⟨⟨j', sp⟩, ⟨hm, hl⟩, rfl⟩
    exact ⟨sp, hm, hl⟩
  · rintro ⟨sp, hm, hl⟩
    exact ⟨(j, sp), ⟨hm, hl⟩, rfl⟩

theorem locatedIn_nodup (hn : (jobs.map (·.1)).Nodup) (b : Nat) : (locatedIn inputId jobs b).Nodup := by
  unfold locatedIn
  exact (List.filter_sublist.map _).nodup hn

theorem initStore_nodup (hn : (jobs.map (·.1)).Nodup) (b : Nat) (listed : Option (List Nat)) :
    (initStore inputId jobs b listed).Nodup := by
  cases listed with
  | none => exact locatedIn_nodup hn b
  | some l => exact firstOccs_nodup _

/-- listed jobs first, in the order written (first mention), then the located jobs that are not
listed, in job order -/
theorem initStore_listed (hn : (jobs.map (·.1)).Nodup) (b : Nat) (l : List Nat) :
    initStore inputId jobs b (some l) =
      firstOccs l ++ (locatedIn inputId jobs b).filter (fun x => !l.contains x) := by
  simp only [initStore, firstOccs_append, firstOccs_of_nodup (locatedIn_nodup hn b)]

theorem mem_initStore {b j : Nat} {listed : Option (List Nat)} :
    j ∈ initStore inputId jobs b listed ↔ (∃ l, listed = some l ∧ j ∈ l) ∨ j ∈ locatedIn inputId jobs b := by
  cases listed with
  | none => simp [initStore]
  | some l => simp [initStore, mem_firstOccs]

/-- a consistent listing names only jobs located in the buffer (the compiler rejects any other listing) -/
def ConsistentListing (inputId : Nat) (jobs : List (Nat × Option Nat)) (b : Nat) : Option (List Nat) → Prop
  | none => True
  | some l => ∀ j ∈ l, j ∈ locatedIn inputId jobs b

theorem mem_initStore_consistent {b j : Nat} {listed : Option (List Nat)}
    (hc : ConsistentListing inputId jobs b listed) :
    j ∈ initStore inputId jobs b listed ↔ j ∈ locatedIn inputId jobs b := by
  rw [mem_initStore]
  constructor
  · rintro (⟨l, rfl, hj⟩ | h)
    · exact hc j hj
    · exact h
  · exact Or.inr

theorem outagesFor_append {α : Type} (names : List Text) (e₁ e₂ : List (Text × α)) :
    outagesFor names (e₁ ++ e₂) = outagesFor names e₁ ++ outagesFor names e₂ := by
  simp [outagesFor]

theorem outagesFor_sublist {α : Type} (names : List Text) (entries : List (Text × α)) :
    (outagesFor names entries).Sublist (entries.map (·.2)) :=
  List.filter_sublist.map _

theorem outagesFor_length {α : Type} (names : List Text) (entries : List (Text × α)) :
    (outagesFor names entries).length = entries.countP (fun e => names.contains e.1) := by
  simp [outagesFor, List.countP_eq_length_filter]

end JSL.Compile
