import JSL.Inv.ClassicFrameE
import JSL.Inv.ClassicStepE
import JSL.Inv.ClassicBatchE
import JSL.Inv.ClassicQueriesE
import JSL.Inv.ClassicTotalsE
import JSL.Inv.ClassicSyncE
import JSL.Inv.ClassicPass

/-!
# The classic pass, early dispatch allowed

`CPassE`: `BundleE` (`AgvFull`, `Ready`, `CInvE`) with the duration invariant as a `Pass`, for any
`allowEarly` and any number of AGVs; `timedTransitions_totalE`: `create_timed_transitions` never raises in
its states; `enE_applies`: every enabled transition other than a machine start validates and applies.
-/

namespace JSL

variable {orc : Oracle} {inst : Instance} {cfg : SMConfig}

def CPassE (orc : Oracle) (inst : Instance) (cfg : SMConfig) (w : WF inst) (nn : NonNeg orc inst) (hC : Classic inst) :
    Pass orc inst cfg where
  P := fun s => BundleE inst s ∧ DurInv inst s
  GS := fun s L => FullGS s L ∧ DueGS s L ∧ EnGSE inst s L
  Adm := AdmOffer inst cfg
  tail := fun h => ⟨(FullPass orc inst cfg w).tail h.1, h.2.1.tail, h.2.2.tail⟩
  step := fun {s s' r r' tr R} hI hS hP hv hsafe hfresh hgs ha => by
    have h1 := (ReadyPass orc inst cfg w hC.tables).step hI hS ⟨hP.1.full, hP.1.ready⟩ hv hsafe hfresh hgs.1 ha
    have h2 := (DurPass orc inst cfg w nn).step hI hS hP.2 hv hsafe hfresh hgs.2.1 ha
    have h3 := cinvE_step w hC hI hS hP.1 (hgs.2.2.en tr (by simp))
      (fun m hm hc hn => hgs.2.1.due tr (by simp) m.id hc (Or.inl hn) m hm rfl) ha
    have h4 := enGSE_step w hI hP.1.full hgs.2.2 ha
    exact ⟨⟨⟨h1.1.1, h1.1.2, h3⟩, h2.1⟩, h1.2, h2.2, h4⟩
  advance := fun {s t} hI hS hP hle hpend => by
    have h1 := (ReadyPass orc inst cfg w hC.tables).advance hI hS ⟨hP.1.full, hP.1.ready⟩ hle hpend
    exact ⟨⟨h1.1, h1.2, hP.1.cinv.time hle⟩, (DurPass orc inst cfg w nn).advance hI hS hP.2 hle hpend⟩
  timed := fun hI hS hP htt hposs htele =>
    ⟨(FullPass orc inst cfg w).timed hI hS hP.1.full htt hposs htele,
     (DurPass orc inst cfg w nn).timed hI hS hP.2 htt hposs htele, timed_enGSE w hC hI hS hP.1 htt hposs htele⟩
  timedOnly := fun hI hS hP htt =>
    ⟨(FullPass orc inst cfg w).timedOnly hI hS hP.1.full htt, (DurPass orc inst cfg w nn).timedOnly hI hS hP.2 htt,
     timedOnly_enGSE w hC hI hS hP.1 htt⟩
  action := fun hI hS hP hadm =>
    ⟨(FullPass orc inst cfg w).action hI hS hP.1.full hadm,
     (DurPass orc inst cfg w nn).action hI hS hP.2 (admOffer_shaped hadm), action_enGSE w hI hS hP.1 hadm⟩

/-- `create_timed_transitions` never raises (the claimed job of a dispatched AGV exists; where it lies does
not matter here) -/
theorem timedTransitions_totalE (w : WF inst) {s : State} (hI : StructInv inst s)
    (hS : SchedInv s) (hA : AgvFull inst s) (hP : CInvE inst s) : ∃ tt, timedTransitions inst s = .ok tt :=
  timedTransitions_total w hI hS hA hP.noDep hP.noWorking
    (fun t ht hst => by obtain ⟨j, hj, e, _⟩ := hP.claimed t ht hst; exact ⟨j, hj, e⟩)

theorem pickup_not_output (w : WF inst) {l : Nat} (hl : l ∈ pickupPlaces inst) : l ∉ outputIds inst := by
  intro hout
  unfold outputIds outputBuffers at hout
  obtain ⟨b2, hb2, e2⟩ := List.mem_map.mp hout
  have hb2' := List.mem_filter.mp hb2
  have hnd : (inst.buffers.map (·.id)).Nodup := by
    have := w.bufNodup
    unfold allBufCfgs at this
    simp only [List.map_append] at this
    exact (List.nodup_append.mp (List.nodup_append.mp this).1).1
  rcases mem_pickupPlaces.mp hl with ⟨b1, hb1, hrole, e1⟩ | ⟨mc, hmc, e⟩
  · have : b1 = b2 := eq_of_mem_of_key_eq (key := fun (y : BufCfg) => y.id) hnd hb1 hb2'.1 (by rw [e1, e2])
    subst this
    have h2 := hb2'.2
    simp at hrole h2
    exact hrole h2
  · exact ((cfg_ids_parts w).1 b2 hb2'.1 mc hmc).2.2 (by rw [e2, e])

theorem fresh_of_pickupE (w : WF inst) {s : State} (hP : CInvE inst s) {j : JobState} (hj : j ∈ s.jobs)
    (hloc : j.loc ∈ pickupPlaces inst) : j.loc ∈ inst.buffers.map (·.id) → ∃ o, j.nextIdle? = some o :=
  fun hb => hP.fresh _ hj hb (pickup_not_output w hloc)

theorem enE_applies (w : WF inst) (hC : Classic inst) {s : State} (hI : StructInv inst s) (hS : SchedInv s)
    (hB : BundleE inst s) {tr : Transition} (hE : EnE inst s tr) (hne : tr.new ≠ .m .setup) (r : Rng) :
    transitionValid s tr = .ok true ∧ ∃ s' r', applyTransition orc inst s r tr = .ok (s', r') := by
  have claimed : ∀ {t : TransportState} {j : JobState}, t ∈ s.transports → t.st = .pickup ∨ t.st = .waitingpickup →
      j ∈ s.jobs → t.job = some j.id → Pickable inst j := by
    intro t j ht hst hj hjob
    obtain ⟨j0, hj0, e0, hloc⟩ := hB.cinv.claimed t ht hst
    have : j0 = j := eq_of_mem_of_key_eq (key := fun (y : JobState) => y.id) (hI.shape.jobsNodup w) hj0 hj
      (by rw [hjob] at e0; exact (Option.some.inj e0).symm)
    subst this
    exact hloc
  cases hE with
  | start _ h => exact absurd h hne
  | mWork m x hm hst hx => exact setupToWorking_total w hI hS hm hst hx r
  | mOut m x hm hst hx => exact workingToOutage_total w hC hI hS hm hst hx r
  | mIdle m x hm hst _ => exact outageToIdle_total w hC hI hS hm hst r
  | dispatch t j ht hst hj hloc _ => exact dispatch_total_early w hC hI hB.ready ht hst hj hloc r
  | wait t j ht hst hj hjob =>
    exact pickupToWaiting_total_early w hC hI hS ht hst hj (claimed ht (Or.inl hst) hj hjob) r
  | rewait t j ht hst hj hjob => exact rewait_total w hC hI hS ht hst hj (claimed ht (Or.inr hst) hj hjob) r
  | pick t j ht hst hj hjob hloc =>
    exact toTransit_total w hC hI hB.full ht (Or.inr hst) hj hloc (fresh_of_pickupE w hB.cinv hj hloc) r
  | deliver t j ht hst _ hstore => exact transitToOutage_total w hC hI hB.full ht hst hstore r
  | release t ht hst => exact agvToIdle_total w hC hI ht hst r

end JSL
