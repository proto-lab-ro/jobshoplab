import JSL.Inv.PlanDefs
import JSL.Inv.TimeMachine

/-! Lemmas for the soundness of the lower bound -/

namespace JSL

instance ChainOK.decidable : ∀ (t : Int) (j : PJob), Decidable (ChainOK t j)
  | _, [] => isTrue trivial
  | t, x :: rest => @instDecidableAnd (t ≤ x.start) (ChainOK x.stop rest) _ (ChainOK.decidable x.stop rest)

instance (x y : POp) : Decidable (disjointOps x y) := inferInstanceAs (Decidable (_ ∨ _))

instance (p : Plan) (C : Int) : Decidable (FeasiblePlan p C) :=
  decidable_of_iff ((∀ j ∈ p, ChainOK 0 j) ∧ (p.flatMap id).Pairwise (fun x y => x.mach = y.mach → disjointOps x y) ∧
      ∀ j ∈ p, ∀ x ∈ j, x.stop ≤ C)
    ⟨fun ⟨h1, h2, h3⟩ => ⟨h1, h2, h3⟩, fun h => ⟨h.chain, h.excl, h.bound⟩⟩

theorem POp.stop_eq (x : POp) : x.stop = x.start + x.dur := rfl

theorem sumDur_cons (a : Nat × Int) (l : List (Nat × Int)) : sumDur (a :: l) = a.2 + sumDur l :=
  List.sum_cons

theorem sumDur_proj_cons (x : POp) (rest : PJob) :
    sumDur (PJob.proj (x :: rest)) = x.dur + sumDur (PJob.proj rest) :=
  sumDur_cons _ _

theorem prefixBefore_proj_cons (μ : Nat) (x : POp) (rest : PJob) :
    prefixBefore μ (PJob.proj (x :: rest)) =
      if x.mach = μ then 0 else x.dur + prefixBefore μ (PJob.proj rest) := rfl

theorem suffixAfter_proj_cons (μ : Nat) (x : POp) (rest : PJob) :
    suffixAfter μ (PJob.proj (x :: rest)) =
      if x.mach = μ then sumDur (PJob.proj rest) else suffixAfter μ (PJob.proj rest) := rfl

theorem sumDur_nonneg : ∀ (l : List (Nat × Int)), (∀ a ∈ l, 0 ≤ a.2) → 0 ≤ sumDur l
  | [], _ => Int.le_refl 0
  | a :: l, h => by
    rw [sumDur_cons]
    exact Int.add_nonneg (h a List.mem_cons_self) (sumDur_nonneg l fun x hx => h x (List.mem_cons_of_mem _ hx))

theorem chain_start_ge (l : List POp) (t : Int) (h : ChainOK t l) (hd : ∀ x ∈ l, 0 ≤ x.dur) :
    ∀ x ∈ l, t ≤ x.start := by
  induction l generalizing t with
  | nil => exact fun _ hx => nomatch hx
  | cons y l ih =>
    intro x hx
    rcases List.mem_cons.mp hx with rfl | hx'
    · exact h.1
    · have h1 := ih y.stop h.2 (fun z hz => hd z (List.mem_cons_of_mem _ hz)) x hx'
      have h2 := h.1
      have h3 := hd y List.mem_cons_self
      rw [POp.stop_eq] at h1
      omega

theorem chain_prefix (μ : Nat) (j : PJob) (t : Int) (hc : ChainOK t j) (hd : ∀ x ∈ j, 0 ≤ x.dur) :
    ∀ x ∈ j, x.mach = μ → t + prefixBefore μ j.proj ≤ x.start := by
  induction j generalizing t with
  | nil => exact fun _ hx => nomatch hx
  | cons y rest ih =>
    intro x hx hm
    rw [prefixBefore_proj_cons]
    by_cases hy : y.mach = μ
    · rw [if_pos hy, Int.add_zero]
      exact chain_start_ge _ t hc hd x hx
    · rw [if_neg hy]
      rcases List.mem_cons.mp hx with rfl | hx'
      · exact absurd hm hy
      · have h1 := ih y.stop hc.2 (fun z hz => hd z (List.mem_cons_of_mem _ hz)) x hx' hm
        have h2 := hc.1
        rw [POp.stop_eq] at h1
        omega

theorem chain_total (j : PJob) (t C : Int) (hc : ChainOK t j) (hb : ∀ x ∈ j, x.stop ≤ C) (htC : t ≤ C) :
    t + sumDur j.proj ≤ C := by
  induction j generalizing t with
  | nil => exact (Int.add_zero t).symm ▸ htC
  | cons y rest ih =>
    have h1 := ih y.stop hc.2 (fun z hz => hb z (List.mem_cons_of_mem _ hz)) (hb y List.mem_cons_self)
    have h2 := hc.1
    rw [POp.stop_eq] at h1
    rw [sumDur_proj_cons]
    omega

theorem chain_suffix (μ : Nat) (j : PJob) (t C : Int) (hc : ChainOK t j) (hb : ∀ x ∈ j, x.stop ≤ C)
    (hnd : (j.map POp.mach).Nodup) : ∀ x ∈ j, x.mach = μ → x.stop + suffixAfter μ j.proj ≤ C := by
  induction j generalizing t with
  | nil => exact fun _ hx => nomatch hx
  | cons y rest ih =>
    intro x hx hm
    have hb' : ∀ z ∈ rest, z.stop ≤ C := fun z hz => hb z (List.mem_cons_of_mem _ hz)
    rw [List.map_cons, List.nodup_cons] at hnd
    rw [suffixAfter_proj_cons]
    by_cases hy : y.mach = μ
    · rw [if_pos hy]
      rcases List.mem_cons.mp hx with rfl | hx'
      · exact chain_total rest x.stop C hc.2 hb' (hb x List.mem_cons_self)
      · exact absurd (List.mem_map.mpr ⟨x, hx', hm.trans hy.symm⟩) hnd.1
    · rw [if_neg hy]
      rcases List.mem_cons.mp hx with rfl | hx'
      · exact absurd hm hy
      · exact ih y.stop hc.2 hb' hnd.2 x hx' hm

theorem prefix_suffix_le (μ : Nat) (j : PJob) (hd : ∀ x ∈ j, 0 ≤ x.dur) :
    prefixBefore μ j.proj + suffixAfter μ j.proj ≤ sumDur j.proj := by
  induction j with
  | nil => exact Int.le_refl 0
  | cons y rest ih =>
    have h1 := ih fun z hz => hd z (List.mem_cons_of_mem _ hz)
    have h2 := hd y List.mem_cons_self
    rw [prefixBefore_proj_cons, suffixAfter_proj_cons, sumDur_proj_cons]
    split <;> omega

def sumDurP (l : List POp) : Int := (l.map POp.dur).sum

theorem sumDurP_cons (x : POp) (l : List POp) : sumDurP (x :: l) = x.dur + sumDurP l := by simp [sumDurP]

theorem sumDurP_filter (p : POp → Bool) : ∀ (l : List POp),
    sumDurP l = sumDurP (l.filter p) + sumDurP (l.filter (fun x => !p x))
  | [] => by simp [sumDurP]
  | x :: l => by
    have ih := sumDurP_filter p l
    by_cases hp : p x = true
    · simp only [List.filter_cons, hp, if_true, sumDurP_cons, Bool.not_true, Bool.false_eq_true, if_false]; omega
    · have hp' : p x = false := by simpa using hp
      simp only [List.filter_cons, hp', Bool.false_eq_true, if_false, Bool.not_false, if_true, sumDurP_cons]; omega

/-- pairwise disjoint intervals inside `[b, E]` have total length at most `E - b`: the first one splits
the others into those that end before it starts and those that start after it ends -/
theorem packing : ∀ (n : Nat) (l : List POp) (b E : Int), l.length ≤ n → l.Pairwise disjointOps →
    (∀ x ∈ l, 0 ≤ x.dur) → (∀ x ∈ l, b ≤ x.start) → (∀ x ∈ l, x.stop ≤ E) → b ≤ E → sumDurP l ≤ E - b
  | _, [], b, E, _, _, _, _, _, hbE => Int.sub_nonneg_of_le hbE
  | 0, x :: l, _, _, hn, _, _, _, _, _ => absurd hn (Nat.not_succ_le_zero _)
  | n + 1, x :: l, b, E, hn, hp, hd, hs, he, hbE => by
    obtain ⟨hx, hpl⟩ := List.pairwise_cons.mp hp
    have hlen : l.length ≤ n := Nat.le_of_succ_le_succ hn
    have hxs := hs x List.mem_cons_self
    have hxe := he x List.mem_cons_self
    have hxd := hd x List.mem_cons_self
    have hsub : ∀ {q : POp → Bool} {y}, y ∈ l.filter q → y ∈ x :: l := fun hy =>
      List.mem_cons_of_mem _ (List.mem_filter.mp hy).1
    have hL := packing n (l.filter fun y => decide (y.stop ≤ x.start)) b x.start
      (Nat.le_trans (List.length_filter_le _ _) hlen) (hpl.sublist List.filter_sublist)
      (fun y hy => hd y (hsub hy)) (fun y hy => hs y (hsub hy))
      (fun y hy => of_decide_eq_true (List.mem_filter.mp hy).2) hxs
    have hR := packing n (l.filter fun y => !decide (y.stop ≤ x.start)) x.stop E
      (Nat.le_trans (List.length_filter_le _ _) hlen) (hpl.sublist List.filter_sublist)
      (fun y hy => hd y (hsub hy))
      (fun y hy => by
        have hm := List.mem_filter.mp hy
        have hnot : ¬ y.stop ≤ x.start := of_decide_eq_false (Bool.not_eq_true' _ ▸ hm.2)
        exact (hx y hm.1).resolve_right hnot)
      (fun y hy => he y (hsub hy)) hxe
    have hsplit := sumDurP_filter (fun y => decide (y.stop ≤ x.start)) l
    rw [sumDurP_cons]
    rw [POp.stop_eq] at hR
    omega

theorem minOfList_le {l : List Int} {b : Int} (h : minOfList l = some b) : ∀ y ∈ l, b ≤ y := by
  cases l with
  | nil => cases h
  | cons x xs =>
    obtain rfl := Option.some.inj h
    intro y hy
    rcases List.mem_cons.mp hy with rfl | hy
    · exact foldl_min_le xs y
    · exact foldl_min_le_mem xs x y hy

theorem maxOfList_mem {l : List Int} {m : Int} (h : maxOfList l = some m) : m ∈ l := by
  cases l with
  | nil => simp [maxOfList] at h
  | cons x xs =>
    simp [maxOfList] at h; subst h
    rcases foldl_max_mem xs x with e | e
    · rw [e]; simp
    · simp [e]

theorem option_mapM_mem {α β} {f : α → Option β} : ∀ {l : List α} {r : List β}, l.mapM f = some r →
    ∀ y ∈ r, ∃ x ∈ l, f x = some y
  | [], r, h => by
    obtain rfl : [] = r := Option.some.inj h
    exact fun _ hy => nomatch hy
  | a :: as, r, h => by
    rw [List.mapM_cons] at h
    obtain ⟨b, ha, h⟩ := Option.bind_eq_some_iff.mp h
    obtain ⟨bs, has, h⟩ := Option.bind_eq_some_iff.mp h
    obtain rfl : b :: bs = r := Option.some.inj h
    intro y hy
    rcases List.mem_cons.mp hy with rfl | hy
    · exact ⟨a, List.mem_cons_self, ha⟩
    · obtain ⟨x, hx, e⟩ := option_mapM_mem has y hy
      exact ⟨x, List.mem_cons_of_mem _ hx, e⟩

theorem tOf_job (μ : Nat) (j : PJob) :
    ((j.proj.filter (·.1 = μ)).map (·.2)).sum = sumDurP (j.filter fun x => decide (x.mach = μ)) := by
  unfold PJob.proj sumDurP
  rw [List.filter_map, List.map_map]
  rfl

theorem tOf_plan (μ : Nat) : ∀ (p : Plan),
    tOf p.proj μ = sumDurP ((p.flatMap id).filter (fun x => decide (x.mach = μ)))
  | [] => rfl
  | j :: p => by
    have ih : tOf (Plan.proj p) μ = _ := tOf_plan μ p
    unfold tOf Plan.proj at ih ⊢
    rw [List.map_cons, List.map_cons, List.sum_cons, ih, tOf_job, List.flatMap_cons, List.filter_append]
    exact (congrArg List.sum List.map_append).trans List.sum_append |>.symm

theorem bOf_le {p : Plan} {μ : Nat} {b : Int} (hb : bOf p.proj μ = some b) {j : PJob} (hj : j ∈ p) :
    b ≤ prefixBefore μ j.proj :=
  minOfList_le hb _ (List.mem_map_of_mem (List.mem_map_of_mem hj))

theorem aOf_le {p : Plan} {μ : Nat} {a : Int} (ha : aOf p.proj μ = some a) {j : PJob} (hj : j ∈ p) :
    a ≤ suffixAfter μ j.proj :=
  minOfList_le ha _ (List.mem_map_of_mem (List.mem_map_of_mem hj))

theorem job_total_le {p : Plan} {C : Int} (hf : FeasiblePlan p C) {j : PJob} (hj : j ∈ p) (hne : j ≠ []) :
    sumDur j.proj ≤ C := by
  cases j with
  | nil => exact absurd rfl hne
  | cons x xs =>
    have hc := hf.chain _ hj
    have h1 := chain_total xs x.stop C hc.2 (fun z hz => hf.bound _ hj z (List.mem_cons_of_mem _ hz))
      (hf.bound _ hj x List.mem_cons_self)
    have h2 := hc.1
    rw [POp.stop_eq] at h1
    rw [sumDur_proj_cons]
    omega

/-- **Machine bound.**  Every operation on `μ` lies in the window from the head `b` to `C` minus the
tail `a`, and these operations are pairwise disjoint. -/
theorem machine_bound {p : Plan} {C : Int} (hf : FeasiblePlan p C) (hd : ∀ j ∈ p, ∀ x ∈ j, 0 ≤ x.dur)
    (hnd : ∀ j ∈ p, (j.map POp.mach).Nodup) (hne : ∀ j ∈ p, j ≠ []) (μ : Nat) {b a : Int}
    (hb : bOf p.proj μ = some b) (ha : aOf p.proj μ = some a) : b + tOf p.proj μ + a ≤ C := by
  -- the window is not empty: any job fits between head and tail
  have hbE : b ≤ C - a := by
    cases p with
    | nil => cases hb
    | cons j0 rest =>
      have hj0 : j0 ∈ j0 :: rest := List.mem_cons_self
      have h1 := bOf_le hb hj0
      have h2 := aOf_le ha hj0
      have h3 := prefix_suffix_le μ j0 (hd j0 hj0)
      have h4 := job_total_le hf hj0 (hne j0 hj0)
      omega
  have hwin : ∀ x ∈ (p.flatMap id).filter (fun x => decide (x.mach = μ)),
      0 ≤ x.dur ∧ b ≤ x.start ∧ x.stop ≤ C - a := by
    intro x hx
    obtain ⟨hx1, hx2⟩ := List.mem_filter.mp hx
    obtain ⟨j, hj, hxj⟩ := List.mem_flatMap.mp hx1
    have hm : x.mach = μ := of_decide_eq_true hx2
    have h1 := chain_prefix μ j 0 (hf.chain j hj) (hd j hj) x hxj hm
    have h2 := chain_suffix μ j 0 C (hf.chain j hj) (hf.bound j hj) (hnd j hj) x hxj hm
    have h3 := bOf_le hb hj
    have h4 := aOf_le ha hj
    exact ⟨hd j hj x hxj, by omega, by omega⟩
  have hdis : ((p.flatMap id).filter (fun x => decide (x.mach = μ))).Pairwise disjointOps :=
    (hf.excl.filter _).imp_of_mem fun hx hy hxy =>
      hxy ((of_decide_eq_true (List.mem_filter.mp hx).2).trans (of_decide_eq_true (List.mem_filter.mp hy).2).symm)
  have := packing _ _ b (C - a) (Nat.le_refl _) hdis (fun x hx => (hwin x hx).1) (fun x hx => (hwin x hx).2.1)
    (fun x hx => (hwin x hx).2.2) hbE
  rw [tOf_plan]
  omega

theorem job_bound {p : Plan} {C : Int} (hf : FeasiblePlan p C) (hne : ∀ j ∈ p, j ≠ []) {mj : Int}
    (h : maxJobDuration p.proj = some mj) : mj ≤ C := by
  obtain ⟨s, hs, rfl⟩ := List.mem_map.mp (maxOfList_mem h)
  obtain ⟨j, hj, rfl⟩ := List.mem_map.mp hs
  exact job_total_le hf hj (hne j hj)

theorem lowerBound_spec {s : Sched} {L : Int} (h : lowerBound s = some L) :
    (∀ j ∈ s, j.length = nmOf s) ∧
    ∃ per mm mj, (List.range (nmOf s)).mapM (fun m => (bOf s m).bind fun b => (aOf s m).bind fun a => some (b + tOf s m + a)) = some per ∧
      maxOfList per = some mm ∧ maxJobDuration s = some mj ∧ L = max mm mj := by
  unfold lowerBound at h
  dsimp only at h
  split at h
  · cases h
  · rename_i h1
    split at h
    · cases h
    · obtain ⟨per, hper, h⟩ := Option.bind_eq_some_iff.mp h
      obtain ⟨mm, hmm, h⟩ := Option.bind_eq_some_iff.mp h
      obtain ⟨mj, hmj, h⟩ := Option.bind_eq_some_iff.mp h
      refine ⟨fun j hj => ?_, per, mm, mj, hper, hmm, hmj, (Option.some.inj h).symm⟩
      -- the first guard did not fire
      apply Classical.byContradiction
      intro hne
      exact h1 (List.any_eq_true.mpr ⟨j, hj, bne_iff_ne.mpr hne⟩)


end JSL
