import JSL.Inv.ShiftTransport

/-!
# Translation of simulated time: the timed transitions do not see the shift
-/

namespace JSL
variable (δ : Int) {inst : Instance}

theorem dueAt_shift (occ : Option Int) (now : Int) : dueAt (occ.map (· + δ)) (now + δ) = dueAt occ now := by
  cases occ with
  | none => rfl
  | some o =>
    simp only [dueAt, Option.map_some]
    by_cases h : o ≤ now
    · have : o + δ ≤ now + δ := by omega
      simp [h, this]
    · have : ¬ o + δ ≤ now + δ := by omega
      simp [h, this]

theorem timedMachine_shift (now : Int) (m : MachineState) :
    timedMachine inst (now + δ) (shiftMachine δ m) = timedMachine inst now m := by
  unfold timedMachine
  simp only [shiftMachine_occ, dueAt_shift, shiftMachine_st, shiftMachine_buffer, shiftMachine_id]
  rfl

theorem timedMachineTransitions_shift (s : State) :
    timedMachineTransitions inst (shiftState δ s) = timedMachineTransitions inst s := by
  unfold timedMachineTransitions
  simp only [shiftState_machines, shiftState_time]
  rw [mapM_map_inv (shiftMachine δ) _ _ (timedMachine_shift δ s.time)]

theorem timeDependencyResolved_shift (s : State) (t : TransportState) (buf blocking : Nat) :
    timeDependencyResolved inst (shiftState δ s) (shiftTransport δ t) buf blocking =
      timeDependencyResolved inst s t buf blocking := by
  unfold timeDependencyResolved
  have e : (shiftState δ s).machines.map (·.post) = s.machines.map (·.post) := by
    simp only [shiftState_machines, List.map_map]; rfl
  rw [e]
  simp only [shiftTransport_job, shiftState_transports]
  rw [any_map_inv (shiftTransport δ) _ (fun _ => rfl)]
  rfl

theorem agvIdleToPick_shift (s : State) (t : TransportState) :
    agvIdleToPickTransition inst (shiftState δ s) (shiftTransport δ t) = agvIdleToPickTransition inst s t := by
  unfold agvIdleToPickTransition
  refine bind_congr fun jid => bind_map_congr (getJob_shift δ s.jobs jid) fun j => ?_
  rw [readyForPickup_shift]
  rfl

theorem timedTransport_shift (s : State) (t : TransportState) :
    timedTransport inst (shiftState δ s) (shiftTransport δ t) = timedTransport inst s t := by
  unfold timedTransport
  simp only [shiftTransport_occ]
  cases h : t.occ with
  | none => rfl
  | dep buf blocking tr =>
    simp only [shiftOcc, timeDependencyResolved_shift]
  | «at» o =>
    simp only [shiftOcc, shiftState_time, shiftTransport_st, shiftTransport_id, shiftTransport_buffer,
      agvIdleToPick_shift, shiftState_jobs, getJob_shift]
    by_cases hle : o ≤ s.time
    · have : o + δ ≤ s.time + δ := by omega
      simp only [hle, this, if_true]
      cases agvTimedCreator t.st with
      | pickupToDrop =>
        simp only
        split
        · exact bind_map_congr rfl fun js => rfl
        · rfl
      | _ => rfl
    · have : ¬ o + δ ≤ s.time + δ := by omega
      simp only [hle, this, if_false]

theorem timedTransportTransitions_shift (s : State) :
    timedTransportTransitions inst (shiftState δ s) = timedTransportTransitions inst s := by
  unfold timedTransportTransitions
  simp only [shiftState_transports]
  rw [mapM_map_inv (shiftTransport δ) _ _ (timedTransport_shift δ s)]

theorem timedTransitions_shift (s : State) :
    timedTransitions inst (shiftState δ s) = timedTransitions inst s := by
  unfold timedTransitions
  rw [timedMachineTransitions_shift, timedTransportTransitions_shift]
end JSL
