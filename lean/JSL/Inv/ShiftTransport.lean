import JSL.Inv.ShiftMachine

/-!
# Translation of simulated time: waiting times, the AGV handlers and `applyTransition`
-/

namespace JSL
variable (δ : Int) {inst : Instance}

theorem map_replaceTransport_shift (s : State) (t : TransportState) (r : Rng) :
    (pure (s.replaceTransport t, r) : Except Err (State × Rng)).map (fun p => (shiftState δ p.1, p.2)) =
      pure ((shiftState δ s).replaceTransport (shiftTransport δ t), r) :=
  congrArg (fun x => Except.ok (x, r)) (replaceTransport_shift δ s t).symm

theorem waitBehind_shift (s : State) (tr : Transition) (j : JobState) (ms : MachineState) (bc : BufCfg) :
    waitBehind inst (shiftState δ s) tr (shiftJob δ j) (shiftMachine δ ms) bc =
      (waitBehind inst s tr j ms bc).map (shiftOcc δ) := by
  unfold waitBehind
  refine bind_peel _ _ _ _ fun nxt => bind_map_peel (getJob_shift δ s.jobs nxt) fun nj => ?_
  rw [jobDone_shift, transportByJob_shift]
  refine ite_peel rfl ?_
  cases transportByJob s nxt <;> rfl

theorem waitProcessing_shift (j : JobState) :
    waitProcessing (shiftJob δ j) = (waitProcessing j).map (shiftOcc δ) := by
  unfold waitProcessing
  rw [shiftJob_processingOpt]
  cases j.processing? with
  | none => rfl
  | some op => cases h : op.stop <;> simp [shiftOcc, h]

theorem getWaitingTime_shift (s : State) (tr : Transition) :
    getWaitingTime inst (shiftState δ s) tr = (getWaitingTime inst s tr).map (shiftOcc δ) := by
  unfold getWaitingTime
  refine bind_map_peel (getJobOpt_shift δ s.jobs tr.job) fun j => bind_peel _ _ _ _ fun bc => ?_
  rcases bc.parent with _ | (mid | n | n)
  · rfl
  · refine bind_map_peel (getMachine_shift δ s.machines mid) fun ms => ite_peel ?_ (waitProcessing_shift δ j)
    rw [readyForPickup_shift]
    exact bind_peel _ _ _ _ fun b => ite_peel rfl (waitBehind_shift δ s tr j ms bc)
  · rfl
  · rfl

theorem pickupToWaiting_shift (s : State) (r : Rng) (tr : Transition) (t : TransportState) :
    handleAgvPickupToWaiting inst (shiftState δ s) r tr (shiftTransport δ t) =
      (handleAgvPickupToWaiting inst s r tr t).map (fun p => (shiftState δ p.1, p.2)) := by
  unfold handleAgvPickupToWaiting
  exact ite_peel rfl (bind_map_peel (getWaitingTime_shift δ s tr) fun occ =>
    Eq.symm (map_replaceTransport_shift δ s _ r))

theorem waitingToWaiting_shift (s : State) (r : Rng) (tr : Transition) (t : TransportState) :
    handleAgvWaitingToWaiting inst (shiftState δ s) r tr (shiftTransport δ t) =
      (handleAgvWaitingToWaiting inst s r tr t).map (fun p => (shiftState δ p.1, p.2)) := by
  unfold handleAgvWaitingToWaiting
  exact bind_map_peel (getWaitingTime_shift δ s tr) fun occ => Eq.symm (map_replaceTransport_shift δ s _ r)

theorem dropLoc_shift (j : JobState) (pick : JobState → Except Err OpState)
    (hp : pick (shiftJob δ j) = (pick j).map (shiftOp δ)) :
    dropLoc inst (shiftJob δ j) pick = dropLoc inst j pick := by
  unfold dropLoc
  rw [shiftJob_noOpIdle, hp]
  split
  · rfl
  · cases pick j <;> rfl

theorem pickupToTransit_shift (orc : Oracle) (s : State) (r : Rng) (tr : Transition) (t : TransportState) :
    handleAgvPickupToTransit orc inst (shiftState δ s) r tr (shiftTransport δ t) =
      (handleAgvPickupToTransit orc inst s r tr t).map (fun p => (shiftState δ p.1, p.2)) := by
  unfold handleAgvPickupToTransit
  cases tr.job with
  | none => rfl
  | some jid =>
    refine bind_peel _ _ _ _ fun jid => bind_map_peel (getJob_shift δ s.jobs jid) fun j => ?_
    rw [dropLoc_shift δ j _ (shiftJob_nextNotDone δ j)]
    refine bind_peel _ _ _ _ fun dst => bind_peel _ _ _ _ fun q => ?_
    rw [shiftJob_loc]
    cases machineIdOfBuffer inst.machines j.loc with
    | none =>
      refine bind_peel _ _ _ _ fun fb => bind_map_peel (switchBuffer_shift δ inst fb t.buffer j) fun q => ?_
      simp only [except_pure, except_bind_ok, replaceBuffer_shift, shiftState_time, replaceJob_shift,
        Int.add_right_comm _ δ _]
      exact Eq.symm (map_replaceTransport_shift δ _ _ _)
    | some mid =>
      refine bind_map_peel (getMachine_shift δ s.machines mid) fun ms => bind_peel _ _ _ _ fun bs =>
        bind_map_peel (switchBuffer_shift δ inst bs t.buffer j) fun q =>
        bind_map_peel (replaceBufInMachine_shift δ ms q.1) fun ms2 => ?_
      simp only [except_pure, except_bind_ok, replaceMachine_shift, shiftState_time, replaceJob_shift,
        Int.add_right_comm _ δ _]
      exact Eq.symm (map_replaceTransport_shift δ _ _ _)

theorem idleToWorking_shift (orc : Oracle) (s : State) (r : Rng) (tr : Transition) (t : TransportState) :
    handleAgvIdleToWorking orc inst (shiftState δ s) r tr (shiftTransport δ t) =
      (handleAgvIdleToWorking orc inst s r tr t).map (fun p => (shiftState δ p.1, p.2)) := by
  unfold handleAgvIdleToWorking
  cases tr.job with
  | none => rfl
  | some jid =>
    rw [shiftTransport_loc]
    cases t.loc with
    | route a b c => rfl
    | «at» cur =>
      refine bind_peel _ _ _ _ fun jid => bind_peel _ _ _ _ fun cur =>
        bind_map_peel (getJob_shift δ s.jobs jid) fun j => ?_
      rw [dropLoc_shift δ j _ (shiftJob_nextIdleE δ j)]
      refine bind_peel _ _ _ _ fun target => bind_peel _ _ _ _ fun bc => bind_peel _ _ _ _ fun src =>
        bind_peel _ _ _ _ fun ttp => ?_
      simp only [shiftState_time, Int.add_right_comm _ δ _]
      exact Eq.symm (map_replaceTransport_shift δ s _ r)

theorem transitToOutage_shift (hno : NoOutages inst) (orc : Oracle) (s : State) (r : Rng) (tr : Transition)
    (t : TransportState) :
    handleAgvTransitToOutage orc inst (shiftState δ s) r tr (shiftTransport δ t) =
      (handleAgvTransitToOutage orc inst s r tr t).map (fun p => (shiftState δ p.1, p.2)) := by
  unfold handleAgvTransitToOutage
  cases tr.job with
  | none => rfl
  | some jid =>
    refine bind_peel _ _ _ _ fun jid => bind_map_peel (getJob_shift δ s.jobs jid) fun j => ?_
    rw [shiftTransport_loc]
    cases t.loc with
    | «at» l => rfl
    | route a b drop =>
      refine bind_peel _ _ _ _ fun drop => bind_map_peel (getCompByLoc_shift δ s drop) fun target =>
        bind_map_peel (completeTransportTask_shift δ hno orc s.time r j t drop target) fun q => ?_
      obtain ⟨j1, t1, tg, r1⟩ := q
      cases tg with
      | machine m => simp only [shiftTarget, replaceJob_shift, replaceTransport_shift, replaceMachine_shift]; rfl
      | buffer b => simp only [shiftTarget, replaceJob_shift, replaceTransport_shift, replaceBuffer_shift]; rfl

theorem agvOutageToIdle_shift (s : State) (r : Rng) (t : TransportState) :
    handleAgvOutageToIdle (shiftState δ s) r (shiftTransport δ t) =
      (handleAgvOutageToIdle s r t).map (fun p => (shiftState δ p.1, p.2)) := by
  exact Eq.symm (map_replaceTransport_shift δ s _ r)

theorem transportTransition_shift (hno : NoOutages inst) (orc : Oracle) (s : State) (r : Rng) (tr : Transition)
    (tid : Nat) :
    handleTransportTransition orc inst (shiftState δ s) r tr tid =
      (handleTransportTransition orc inst s r tr tid).map (fun p => (shiftState δ p.1, p.2)) := by
  unfold handleTransportTransition
  refine bind_map_peel (getTransport_shift δ s.transports tid) fun t => bind_peel _ _ _ _ fun tc =>
    ite_peel rfl (bind_peel _ _ _ _ fun h => ?_)
  cases h with
  | idleToWorking => exact idleToWorking_shift δ orc s r tr t
  | pickupToWaitingpickup => exact pickupToWaiting_shift δ s r tr t
  | pickupToTransit => exact pickupToTransit_shift δ orc s r tr t
  | transitToOutage => exact transitToOutage_shift δ hno orc s r tr t
  | outageToIdle => exact agvOutageToIdle_shift δ s r t
  | waitingPickupToWaitingPickup => exact waitingToWaiting_shift δ s r tr t

theorem applyTransition_shift (hno : NoOutages inst) (orc : Oracle) (s : State) (r : Rng) (tr : Transition) :
    applyTransition orc inst (shiftState δ s) r tr =
      (applyTransition orc inst s r tr).map (fun p => (shiftState δ p.1, p.2)) := by
  unfold applyTransition
  cases tr.comp with
  | m mid =>
    exact bind_map_peel (getMachine_shift δ s.machines mid) fun _ => machineTransition_shift δ hno orc s r tr mid
  | t tid =>
    exact bind_map_peel (getTransport_shift δ s.transports tid) fun _ => transportTransition_shift δ hno orc s r tr tid
  | b bid => exact bind_peel _ _ _ _ fun _ => rfl
end JSL
