import JSL.Inv.ShiftClock

/-!
# Translation of simulated time: `processTransitions`, teleport filter, `lastDoneEnd`, `timedLoop`
-/

namespace JSL
variable (δ : Int) {inst : Instance}

def shiftProcOut (δ : Int) (o : ProcOut) : ProcOut :=
  { o with state := shiftState δ o.state, micro := o.micro.map (shiftState δ) }

def shiftLoopOut (δ : Int) (o : LoopOut) : LoopOut :=
  { o with state := shiftState δ o.state, subs := o.subs.map (shiftState δ), micro := o.micro.map (shiftState δ) }

theorem processTransitions_shift (hno : NoOutages inst) (orc : Oracle) : ∀ (trs : List Transition) (s : State) (r : Rng),
    processTransitions orc inst trs (shiftState δ s) r =
      (processTransitions orc inst trs s r).map (shiftProcOut δ)
  | [], _, _ => rfl
  | tr :: trs, s, r => by
    unfold processTransitions
    rw [transitionValid_shift]
    refine bind_peel _ _ _ _ fun v => ite_peel ?_ ?_
    · refine bind_map_peel (applyTransition_shift δ hno orc s r tr) fun q => ?_
      exact bind_map_peel (processTransitions_shift hno orc trs q.1 q.2) fun o => rfl
    · exact bind_map_peel (processTransitions_shift hno orc trs s r) fun o => rfl

theorem travelTimeForTransport_shift (orc : Oracle) (r : Rng) (s : State) (jid : Option Nat) :
    travelTimeForTransport orc inst r (shiftState δ s) jid = travelTimeForTransport orc inst r s jid := by
  unfold travelTimeForTransport
  refine bind_map_congr (getJobOpt_shift δ s.jobs jid) fun j => bind_congr fun bc => ?_
  rw [shiftJob_noOpIdle, shiftJob_nextIdleOpt]
  cases j.nextIdle? <;> rfl

theorem filterTeleport_shift (orc : Oracle) (r : Rng) (s : State) (poss : List Transition) :
    filterTeleport orc inst r (shiftState δ s) poss = filterTeleport orc inst r s poss := by
  unfold filterTeleport
  simp only [travelTimeForTransport_shift]

theorem lastDoneEnd_shift (s : State) :
    lastDoneEnd (shiftState δ s) = (lastDoneEnd s).map (Option.map (· + δ)) := by
  unfold lastDoneEnd
  rw [allOps_shift, filter_map_inv (shiftOp δ) (fun o => o.st == .done) (fun _ => rfl),
    mapM_map_equiv_self (shiftOp δ) (· + δ)]
  · refine bind_map_peel rfl fun ends => ?_
    cases ends with
    | nil => rfl
    | cons e es => simp only [List.map_cons, foldl_max_add, except_pure, except_map'_ok, Option.map_some]
  · intro o
    simp only [shiftOp_stop]
    cases o.stop <;> rfl

theorem timedLoop_shift (hno : NoOutages inst) (orc : Oracle) (cfg : SMConfig) : ∀ (fuel : Nat) (tt : List Transition)
    (s : State) (r : Rng) (subs mic : List State),
    timedLoop orc inst cfg fuel tt (shiftState δ s) r (subs.map (shiftState δ)) (mic.map (shiftState δ)) =
      (timedLoop orc inst cfg fuel tt s r subs mic).map (shiftLoopOut δ)
  | 0, [], _, _, _, _ => rfl
  | _ + 1, [], _, _, _, _ => rfl
  | 0, _ :: _, _, _, _, _ => rfl
  | fuel + 1, t :: ts, s, r, subs, mic => by
    unfold timedLoop
    refine bind_map_peel (processTransitions_shift δ hno orc (t :: ts) s r) fun o => ite_peel ?_ ?_
    · exact congrArg (fun l => Except.ok (⟨shiftState δ o.state, o.rng, subs.map (shiftState δ), true, l⟩ : LoopOut))
        (List.map_append ..).symm
    · refine bind_map_peel (jumpToEvent_shift δ cfg o.state) fun tm => ?_
      dsimp only
      have e : ({ (shiftProcOut δ o).state with time := tm + δ } : State) = shiftState δ { o.state with time := tm } :=
        rfl
      rw [e, timedTransitions_shift]
      refine bind_peel _ _ _ _ fun tt2 => ?_
      have := timedLoop_shift hno orc cfg fuel tt2 { o.state with time := tm } o.rng
        (subs ++ [{ o.state with time := tm }]) (mic ++ o.micro)
      rw [List.map_append, List.map_append] at this
      exact this
end JSL
