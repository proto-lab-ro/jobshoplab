import JSL.Inv.ShiftTimed

/-!
# Translation of simulated time: the offers do not see the shift
-/

namespace JSL
variable (δ : Int) {inst : Instance}

theorem jobAtMachine_shift (j : JobState) (m : MachineState) :
    jobAtMachine (shiftJob δ j) (shiftMachine δ m) = jobAtMachine j m := by
  unfold jobAtMachine
  rw [shiftJob_nextNotDone]
  cases j.nextNotDone <;> rfl

theorem actionPossible_shift (s : State) (j : JobState) :
    actionPossible inst (shiftState δ s) (shiftJob δ j) = actionPossible inst s j := by
  unfold actionPossible
  rw [shiftJob_nextOpFree]
  refine ite_congr rfl (fun _ => rfl) fun _ => ?_
  cases inst.transports with
  | nil => rfl
  | cons t0 _ =>
    refine bind_congr fun t0 => ite_congr rfl (fun _ => rfl) fun _ => ?_
    refine bind_map_congr (shiftJob_nextNotDone δ j) fun op =>
      bind_map_congr (getMachine_shift δ s.machines op.machine) fun m => ?_
    rw [jobAtMachine_shift]
    rfl

theorem filterMap_id_map {α} (f : α → α) (l : List (Option α)) :
    (l.map (Option.map f)).filterMap id = (l.filterMap id).map f := by
  induction l with
  | nil => rfl
  | cons a as ih =>
    cases a with
    | none => simpa using ih
    | some a => simpa using ih

theorem possibleTransports_shift (s : State) :
    possibleTransports inst (shiftState δ s) = (possibleTransports inst s).map (List.map (shiftTransport δ)) := by
  unfold possibleTransports
  refine bind_map_peel
    (mapM_map_equiv (shiftTransport δ) (Option.map (shiftTransport δ)) _ _ (fun t => ?_) s.transports) fun l => ?_
  · exact bind_peel _ _ _ _ fun tc => congrArg pure (ite_push (Option.map (shiftTransport δ)) _ (some t) none)
  · simp only [except_pure, except_map'_ok, filterMap_id_map]

theorem transportable_shift (s : State) (j : JobState) :
    transportable inst (shiftState δ s) (shiftJob δ j) = transportable inst s j := by
  unfold transportable
  rw [jobDone_shift, shiftJob_allDone, shiftJob_nextIdleOpt]
  refine ite_congr rfl (fun _ => rfl) fun _ => ite_congr rfl (fun _ => rfl) fun _ => ?_
  cases j.nextIdle? with
  | none => rfl
  | some op =>
    refine bind_map_congr (k := shiftOp δ) rfl fun op =>
      bind_map_congr (getMachine_shift δ s.machines op.machine) fun m => ?_
    rw [jobAtMachine_shift]

theorem earlyFilter_shift (cfg : SMConfig) (s : State) (l : List JobState) :
    earlyFilter inst cfg (shiftState δ s) (l.map (shiftJob δ)) =
      (earlyFilter inst cfg s l).map (List.map (shiftJob δ)) := by
  unfold earlyFilter
  split
  · rfl
  · exact filterE_map (shiftJob δ) _ _ (fun j => readyForPickup_shift δ inst s j) l

theorem possibleTransportTransitions_shift (cfg : SMConfig) (s : State) :
    possibleTransportTransitions inst cfg (shiftState δ s) = possibleTransportTransitions inst cfg s := by
  unfold possibleTransportTransitions
  refine bind_map_congr (possibleTransports_shift δ s) fun ts => ?_
  simp only [shiftState_jobs, shiftState_transports]
  rw [filter_map_inv (shiftJob δ) (fun j => !j.running) (fun j => by simp only [shiftJob_running]),
    filter_map_inv (shiftJob δ) (fun j => j.running) (fun j => by simp only [shiftJob_running])]
  refine bind_map_congr (filterE_map (shiftJob δ) _ _ (fun j => transportable_shift δ s j) _) fun idle => ?_
  have e : (s.transports.map (shiftTransport δ)).filterMap (·.job) = s.transports.filterMap (·.job) := by
    rw [List.filterMap_map]; rfl
  rw [e, ← List.map_append,
    filter_map_inv (shiftJob δ) (fun j => !(s.transports.filterMap (·.job)).contains j.id) (fun j => rfl)]
  refine bind_map_congr (earlyFilter_shift δ cfg s _) fun lonely => ?_
  simp only [except_pure, List.flatMap_map, List.map_map]
  rfl

theorem possibleJobs_shift (s : State) :
    possibleJobs inst (shiftState δ s) = (possibleJobs inst s).map (List.map (shiftJob δ)) := by
  unfold possibleJobs
  exact filterE_map (shiftJob δ) _ _ (fun j => actionPossible_shift δ s j) s.jobs

theorem possibleTransitions_shift (cfg : SMConfig) (s : State) :
    possibleTransitions inst cfg (shiftState δ s) = possibleTransitions inst cfg s := by
  unfold possibleTransitions
  refine bind_map_congr (possibleJobs_shift δ s) fun pj => ?_
  rw [possibleTransportTransitions_shift]
  refine bind_congr fun pt => ?_
  rw [mapM_map_inv (shiftJob δ)]
  intro j
  rw [shiftJob_nextIdleOpt]
  cases j.nextIdle? <;> rfl

theorem numPossibleEvents_shift (cfg : SMConfig) (s : State) :
    numPossibleEvents inst cfg (shiftState δ s) = numPossibleEvents inst cfg s := by
  unfold numPossibleEvents
  rw [possibleTransportTransitions_shift]
  refine bind_congr fun pt => bind_map_congr (possibleJobs_shift δ s) fun pj => ?_
  rw [List.length_map]
end JSL
