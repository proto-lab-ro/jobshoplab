import JSL.Inv.ClassicDefs

/-!
# Which handler a successful transition ran

`applyTransition` looks the component up, picks the handler from the generated dictionaries and
runs it.  For a transition that addresses a known component in a known state, `apply_mach` and
`apply_agv` turn a successful application into the run of that handler (the `match` on the dictionary
entry reduces once both states are constructors) – so that the closed forms of `Spec.lean` /
`SpecAgv.lean` apply.
-/

namespace JSL

variable {orc : Oracle} {inst : Instance}

theorem mem_pickupPlaces {l : Nat} : l ∈ pickupPlaces inst ↔
    (∃ b ∈ inst.buffers, (b.role != .output) = true ∧ b.id = l) ∨ ∃ mc ∈ inst.machines, mc.post.id = l := by
  simp only [pickupPlaces, List.mem_append, List.mem_map, List.mem_filter, and_assoc]

theorem apply_mach (w : WF inst) {s : State} (hs : Shape inst s) {m : MachineState} (hm : m ∈ s.machines)
    {st : MSt} (hst : m.st = st) {r : Rng} {ns : MSt} {job : Option Nat} {o : State × Rng}
    (h : applyTransition orc inst s r ⟨.m m.id, .m ns, job⟩ = .ok o) :
    (match machineHandler st ns with
      | some .idleToSetup => handleMachineIdleToSetup orc inst s r ⟨.m m.id, .m ns, job⟩ m
      | some .setupToWorking => handleMachineSetupToWorking orc inst s r ⟨.m m.id, .m ns, job⟩ m
      | some .workingToOutage => handleMachineWorkingToOutage orc inst s r ⟨.m m.id, .m ns, job⟩ m
      | some .outageToIdle => handleMachineOutageToIdle inst s r m
      | none => .error .notImplemented) = .ok o := by
  subst hst
  rw [applyTransition_on_machine (getMachine_of_mem (hs.machNodup w) hm)] at h
  exact h

theorem apply_agv (w : WF inst) {s : State} (hs : Shape inst s) {t : TransportState} (ht : t ∈ s.transports)
    {st : TSt} (hst : t.st = st) {r : Rng} {ns : TSt} {job : Option Nat} {o : State × Rng}
    (h : applyTransition orc inst s r ⟨.t t.id, .t ns, job⟩ = .ok o) :
    (match agvHandler st ns with
      | some .idleToWorking => handleAgvIdleToWorking orc inst s r ⟨.t t.id, .t ns, job⟩ t
      | some .pickupToWaitingpickup => handleAgvPickupToWaiting inst s r ⟨.t t.id, .t ns, job⟩ t
      | some .pickupToTransit => handleAgvPickupToTransit orc inst s r ⟨.t t.id, .t ns, job⟩ t
      | some .transitToOutage => handleAgvTransitToOutage orc inst s r ⟨.t t.id, .t ns, job⟩ t
      | some .outageToIdle => handleAgvOutageToIdle s r t
      | some .waitingPickupToWaitingPickup => handleAgvWaitingToWaiting inst s r ⟨.t t.id, .t ns, job⟩ t
      | none => .error .notImplemented) = .ok o := by
  subst hst
  cases applyTransition_ran h with
  | m m hc => cases hc
  | t t' hc ht' hd ns' hn hh run =>
    obtain rfl : t' = t :=
      eq_of_mem_of_key_eq (key := fun (y : TransportState) => y.id) (hs.trNodup w) ht' ht (Comp.t.inj hc).symm
    cases hn
    rw [hh]
    cases hd <;> exact run

theorem apply_start {s s' : State} {r r' : Rng} {tr : Transition} (hn : tr.new = .m .setup)
    (h : applyTransition orc inst s r tr = .ok (s', r')) :
    ∃ m ∈ s.machines, m.st = .idle ∧ handleMachineIdleToSetup orc inst s r tr m = .ok (s', r') := by
  cases applyTransition_cases h with
  | idleToSetup m hm _ hst _ run => exact ⟨m, hm, hst, run⟩
  | setupToWorking _ _ _ _ hn' => rw [hn] at hn'; cases hn'
  | workingToOutage _ _ _ _ hn' => rw [hn] at hn'; cases hn'
  | outageToIdle _ _ _ _ hn' => rw [hn] at hn'; cases hn'
  | idleToWorking _ _ _ _ hn' => rw [hn] at hn'; cases hn'
  | pickupToWaiting _ _ _ _ hn' => rw [hn] at hn'; cases hn'
  | waitingToWaiting _ _ _ _ hn' => rw [hn] at hn'; cases hn'
  | pickupToTransit _ _ _ _ hn' => rw [hn] at hn'; cases hn'
  | transitToOutage _ _ _ _ hn' => rw [hn] at hn'; cases hn'
  | agvOutageToIdle _ _ _ _ hn' => rw [hn] at hn'; cases hn'

end JSL
