import JSL.Inv.TotalOut

/-!
# What one applied transition does to the further invariants

`mach_effectS` / `agv_effectS`: the component a transition addresses is replaced by a record whose
outage records still cover the configured outages, (for an AGV) whose state is not WORKING, that
claims a job when it is on its way to a pickup, and whose `occupied_till` is a time, the result of
`_get_waiting_time`, or unchanged when the AGV is released.  From these:
`applyTransition_outShape`, `applyTransition_noDep`, `applyTransition_agvShape`;
`applyTransition_jobPlace` uses the effect lemmas of the route invariant (`agv_effectR_loc`: where the job an
AGV moved lies afterwards).
-/

namespace JSL

variable {orc : Oracle} {inst : Instance}

theorem sampleOutage_id {now : Int} {comp : List OutageState} {r r' : Rng} {o : OutageCfg} {x : OutageState}
    (h : sampleOutage orc now comp r o = .ok (x, r')) : x.id = o.id := by
  unfold sampleOutage at h
  obtain ⟨st, hst, h⟩ := except_bind_eq_ok h
  obtain ⟨since, _, h⟩ := except_bind_eq_ok h
  have hid : st.id = o.id := by simpa using (findE_ok hst).2
  simp only at h
  split at h
  · simp at h; rw [← h.1]; exact hid
  · simp at h; rw [← h.1]

theorem newOutageStates_cover {now : Int} {comp : List OutageState} : ∀ (cfgs : List OutageCfg) (r r' : Rng)
    (outs : List OutageState), newOutageStates orc now comp cfgs r = .ok (outs, r') → OutCover cfgs outs
  | [], r, r', outs, h => by intro oc hoc; cases hoc
  | o :: os, r, r', outs, h => by
    simp only [newOutageStates] at h
    obtain ⟨⟨x, r1⟩, hx, h⟩ := except_bind_eq_ok h
    obtain ⟨⟨xs, r2⟩, hxs, h⟩ := except_bind_eq_ok h
    simp at h
    obtain ⟨rfl, rfl⟩ := h
    have ih := newOutageStates_cover os r1 r2 xs hxs
    intro oc hoc
    rcases List.mem_cons.mp hoc with rfl | hoc
    · exact ⟨x, by simp, sampleOutage_id hx⟩
    · obtain ⟨y, hy, e⟩ := ih oc hoc
      exact ⟨y, by simp [hy], e⟩

theorem outCover_release {cfgs : List OutageCfg} {sts : List OutageState} (h : OutCover cfgs sts) :
    OutCover cfgs (sts.map releaseOutage) := by
  intro oc hoc
  obtain ⟨o, ho, e⟩ := h oc hoc
  refine ⟨releaseOutage o, List.mem_map.mpr ⟨o, ho, rfl⟩, ?_⟩
  rw [← e]
  unfold releaseOutage
  split <;> rfl

theorem applyTransition_comp {s : State} {r : Rng} {tr : Transition} {o : State × Rng}
    (h : applyTransition orc inst s r tr = .ok o) : (∃ mid, tr.comp = .m mid) ∨ ∃ tid, tr.comp = .t tid := by
  cases applyTransition_ran h with
  | m m hc _ _ _ _ _ _ => exact Or.inl ⟨_, hc⟩
  | t t hc _ _ _ _ _ _ => exact Or.inr ⟨_, hc⟩

theorem mach_effectS (w : WF inst) {s s' : State} {r r' : Rng} {tr : Transition} {mid : Nat}
    (hc : tr.comp = .m mid) (h : applyTransition orc inst s r tr = .ok (s', r')) :
    ∃ m0 ∈ s.machines, m0.id = mid ∧ ∃ M' : MachineState, M'.id = m0.id ∧
      s'.machines = (s.replaceMachine M').machines ∧ s'.transports = s.transports ∧
      (∀ mc ∈ inst.machines, mc.id = m0.id → OutCover mc.outages m0.outages → OutCover mc.outages M'.outages) := by
  obtain ⟨m0, hm0, M', hmid, hid, hmach, htr, _, he⟩ := machine_record_effect hc h
  refine ⟨m0, hm0, hmid, M', hid, hmach, htr, ?_⟩
  cases he with
  | setup j op oc b1 b2 occ _ _ _ _ _ _ _ _ e => subst e; exact fun _ _ _ hcov => hcov
  | work occ _ _ e => subst e; exact fun _ _ _ hcov => hcov
  | strike mc outs _ _ hmc hmcid hnew e =>
    subst e
    intro mc' hmc' hid' _
    have : mc' = mc := eq_of_mem_of_key_eq (key := fun (y : MachineCfg) => y.id) w.machNodup hmc' hmc (by rw [hid', hmcid])
    subst this
    exact newOutageStates_cover _ _ _ _ hnew
  | release jid b1 b2 _ _ e => subst e; exact fun _ _ _ hcov => outCover_release hcov

theorem agv_effectS (w : WF inst) {s s' : State} {r r' : Rng} {tr : Transition} {tid : Nat}
    (hc : tr.comp = .t tid) (h : applyTransition orc inst s r tr = .ok (s', r')) :
    ∃ t0 t', t0 ∈ s.transports ∧ t0.id = tid ∧ t'.id = t0.id ∧ s'.transports = (s.replaceTransport t').transports ∧
      t'.st ≠ .working ∧
      (t'.st = .pickup ∨ t'.st = .waitingpickup →
        (∃ x, t'.job = some x) ∨ ((t0.st = .pickup ∨ t0.st = .waitingpickup) ∧ t'.job = t0.job)) ∧
      ((∃ e, t'.occ = .at e) ∨ (getWaitingTime inst s tr = .ok t'.occ) ∨ (t'.st = .idle ∧ t'.occ = t0.occ)) ∧
      (∀ tc ∈ inst.transports, tc.id = t0.id → OutCover tc.outages t0.outages → OutCover tc.outages t'.outages) := by
  cases applyTransition_ran h with
  | m _ hc' _ _ _ _ _ _ => rw [hc] at hc'; cases hc'
  | t t0 hc' ht0 hd' ns hn hah h =>
    have hid0 : t0.id = tid := by rw [hc] at hc'; injection hc' with e; exact e.symm
    cases hd' with
    | idleToWorking =>
      obtain ⟨j, cur, target, src, bc, c, _, _, _, _, _, _, _, _, _, rfl⟩ := idleToWorking_spec h
      exact ⟨t0, t0.toPickup cur bc.id target (s.time + c.cur orc r) j.id, ht0, hid0, rfl, rfl,
        nofun, fun _ => Or.inl ⟨j.id, rfl⟩, Or.inl ⟨_, rfl⟩, fun _ _ _ hcov => hcov⟩
    | pickupToWaitingpickup =>
      have hst := agvHandler_pickupToWaiting hah
      obtain ⟨occ, hocc, _, _, rfl⟩ := pickupToWaiting_spec h
      exact ⟨t0, t0.toWaiting occ, ht0, hid0, rfl, rfl, nofun,
        fun _ => Or.inr ⟨Or.inl hst.2, rfl⟩, Or.inr (Or.inl hocc), fun _ _ _ hcov => hcov⟩
    | waitingPickupToWaitingPickup =>
      have hst := agvHandler_waitingToWaiting hah
      obtain ⟨occ, hocc, _, rfl⟩ := waitingToWaiting_spec h
      exact ⟨t0, t0.toWaiting occ, ht0, hid0, rfl, rfl, nofun,
        fun _ => Or.inr ⟨Or.inr hst.2, rfl⟩, Or.inr (Or.inl hocc), fun _ _ _ hcov => hcov⟩
    | outageToIdle =>
      obtain ⟨_, rfl⟩ := agvOutageToIdle_spec h
      refine ⟨t0, t0.toIdle, ht0, hid0, rfl, rfl, nofun, ?_, Or.inr (Or.inr ⟨rfl, rfl⟩),
        fun _ _ _ hcov => outCover_release hcov⟩
      intro hst
      rcases hst with e | e <;> cases e
    | pickupToTransit =>
      obtain ⟨j, src, dst, tt, bss1, bss2, _, _, _, _, _, hcase⟩ := pickupToTransit_spec h
      refine ⟨t0, t0.toTransit (s.time + tt) j.id bss2, ht0, hid0, rfl, ?_, nofun, ?_,
        Or.inl ⟨_, rfl⟩, fun _ _ _ hcov => hcov⟩
      · rcases hcase with ⟨fb, _, _, _, _, _, rfl⟩ | ⟨mid, ms, bs, ms', _, _, _, _, _, _, _, rfl⟩ <;> rfl
      · intro hst
        rcases hst with e | e <;> cases e
    | transitToOutage =>
      obtain ⟨j, cur, pick, drop, tc', outs, bss1, bss2, _, _, _, _, htc', htcid, hnew, hcase⟩ := transitToOutage_spec h
      refine ⟨t0, t0.toOutage j.id bss1 outs (s.time + occupiedFor outs) drop, ht0, hid0, rfl, ?_,
        nofun, ?_, Or.inl ⟨_, rfl⟩, ?_⟩
      · rcases hcase with ⟨mid, ms, _, _, _, _, rfl⟩ | ⟨bid, b, _, _, _, _, rfl⟩ <;> rfl
      · intro hst
        rcases hst with e | e <;> cases e
      · intro tc2 htc2 hid _
        have : tc2 = tc' := eq_of_mem_of_key_eq (key := fun (y : TransportCfg) => y.id) w.trNodup htc2 htc'
          (by rw [hid, htcid])
        subst this
        exact newOutageStates_cover _ _ _ _ hnew

theorem applyTransition_outShape (w : WF inst) {s s' : State} {r r' : Rng} {tr : Transition}
    (hI : StructInv inst s) (hP : OutShape inst s) (h : applyTransition orc inst s r tr = .ok (s', r')) :
    OutShape inst s' := by
  have hs := hI.shape
  rcases applyTransition_comp h with ⟨mid, hc⟩ | ⟨tid, hc⟩
  ·
    obtain ⟨m0, hm0, _, M', hid, hms, hts, hcov⟩ := mach_effectS w hc h
    constructor
    · intro m hm mc hmc hmcid
      rw [hms] at hm
      rcases (mem_replaceMachine (hs.machNodup w) hm0 hid m).mp hm with rfl | ⟨hm', _⟩
      · exact hcov mc hmc (by rw [hmcid, hid]) (hP.mach m0 hm0 mc hmc (by rw [hmcid, hid]))
      · exact hP.mach m hm' mc hmc hmcid
    · intro t ht
      rw [hts] at ht
      exact hP.agv t ht
  ·
    obtain ⟨t0, t', ht0, _, hid, hts, _, _, _, hcov⟩ := agv_effectS w hc h
    constructor
    · intro m hm mc hmc hmcid
      obtain ⟨m1, hm1, e⟩ := (agv_touch w hI hc h).1 m hm
      rw [e] at hmcid ⊢
      exact hP.mach m1 hm1 mc hmc hmcid
    · intro t ht tc htc htcid
      rw [hts] at ht
      rcases (mem_replaceTransport (hs.trNodup w) ht0 hid t).mp ht with rfl | ⟨ht', _⟩
      · exact hcov tc htc (by rw [htcid, hid]) (hP.agv t0 ht0 tc htc (by rw [htcid, hid]))
      · exact hP.agv t ht' tc htc htcid

/-- with unordered pickup buffers (`PickFlex`) the waiting time of an AGV is always a fixed time, never a
time dependency -/
theorem getWaitingTime_at (w : WF inst) (hF : PickFlex inst) {s : State} (hI : StructInv inst s) (hS : SchedInv s)
    {tr : Transition} {occ : Occ} (h : getWaitingTime inst s tr = .ok occ) : ∃ e, occ = .at e := by
  have hs := hI.shape
  obtain ⟨j, hj, hcase⟩ := getWaitingTime_spec h
  have hj' := getJobOpt_ok hj
  rcases hcase with rfl | ⟨bc, mid, ms, _, _, hms, ⟨hin, hnr, _⟩ | ⟨_, op, hpr, rfl⟩⟩
  · exact ⟨_, rfl⟩
  · -- the job would be ready
    exfalso
    have hm := (getMachine_ok hms).1
    have hpost := (mem_allBufs_of_machine hm).2.2
    have hloc : j.loc = ms.post.id :=
      job_of_store hI.cons hj'.1 (by rw [storeAt_of_mem (hs.bufNodup w) hpost]; exact hin) (hs.jobsNodup w)
    rw [readyForPickup_flex w hF hs hpost hloc hin (kind_of_post hs hm)] at hnr
    cases hnr
  · -- a running operation has a recorded end
    obtain ⟨_, _, hl, _, hst⟩ := processing?_split' hpr
    obtain ⟨a, b, _, hb, _⟩ := (OpsOK_mem _ _ (hS.ops j hj'.1) op (by rw [hl]; simp)).2.1 hst
    rw [hb]
    exact ⟨_, rfl⟩

theorem applyTransition_noDep (w : WF inst) (hF : PickFlex inst) {s s' : State} {r r' : Rng} {tr : Transition}
    (hI : StructInv inst s) (hS : SchedInv s) (hN : NoDep s)
    (h : applyTransition orc inst s r tr = .ok (s', r')) : NoDep s' := by
  rcases applyTransition_comp h with ⟨mid, hc⟩ | ⟨tid, hc⟩
  ·
    obtain ⟨_, _, _, _, _, _, hts, _⟩ := mach_effectS w hc h
    exact fun t ht => hN t (hts ▸ ht)
  ·
    obtain ⟨t0, t', ht0, _, hid, hts, _, _, hocc, _⟩ := agv_effectS w hc h
    intro x hx hb
    rw [hts] at hx
    rcases (mem_replaceTransport (hI.shape.trNodup w) ht0 hid x).mp hx with rfl | ⟨hx0, _⟩
    · rcases hocc with e | e | ⟨e, _⟩
      · exact e
      · exact getWaitingTime_at w hF hI hS e
      · exact absurd e hb
    · exact hN x hx0 hb

theorem applyTransition_agvShape (w : WF inst) (hF : PickFlex inst) {s s' : State} {r r' : Rng} {tr : Transition}
    (hI : StructInv inst s) (hS : SchedInv s) (hP : AgvShape s) (h : applyTransition orc inst s r tr = .ok (s', r')) :
    AgvShape s' := by
  have hs := hI.shape
  have hset : NoDep s' := applyTransition_noDep w hF hI hS hP.occSet h
  rcases applyTransition_comp h with ⟨mid, hc⟩ | ⟨tid, hc⟩
  ·
    obtain ⟨_, _, _, _, _, _, hts, _⟩ := mach_effectS w hc h
    exact ⟨fun t ht => hP.noWorking t (hts ▸ ht), fun t ht => hP.busyClaims t (hts ▸ ht),
      fun t ht => hP.noDep t (hts ▸ ht), hset⟩
  ·
    obtain ⟨t0, t', ht0, _, hid, hts, hnw, hbc, hocc, _⟩ := agv_effectS w hc h
    have hmem : ∀ x, x ∈ s'.transports ↔ (x = t' ∨ (x ∈ s.transports ∧ x.id ≠ t0.id)) := by
      intro x; rw [hts]; exact mem_replaceTransport (hs.trNodup w) ht0 hid x
    have hocc' : (∃ e, t'.occ = .at e) ∨ (t'.st = .idle ∧ t'.occ = t0.occ) := by
      rcases hocc with e | e | e
      · exact Or.inl e
      · exact Or.inl (getWaitingTime_at w hF hI hS e)
      · exact Or.inr e
    constructor
    · intro t ht
      rcases (hmem t).mp ht with rfl | ⟨ht', _⟩
      · exact hnw
      · exact hP.noWorking t ht'
    · intro t ht hst
      rcases (hmem t).mp ht with rfl | ⟨ht', _⟩
      · rcases hbc hst with e | ⟨e1, e2⟩
        · exact e
        · rw [e2]; exact hP.busyClaims t0 ht0 e1
      · exact hP.busyClaims t ht' hst
    · intro t ht b j x
      rcases (hmem t).mp ht with rfl | ⟨ht', _⟩
      · rcases hocc' with ⟨e, he⟩ | ⟨_, he⟩
        · rw [he]; simp
        · rw [he]; exact hP.noDep t0 ht0 b j x
      · exact hP.noDep t ht' b j x
    · exact hset

theorem AgvShape.of_rest {s : State} (h : restB s = true) : AgvShape s := by
  simp only [restB, Bool.and_eq_true, List.all_eq_true, beq_iff_eq, List.isEmpty_iff, Option.isNone_iff_eq_none] at h
  obtain ⟨_, ht⟩ := h
  refine ⟨?_, ?_, ?_, ?_⟩
  · intro t ht' e; rw [(ht t ht').1.1.1] at e; cases e
  · intro t ht' e; rw [(ht t ht').1.1.1] at e; rcases e with e | e <;> cases e
  · intro t ht' b j x e
    have := (ht t ht').1.2
    rw [e] at this; simp at this
  · intro t ht' e; exact absurd (ht t ht').1.1.1 e

theorem nonOut_not_out (w : WF inst) {i : Nat} (h : i ∈ nonOutIds inst) : i ∉ outputIds inst := by
  intro ho
  unfold nonOutIds at h
  unfold outputIds outputBuffers at ho
  obtain ⟨c, hc, rfl⟩ := List.mem_map.mp h
  obtain ⟨c', hc', e⟩ := List.mem_map.mp ho
  have h1 := List.mem_filter.mp hc
  have h2 := List.mem_filter.mp hc'
  have hm : ∀ x ∈ inst.buffers, x ∈ allBufCfgs inst := by
    intro x hx; unfold allBufCfgs; simp [hx]
  have : c' = c := eq_of_mem_of_key_eq (key := fun (y : BufCfg) => y.id) w.bufNodup (hm _ h2.1) (hm _ h1.1) e
  subst this
  have a := h1.2
  have b := h2.2
  simp at a b
  exact a b

theorem transport_buf_not_standalone (w : WF inst) {s : State} (hs : Shape inst s) {t : TransportState}
    (ht : t ∈ s.transports) : t.buffer.id ∉ nonOutIds inst ∧ t.buffer.id ∉ outputIds inst := by
  constructor
  · intro h
    obtain ⟨b, hb, e⟩ := nonOutIds_sub hs h
    exact (ids_parts hs w).2.1 b hb t ht e
  · intro h
    obtain ⟨b, hb, e⟩ := outputIds_sub hs h
    exact (ids_parts hs w).2.1 b hb t ht e

theorem machine_buf_not_nonOut (w : WF inst) {s : State} (hs : Shape inst s) {m : MachineState} (hm : m ∈ s.machines) :
    m.pre.id ∉ nonOutIds inst ∧ m.buffer.id ∉ nonOutIds inst ∧ m.post.id ∉ nonOutIds inst := by
  have hp := (ids_parts hs w).1
  refine ⟨?_, ?_, ?_⟩ <;> intro h <;> obtain ⟨b, hb, e⟩ := nonOutIds_sub hs h
  · exact (hp b hb m hm).1 e
  · exact (hp b hb m hm).2.1 e
  · exact (hp b hb m hm).2.2 e

/-- where the jobs lie after an AGV transition: a job of the new state is a job of the old one, or it is the
job the AGV moved – into its own buffer or a pre-buffer (neither a stand-alone buffer), or into a buffer that
is not a stand-alone non-output buffer (the route names an output buffer), by the AGV that claimed it and
claims nothing afterwards -/
theorem agv_effectR_loc (w : WF inst) {s s' : State} {tr : Transition} {t0 t' : TransportState}
    (hI : StructInv inst s) (hA : AgvFull inst s) (ht0 : t0 ∈ s.transports) (heff : AgvEffectR inst s s' tr t0 t')
    {j1 : JobState} (hj1 : j1 ∈ s'.jobs) :
    j1 ∈ s.jobs ∨ (j1.loc ∉ nonOutIds inst ∧ j1.loc ∉ outputIds inst) ∨
      (j1.loc ∉ nonOutIds inst ∧ t0.job = some j1.id ∧ t'.job = none) := by
  have hs := hI.shape
  have moved : ∀ (j : JobState) (l : Nat), j ∈ s.jobs → s'.jobs = (s.replaceJob (j.at l)).jobs →
      j1 ∈ s.jobs ∨ j1 = j.at l := by
    intro j l hj e
    rw [e] at hj1
    rcases (mem_replaceJob (hs.jobsNodup w) hj (JobState.at_id j _) j1).mp hj1 with h | h
    · exact Or.inr h
    · exact Or.inl h.1
  cases heff with
  | dispatch j cur pick drop _ _ _ _ _ _ _ _ _ hjobs _ => exact Or.inl (hjobs ▸ hj1)
  | keep _ _ _ _ _ hjobs _ => exact Or.inl (hjobs ▸ hj1)
  | pickup j _ _ _ _ _ _ hj _ hjobs _ =>
    rcases moved j _ hj hjobs with h | rfl
    · exact Or.inl h
    · exact Or.inr (Or.inl (transport_buf_not_standalone w hs ht0))
  | deliverM j cur pick ms bss _ _ _ _ _ hms hj _ hjobs _ =>
    rcases moved j _ hj hjobs with h | rfl
    · exact Or.inl h
    · exact Or.inr (Or.inl ⟨(machine_buf_not_nonOut w hs hms).1, (machine_buf_not_output w hs hms).1⟩)
  | deliverB j cur pick b bss _ _ _ hjob' hloc0 _ hj hin hjobs _ _ =>
    rcases moved j _ hj hjobs with h | rfl
    · exact Or.inl h
    · have htrans : t0.st = .transit := by
        apply Classical.byContradiction
        intro hne
        rw [hA.agv.empty t0 ht0 hne] at hin
        cases hin
      have hown := hA.route.transitOwn t0 ht0 htrans j.id hin
      refine Or.inr (Or.inr ⟨fun hloc => ?_, hown, hjob'⟩)
      obtain ⟨cur', pick', drop', hl, hd⟩ := hA.route.route t0 ht0 j.id hown j hj rfl
      rw [hloc0] at hl
      simp only [TLoc.route.injEq] at hl
      obtain ⟨_, _, rfl⟩ := hl
      rcases hd with ⟨_, o, ho, e⟩ | ⟨_, op, _, e⟩
      · simp at e; subst e
        exact nonOut_not_out w hloc (firstOutput_mem ho)
      · simp at e

theorem applyTransition_jobPlace (w : WF inst) {s s' : State} {r r' : Rng} {tr : Transition}
    (hI : StructInv inst s) (hS : SchedInv s) (hA : AgvFull inst s) (hP : JobPlace inst s) (hg : Guard s tr)
    (haim : Aim inst s tr) (h : applyTransition orc inst s r tr = .ok (s', r')) : JobPlace inst s' := by
  have hs := hI.shape
  have hjn := hs.jobsNodup w
  have htn := hs.trNodup w
  rcases applyTransition_comp h with ⟨mid, hc⟩ | ⟨tid, hc⟩
  ·
    obtain ⟨m0, hm0, _, hts, j, hj, J', hJid, hjobs, hcase⟩ := mach_effectR w hI hS hg hc h
    have hmem : ∀ x, x ∈ s'.jobs ↔ (x = J' ∨ (x ∈ s.jobs ∧ x.id ≠ j.id)) := by
      intro x; rw [hjobs]; exact mem_replaceJob hjn hj hJid x
    have hnb := machine_buf_not_nonOut w hs hm0
    have hno := machine_buf_not_output w hs hm0
    constructor
    · intro j1 hj1 hloc
      rcases (hmem j1).mp hj1 with rfl | ⟨hj1', _⟩
      · rcases hcase with ⟨_, e, _⟩ | ⟨_, _, e2, e3, _⟩
        · rw [e] at hloc; exact absurd hloc hnb.2.1
        · rcases e3 with e3 | e3
          · rw [e2]; exact hP.inputIdle j hj (e3 ▸ hloc)
          · rw [e3] at hloc; exact absurd hloc hnb.2.2
      · exact hP.inputIdle j1 hj1' hloc
    · intro t ht x hx j1 hj1 hid
      rw [hts] at ht
      rcases (hmem j1).mp hj1 with rfl | ⟨hj1', _⟩
      · rcases hcase with ⟨_, e, _⟩ | ⟨_, _, _, e3, _⟩
        · rw [e]; exact hno.2.1
        · rcases e3 with e3 | e3
          · rw [e3]; exact hP.claimNotOut t ht x hx j hj (by rw [← hJid, hid])
          · rw [e3]; exact hno.2.2
      · exact hP.claimNotOut t ht x hx j1 hj1' hid
  ·
    obtain ⟨t0, t', ht0, ht0id, hid, hts, heff⟩ := agv_effectR w hI hc h
    have hmemT : ∀ x, x ∈ s'.transports ↔ (x = t' ∨ (x ∈ s.transports ∧ x.id ≠ t0.id)) := by
      intro x; rw [hts]; exact mem_replaceTransport htn ht0 hid x
    constructor
    · intro j1 hj1 hloc
      rcases agv_effectR_loc w hI hA ht0 heff hj1 with h | h | h
      · exact hP.inputIdle j1 h hloc
      · exact absurd hloc h.1
      · exact absurd hloc h.1
    · intro t ht x hx j1 hj1 hxid
      rcases agv_effectR_loc w hI hA ht0 heff hj1 with hold | h | ⟨_, hown, hnone⟩
      · rcases (hmemT t).mp ht with rfl | ⟨ht', _⟩
        · -- the record of the AGV addressed: the job it claims after the transition
          cases heff with
          | dispatch j cur pick drop hnew hst0 _ hjob' _ _ hj htj _ _ _ =>
            rw [hjob'] at hx
            obtain ⟨ta, hta, htaid, ns, hh, hn, hah, hdisp, _, _⟩ := haim.agv tid hc
            have : ta = t0 := eq_of_mem_of_key_eq (key := fun (y : TransportState) => y.id) htn hta ht0 (by rw [htaid, ht0id])
            subst this
            rw [hnew] at hn
            simp at hn; subst hn
            rw [hst0] at hah
            simp [agvHandler] at hah; subst hah
            obtain ⟨x', hx', _, hall⟩ := hdisp rfl
            rw [htj] at hx'
            simp at hx' hx
            exact hall j1 hold (by rw [hxid, ← hx, hx'])
          | keep _ _ hjob' _ _ _ _ => exact hP.claimNotOut t0 ht0 x (hjob' ▸ hx) j1 hold hxid
          | pickup j _ _ _ hjob' _ _ _ _ _ _ => exact hP.claimNotOut t0 ht0 x (hjob' ▸ hx) j1 hold hxid
          | deliverM j cur pick ms bss _ _ _ hjob' _ _ _ _ _ _ => rw [hjob'] at hx; cases hx
          | deliverB j cur pick b bss _ _ _ hjob' _ _ _ _ _ _ _ => rw [hjob'] at hx; cases hx
        · exact hP.claimNotOut t ht' x hx j1 hold hxid
      · exact h.2
      · rcases (hmemT t).mp ht with rfl | ⟨ht', hne⟩
        · rw [hnone] at hx; cases hx
        · exact absurd (hA.agv.unique t ht' t0 ht0 j1.id (hxid ▸ hx) hown) hne

end JSL
