import JSL.Inv.EnvPass

/-!
# Travel times along episodes

The travel invariant of `Travel.lean`, for any family of entries, in every state an episode of the
environment exposes.
-/

namespace JSL

variable {orc : Oracle} {inst : Instance}

structure ResTravelS (orc : Oracle) (inst : Instance) (res : SMResult) : Prop where
  travel : TravelStartS orc inst res.state
  subsTravel : ∀ σ ∈ res.subStates, TravelStartS orc inst σ

/-- In every state an episode exposes, an operation whose predecessor's machine is linked to its
own by the travel entry `c` started no earlier than the predecessor's end plus `c.at orc k` for some
`k ≥ 1`: the constant itself, or a sample of a stochastic object drawn after an `update()` (the
pickup calls `update()` before it reads).  The statement does not say which `k`. -/
theorem exposed_travel_at {ec : EnvCfg} {st : RewardStatic} {s0 σ : State} (hst : Start orc inst s0)
    (h : Exposed orc inst ec st s0 σ) {j : JobState} (hj : j ∈ σ.jobs) {a b : OpState} (hadj : AdjL j.ops a b)
    (ha : a.st = .done) {e : Int} (he : a.stop = some e) {c : TimeCfg}
    (hd : travelCfg inst (.m a.machine) (.m b.machine) = some c) (hb : b.st ≠ .idle) {x : Int}
    (hx : b.start = some x) : ∃ k, 1 ≤ k ∧ e + c.at orc k ≤ x := by
  obtain ⟨w, _⟩ := initOKB_sound hst.init
  obtain ⟨t, ht⟩ := exposed_passF (TravelPassG orc inst ec.sm w id) hst
    ⟨AgvFull.of_rest hst.rest hst.placed, TravelInvG.of_rest hst.rest⟩ (fun _ _ _ ho => ho) h
  exact (ht.travel j hj).start a b hadj ha e he c hd hb x hx

end JSL
