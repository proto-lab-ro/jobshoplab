import JSL.Inv.Route

/-!
# The route invariant and its preservation
-/

namespace JSL

variable {orc : Oracle} {inst : Instance}

structure RouteInv (inst : Instance) (s : State) : Prop where
  /-- the job an AGV carries is the job it claimed -/
  transitOwn : ∀ t ∈ s.transports, t.st = .transit → ∀ x ∈ t.buffer.store, t.job = some x
  /-- a claiming AGV is routed to where its job has to go next -/
  route : ∀ t ∈ s.transports, ∀ x, t.job = some x → ∀ j ∈ s.jobs, j.id = x →
    ∃ cur pick drop, t.loc = .route cur pick drop ∧ dropOK inst j JobState.nextIdle? drop
  /-- a job waiting in a pre-buffer is claimed by nobody -/
  preUnclaimed : ∀ m ∈ s.machines, ∀ x ∈ m.pre.store, ∀ t ∈ s.transports, t.job ≠ some x
  /-- a job waiting in a pre-buffer waits for its next operation on that machine -/
  preNext : ∀ m ∈ s.machines, ∀ x ∈ m.pre.store, ∀ j ∈ s.jobs, j.id = x → ∃ op, j.nextIdle? = some op ∧ op.machine = m.id
  /-- a job in an output buffer is finished -/
  delivered : ∀ j ∈ s.jobs, j.loc ∈ outputIds inst → ∀ o ∈ j.ops, o.st = .done

theorem isDone_all_done {s : State} (hR : RouteInv inst s) (hd : isDone inst s = true) :
    ∀ j ∈ s.jobs, ∀ o ∈ j.ops, o.st = .done := by
  intro j hj
  exact hR.delivered j hj (isDone_iff.mp hd j hj)

structure RouteGS (s : State) (L : List Transition) : Prop where
  notPre : ∀ tr ∈ L, tr.new = .t .working → ∀ x, tr.job = some x → ∀ m ∈ s.machines, x ∉ m.pre.store
  own : ∀ tr ∈ L, tr.new = .t .transit → ∀ t ∈ s.transports, tr.comp = .t t.id → tr.job = t.job
  order : L.Pairwise (fun a b => b.new = .t .transit → a.comp = b.comp → a.new = .t .waitingpickup)

theorem RouteGS.tail {s : State} {tr : Transition} {R : List Transition} (h : RouteGS s (tr :: R)) : RouteGS s R :=
  ⟨fun t ht => h.notPre t (by simp [ht]), fun t ht => h.own t (by simp [ht]), (List.pairwise_cons.mp h.order).2⟩

theorem dropOK_congr {j J' : JobState} (h1 : J'.nextIdle? = j.nextIdle?) (h2 : J'.noOpIdle = j.noOpIdle) (d : Loc) :
    dropOK inst J' JobState.nextIdle? d ↔ dropOK inst j JobState.nextIdle? d := by
  unfold dropOK; rw [h1, h2]

theorem outputIds_sub {s : State} (hs : Shape inst s) {i : Nat} (h : i ∈ outputIds inst) : ∃ b ∈ s.buffers, b.id = i := by
  unfold outputIds outputBuffers at h
  obtain ⟨c, hc, rfl⟩ := List.mem_map.mp h
  have hc' := (List.mem_filter.mp hc).1
  have : c.id ∈ s.buffers.map (·.id) := by rw [hs.buffers]; exact List.mem_map.mpr ⟨c, hc', rfl⟩
  obtain ⟨b, hb, e⟩ := List.mem_map.mp this
  exact ⟨b, hb, e⟩

theorem machine_buf_not_output (w : WF inst) {s : State} (hs : Shape inst s) {m : MachineState} (hm : m ∈ s.machines) :
    m.pre.id ∉ outputIds inst ∧ m.buffer.id ∉ outputIds inst ∧ m.post.id ∉ outputIds inst := by
  have hp := (ids_parts hs w).1
  refine ⟨?_, ?_, ?_⟩ <;> intro h <;> obtain ⟨b, hb, e⟩ := outputIds_sub hs h
  · exact (hp b hb m hm).1 e
  · exact (hp b hb m hm).2.1 e
  · exact (hp b hb m hm).2.2 e

theorem transport_buf_not_output (w : WF inst) {s : State} (hs : Shape inst s) {t : TransportState} (ht : t ∈ s.transports) :
    t.buffer.id ∉ outputIds inst := by
  intro h
  obtain ⟨b, hb, e⟩ := outputIds_sub hs h
  exact (ids_parts hs w).2.1 b hb t ht e

theorem pre_storeAt (w : WF inst) {s : State} (hs : Shape inst s) {m : MachineState} (hm : m ∈ s.machines) :
    storeAt s m.pre.id = m.pre.store ∧ storeAt s m.buffer.id = m.buffer.store :=
  ⟨storeAt_of_mem (hs.bufNodup w) (mem_allBufs_of_machine hm).1, storeAt_of_mem (hs.bufNodup w) (mem_allBufs_of_machine hm).2.1⟩

theorem transport_storeAt (w : WF inst) {s : State} (hs : Shape inst s) {t : TransportState} (ht : t ∈ s.transports) :
    storeAt s t.buffer.id = t.buffer.store := storeAt_of_mem (hs.bufNodup w) (mem_allBufs_of_transport ht)

theorem machine_route (w : WF inst) {s s' : State} {m0 : MachineState} (hI : StructInv inst s)
    (hR : RouteInv inst s) (hm0 : m0 ∈ s.machines) (he : MachEffectR s s' m0) : RouteInv inst s' := by
  have hs := hI.shape
  have hjn := hs.jobsNodup w
  obtain ⟨j, hj, J', hJid, hjobs, hcase⟩ := he.job
  have htr := he.transports
  have hmemJ : ∀ x, x ∈ s'.jobs ↔ (x = J' ∨ (x ∈ s.jobs ∧ x.id ≠ j.id)) := by
    intro x; rw [hjobs]; exact mem_replaceJob hjn hj hJid x
  -- the machines of the new state have pre-buffers contained in the old ones
  have hmach : ∀ m' ∈ s'.machines, ∃ m ∈ s.machines, m.id = m'.id ∧ ∀ x ∈ m'.pre.store, x ∈ m.pre.store := by
    rcases hcase with ⟨_, _, h⟩ | ⟨_, _, _, _, h⟩
    · intro m' hm'; obtain ⟨m, hm, e1, e2, _⟩ := h m' hm'; exact ⟨m, hm, e1, e2⟩
    · exact h
  constructor
  · intro t ht; exact hR.transitOwn t (htr ▸ ht)
  · intro t ht x hx j' hj' hid
    have ht' : t ∈ s.transports := htr ▸ ht
    rcases (hmemJ j').mp hj' with rfl | ⟨hj0, _⟩
    · rcases hcase with ⟨hpre, _, _⟩ | ⟨_, h1, h2, _, _⟩
      · exact absurd (by rw [← hid, hJid] at hx; exact hx) (hR.preUnclaimed m0 hm0 j.id hpre t ht')
      · obtain ⟨cur, pick, drop, e1, e2⟩ := hR.route t ht' x hx j hj (by rw [← hid, hJid])
        exact ⟨cur, pick, drop, e1, (dropOK_congr h1 h2 drop).mpr e2⟩
    · exact hR.route t ht' x hx j' hj0 hid
  · intro m' hm' x hx t ht
    obtain ⟨m, hm, _, hsub⟩ := hmach m' hm'
    exact hR.preUnclaimed m hm x (hsub x hx) t (htr ▸ ht)
  · intro m' hm' x hx j' hj' hid
    obtain ⟨m, hm, hmid, hsub⟩ := hmach m' hm'
    rcases (hmemJ j').mp hj' with rfl | ⟨hj0, _⟩
    · have hxj : x = j.id := by rw [← hid, hJid]
      rcases hcase with ⟨hpre, _, h⟩ | ⟨_, h1, _, _, _⟩
      · exfalso
        obtain ⟨m2, hm2, e1, e2, e3⟩ := h m' hm'
        by_cases hsame : m'.id = m0.id
        · exact e3 hsame (hxj ▸ hx)
        · -- the job would be in the pre-buffers of two machines
          have h1 : j.id ∈ storeAt s m2.pre.id := by rw [(pre_storeAt w hs hm2).1]; exact e2 x hx |> (hxj ▸ ·)
          have h2 : j.id ∈ storeAt s m0.pre.id := by rw [(pre_storeAt w hs hm0).1]; exact hpre
          have := unique_store hI.cons hjn h1 h2
          exact machines_bufs_ne hs w hm2 hm0 (by rw [e1]; exact hsame) _ (by simp) _ (by simp) this
      · obtain ⟨op, e1, e2⟩ := hR.preNext m hm x (hsub x hx) j hj hxj.symm
        exact ⟨op, by rw [h1]; exact e1, by rw [e2, hmid]⟩
    · obtain ⟨op, e1, e2⟩ := hR.preNext m hm x (hsub x hx) j' hj0 hid
      exact ⟨op, e1, by rw [e2, hmid]⟩
  · intro j' hj' hloc
    rcases (hmemJ j').mp hj' with rfl | ⟨hj0, _⟩
    · exfalso
      have hno := machine_buf_not_output w hs hm0
      rcases hcase with ⟨_, hl, _⟩ | ⟨hin, _, _, hl, _⟩
      · rw [hl] at hloc; exact hno.2.1 hloc
      · rcases hl with hl | hl
        · have : j.loc = m0.buffer.id :=
            job_of_store hI.cons hj (by rw [(pre_storeAt w hs hm0).2]; exact hin) hjn
          rw [hl, this] at hloc; exact hno.2.1 hloc
        · rw [hl] at hloc; exact hno.2.2 hloc
    · exact hR.delivered j' hj0 hloc


theorem dropOK_ops {j J' : JobState} (h : J'.ops = j.ops) (d : Loc) :
    dropOK inst J' JobState.nextIdle? d ↔ dropOK inst j JobState.nextIdle? d := by
  unfold dropOK JobState.noOpIdle JobState.nextIdle?; rw [h]

theorem carried_claimed {s : State} (hA : AgvInv s) (hR : RouteInv inst s) {t0 : TransportState}
    (ht0 : t0 ∈ s.transports) {x : Nat} (hin : x ∈ t0.buffer.store) :
    t0.job = some x ∧ ∀ t ∈ s.transports, t.id ≠ t0.id → t.job ≠ some x := by
  have hclaim : t0.job = some x := by
    by_cases hst0 : t0.st = .transit
    · exact hR.transitOwn t0 ht0 hst0 x hin
    · rw [hA.empty t0 ht0 hst0] at hin; cases hin
  exact ⟨hclaim, fun t ht hne e => hne (hA.unique t ht t0 ht0 x e hclaim)⟩

/-- The route invariant after the record of one AGV is replaced by `t'`.  Jobs keep their records
and move, if at all, to no output buffer unless finished; machines keep their ids, and a pre-buffer
gains at most a job the AGV claimed and gives up now, which is due on that machine; a claim of `t'`
is the old one with the old route, or a new one for a job in no pre-buffer with a route for it. -/
theorem RouteInv.frame {s s' : State} {t0 t' : TransportState} (hA : AgvInv s) (hR : RouteInv inst s)
    (ht0 : t0 ∈ s.transports)
    (hmemT : ∀ x, x ∈ s'.transports ↔ (x = t' ∨ (x ∈ s.transports ∧ x.id ≠ t0.id)))
    (hJ : ∀ j' ∈ s'.jobs, ∃ j ∈ s.jobs, j'.id = j.id ∧ j'.ops = j.ops ∧
      (j'.loc = j.loc ∨ j'.loc ∉ outputIds inst ∨ ∀ o ∈ j.ops, o.st = .done))
    (hM : ∀ m' ∈ s'.machines, ∃ m ∈ s.machines, m'.id = m.id ∧ ∀ x ∈ m'.pre.store, x ∈ m.pre.store ∨
      (t0.job = some x ∧ t'.job = none ∧ ∀ j ∈ s.jobs, j.id = x → ∃ op, j.nextIdle? = some op ∧ op.machine = m.id))
    (own : t'.st = .transit → ∀ x ∈ t'.buffer.store, t'.job = some x)
    (claim : ∀ x, t'.job = some x → (t0.job = some x ∧ t'.loc = t0.loc) ∨
      ((∀ m ∈ s.machines, x ∉ m.pre.store) ∧ ∀ j ∈ s.jobs, j.id = x →
        ∃ cur pick drop, t'.loc = .route cur pick drop ∧ dropOK inst j JobState.nextIdle? drop)) :
    RouteInv inst s' := by
  constructor
  · intro t ht hst x hx
    rcases (hmemT t).mp ht with rfl | ⟨ht', _⟩
    · exact own hst x hx
    · exact hR.transitOwn t ht' hst x hx
  · intro t ht x hx j' hj' hid
    obtain ⟨j, hj, e1, e2, _⟩ := hJ j' hj'
    have hjx : j.id = x := e1.symm.trans hid
    have old : ∀ t1 ∈ s.transports, t1.job = some x →
        ∃ cur pick drop, t1.loc = .route cur pick drop ∧ dropOK inst j' JobState.nextIdle? drop := by
      intro t1 ht1 hx1
      obtain ⟨cur, pick, drop, l, d⟩ := hR.route t1 ht1 x hx1 j hj hjx
      exact ⟨cur, pick, drop, l, (dropOK_ops e2 drop).mpr d⟩
    rcases (hmemT t).mp ht with rfl | ⟨ht', _⟩
    · rcases claim x hx with ⟨h1, h2⟩ | ⟨_, h2⟩
      · rw [h2]; exact old t0 ht0 h1
      · obtain ⟨cur, pick, drop, l, d⟩ := h2 j hj hjx
        exact ⟨cur, pick, drop, l, (dropOK_ops e2 drop).mpr d⟩
    · exact old t ht' hx
  · intro m' hm' x hx t ht hx'
    obtain ⟨m, hm, _, hsub⟩ := hM m' hm'
    rcases hsub x hx with hin | ⟨h0, hn, _⟩
    · rcases (hmemT t).mp ht with rfl | ⟨ht', _⟩
      · rcases claim x hx' with ⟨h1, _⟩ | ⟨h1, _⟩
        · exact hR.preUnclaimed m hm x hin t0 ht0 h1
        · exact h1 m hm hin
      · exact hR.preUnclaimed m hm x hin t ht' hx'
    · rcases (hmemT t).mp ht with rfl | ⟨ht', hne⟩
      · rw [hn] at hx'; cases hx'
      · exact hne (hA.unique t ht' t0 ht0 x hx' h0)
  · intro m' hm' x hx j' hj' hid
    obtain ⟨m, hm, hmid, hsub⟩ := hM m' hm'
    obtain ⟨j, hj, e1, e2, _⟩ := hJ j' hj'
    obtain ⟨op, h1, h2⟩ : ∃ op, j.nextIdle? = some op ∧ op.machine = m.id := by
      rcases hsub x hx with hin | ⟨_, _, h⟩
      · exact hR.preNext m hm x hin j hj (e1.symm.trans hid)
      · exact h j hj (e1.symm.trans hid)
    exact ⟨op, by unfold JobState.nextIdle? at h1 ⊢; rw [e2]; exact h1, by rw [h2, hmid]⟩
  · intro j' hj' hloc o ho
    obtain ⟨j, hj, _, e2, h⟩ := hJ j' hj'
    rw [e2] at ho
    rcases h with h | h | h
    · exact hR.delivered j hj (h ▸ hloc) o ho
    · exact absurd hloc h
    · exact h o ho

theorem agv_route (w : WF inst) {s s' : State} {tr : Transition} {t0 t' : TransportState} (hI : StructInv inst s)
    (hS : SchedInv s) (hA : AgvInv s) (hR : RouteInv inst s) (ht0 : t0 ∈ s.transports) (hid' : t'.id = t0.id)
    (hcomp : tr.comp = .t t0.id)
    (htrs : s'.transports = (s.replaceTransport t').transports) (he : AgvEffectR inst s s' tr t0 t')
    (hnotPre : tr.new = .t .working → ∀ x, tr.job = some x → ∀ m ∈ s.machines, x ∉ m.pre.store)
    (hown : tr.new = .t .transit → ∀ t ∈ s.transports, tr.comp = .t t.id → tr.job = t.job) :
    RouteInv inst s' := by
  have hs := hI.shape
  have hjn := hs.jobsNodup w
  have hmemT : ∀ x, x ∈ s'.transports ↔ (x = t' ∨ (x ∈ s.transports ∧ x.id ≠ t0.id)) := by
    intro x; rw [htrs]; exact mem_replaceTransport (hs.trNodup w) ht0 hid' x
  have sameJ : ∀ j ∈ s.jobs, ∃ j0 ∈ s.jobs, j.id = j0.id ∧ j.ops = j0.ops ∧
      (j.loc = j0.loc ∨ j.loc ∉ outputIds inst ∨ ∀ o ∈ j0.ops, o.st = .done) :=
    fun j hj => ⟨j, hj, rfl, rfl, Or.inl rfl⟩
  have sameM : ∀ m ∈ s.machines, ∃ m0 ∈ s.machines, m.id = m0.id ∧ ∀ x ∈ m.pre.store, x ∈ m0.pre.store ∨
      (t0.job = some x ∧ t'.job = none ∧ ∀ j ∈ s.jobs, j.id = x → ∃ op, j.nextIdle? = some op ∧ op.machine = m0.id) :=
    fun m hm => ⟨m, hm, rfl, fun _ hx => Or.inl hx⟩
  have movedJ : ∀ (j : JobState) (l : Nat), j ∈ s.jobs → s'.jobs = (s.replaceJob (j.at l)).jobs →
      (l ∉ outputIds inst ∨ ∀ o ∈ j.ops, o.st = .done) → ∀ j' ∈ s'.jobs, ∃ j0 ∈ s.jobs, j'.id = j0.id ∧ j'.ops = j0.ops ∧
        (j'.loc = j0.loc ∨ j'.loc ∉ outputIds inst ∨ ∀ o ∈ j0.ops, o.st = .done) := by
    intro j l hj hjobs hl j' hj'
    rw [hjobs] at hj'
    rcases (mem_replaceJob (j' := j.at l) hjn hj rfl j').mp hj' with rfl | ⟨hj0, _⟩
    · exact ⟨j, hj, rfl, rfl, Or.inr hl⟩
    · exact sameJ j' hj0
  -- the route of the job that is handed over
  have handed : ∀ (j : JobState) (cur : Loc) (pick : Nat) (drop : Loc), j ∈ s.jobs → j.id ∈ t0.buffer.store →
      t0.loc = .route cur pick drop → t0.job = some j.id ∧ dropOK inst j JobState.nextIdle? drop := by
    intro j cur pick drop hj hin hloc
    have hclaim := (carried_claimed hA hR ht0 hin).1
    obtain ⟨_, _, drop', el, edrop⟩ := hR.route t0 ht0 j.id hclaim j hj rfl
    rw [hloc] at el
    cases el
    exact ⟨hclaim, edrop⟩
  cases he with
  | dispatch j cur pick drop hnew h1 h2 h3 h4 h5 hj htj hdrop hjobs hmach =>
    refine .frame hA hR ht0 hmemT (hjobs ▸ sameJ) (hmach ▸ sameM) (fun e => by rw [h2] at e; cases e) ?_
    intro x hx
    rw [h3] at hx; cases hx
    refine Or.inr ⟨hnotPre hnew j.id htj, fun j' hj' hid => ?_⟩
    rw [eq_of_mem_of_key_eq (key := fun (y : JobState) => y.id) hjn hj' hj hid]
    exact ⟨cur, pick, drop, h4, hdrop⟩
  | keep h1 h2 h3 h4 h5 hjobs hmach =>
    exact .frame hA hR ht0 hmemT (hjobs ▸ sameJ) (hmach ▸ sameM) (fun e => absurd e h2)
      (fun x hx => Or.inl ⟨h3 ▸ hx, h4⟩)
  | pickup j hnew h1 h2 h3 h4 h5 hj htj hjobs hmach =>
    refine .frame hA hR ht0 hmemT (movedJ j _ hj hjobs (Or.inl (transport_buf_not_output w hs ht0))) ?_ ?_
      (fun x hx => Or.inl ⟨h3 ▸ hx, h4⟩)
    · intro m' hm'
      obtain ⟨m, hm, e1, e2⟩ := hmach m' hm'
      exact ⟨m, hm, e1.symm, fun x hx => Or.inl (e2 x hx)⟩
    · intro _ x hx
      rw [h5, hA.empty t0 ht0 (by rcases h1 with e | e <;> rw [e] <;> simp)] at hx
      rw [h3, ← hown hnew t0 ht0 hcomp, htj, List.mem_singleton.mp hx]
  | deliverM j cur pick ms bss hnew h1 h2 h3 hloc hms hj hin hjobs hmach =>
    obtain ⟨hclaim, edrop⟩ := handed j cur pick _ hj hin hloc
    refine .frame hA hR ht0 hmemT (movedJ j _ hj hjobs (Or.inl (machine_buf_not_output w hs hms).1)) ?_
      (fun e => by rw [h2] at e; cases e) (fun x hx => by rw [h3] at hx; cases hx)
    intro m' hm'
    rw [hmach] at hm'
    rcases (mem_replaceMachine (m' := ms.withPre j.id bss) (hs.machNodup w) hms rfl m').mp hm' with rfl | ⟨hm0, _⟩
    · refine ⟨ms, hms, rfl, fun x hx => ?_⟩
      rcases List.mem_append.mp hx with hx | hx
      · exact Or.inl hx
      · -- the delivered job: its next idle operation is on this machine
        rw [List.mem_singleton.mp hx]
        refine Or.inr ⟨hclaim, h3, fun j' hj' hid => ?_⟩
        rw [eq_of_mem_of_key_eq (key := fun (y : JobState) => y.id) hjn hj' hj hid]
        rcases edrop with ⟨_, o, _, e⟩ | ⟨_, op, e1, e2⟩
        · cases e
        · exact ⟨op, e1, (Loc.m.inj e2).symm⟩
    · exact sameM m' hm0
  | deliverB j cur pick b bss hnew h1 h2 h3 hloc hb hj hin hjobs hmach hbufs =>
    obtain ⟨hclaim, edrop⟩ := handed j cur pick _ hj hin hloc
    refine .frame hA hR ht0 hmemT (movedJ j _ hj hjobs (Or.inr fun o ho => ?_)) (hmach ▸ sameM)
      (fun e => by rw [h2] at e; cases e) (fun x hx => by rw [h3] at hx; cases hx)
    -- delivered to a stand-alone buffer: the route was computed when no operation was idle
    rcases edrop with ⟨hno, _⟩ | ⟨_, op, _, e⟩
    · have hm := OpsOK_mem _ _ (hS.ops j hj) o ho
      have hnidle : o.st ≠ .idle := by
        unfold JobState.noOpIdle at hno
        simpa using List.all_eq_true.mp hno o ho
      have hnproc : o.st ≠ .processing := by
        intro hp
        obtain ⟨m, hm', _, _, hst⟩ := hS.procOnBusy j hj o ho hp
        have h1' : j.id ∈ storeAt s m.buffer.id := by rw [(pre_storeAt w hs hm').2, hst]; simp
        have h2' : j.id ∈ storeAt s t0.buffer.id := by rw [transport_storeAt w hs ht0]; exact hin
        exact (ids_parts hs w).2.2 m hm' t0 ht0 |>.2.1 (unique_store hI.cons hjn h1' h2')
      cases hst : o.st with
      | idle => exact absurd hst hnidle
      | processing => exact absurd hst hnproc
      | transport => exact absurd hst hm.2.2
      | done => rfl
    · cases e

theorem agv_routeGS (w : WF inst) {s s' : State} {tr : Transition} {R : List Transition} {t0 t' : TransportState}
    (hI : StructInv inst s) (hA : AgvInv s) (hR : RouteInv inst s) (ht0 : t0 ∈ s.transports) (hid' : t'.id = t0.id)
    (hcomp : tr.comp = .t t0.id) (htrs : s'.transports = (s.replaceTransport t').transports)
    (he : AgvEffectR inst s s' tr t0 t') (hcl : ClaimGS s (tr :: R)) (hgs : RouteGS s (tr :: R)) : RouteGS s' R := by
  have hs := hI.shape
  have htn := hs.trNodup w
  have hmemT : ∀ x, x ∈ s'.transports ↔ (x = t' ∨ (x ∈ s.transports ∧ x.id ≠ t0.id)) := by
    intro x; rw [htrs]; exact mem_replaceTransport htn ht0 hid' x
  have hord := (List.pairwise_cons.mp hgs.order).1
  -- `own` for the other AGVs, and for this one when its claim is kept
  have own_of : (t'.job = t0.job ∨ ∀ b ∈ R, b.new = .t .transit → b.comp ≠ .t t0.id) →
      ∀ b ∈ R, b.new = .t .transit → ∀ t ∈ s'.transports, b.comp = .t t.id → b.job = t.job := by
    intro hk b hb hn t ht hc
    rcases (hmemT t).mp ht with rfl | ⟨ht', _⟩
    · rcases hk with e | e
      · rw [e]; exact hgs.own b (by simp [hb]) hn t0 ht0 (by rw [hc, hid'])
      · exact absurd (by rw [hc, hid']) (e b hb hn)
    · exact hgs.own b (by simp [hb]) hn t ht' hc
  -- when this transition is not a "keep waiting" one, no later pickup belongs to the same AGV
  have no_later : tr.new ≠ .t .waitingpickup → ∀ b ∈ R, b.new = .t .transit → b.comp ≠ .t t0.id := by
    intro hne b hb hn hc
    exact hne (hord b hb hn (by rw [hcomp, hc]))
  cases he with
  | dispatch j cur pick drop hnew h1 h2 h3 h4 h5 hj htj hdrop hjobs hmach =>
    refine ⟨?_, own_of (Or.inr (no_later (by rw [hnew]; simp))), (List.pairwise_cons.mp hgs.order).2⟩
    intro b hb hn x hx m hm
    exact hgs.notPre b (by simp [hb]) hn x hx m (hmach ▸ hm)
  | keep h1 h2 h3 h4 h5 hjobs hmach =>
    refine ⟨?_, own_of (Or.inl h3), (List.pairwise_cons.mp hgs.order).2⟩
    intro b hb hn x hx m hm
    exact hgs.notPre b (by simp [hb]) hn x hx m (hmach ▸ hm)
  | pickup j hnew h1 h2 h3 h4 h5 hj htj hjobs hmach =>
    refine ⟨?_, own_of (Or.inl h3), (List.pairwise_cons.mp hgs.order).2⟩
    intro b hb hn x hx m' hm' hin
    obtain ⟨m, hm, _, hsub⟩ := hmach m' hm'
    exact hgs.notPre b (by simp [hb]) hn x hx m hm (hsub x hin)
  | deliverM j cur pick ms bss hnew h1 h2 h3 hloc hms hj hin hjobs hmach =>
    have hclaim := (carried_claimed hA hR ht0 hin).1
    refine ⟨?_, own_of (Or.inr (no_later (by rw [hnew]; simp))), (List.pairwise_cons.mp hgs.order).2⟩
    intro b hb hn x hx m' hm' hin'
    rw [hmach] at hm'
    rcases (mem_replaceMachine (m' := ms.withPre j.id bss) (hs.machNodup w) hms rfl m').mp hm' with rfl | ⟨hm0, _⟩
    · simp only [MachineState.withPre, BufState.withBack_store, List.mem_append, List.mem_singleton] at hin'
      rcases hin' with h | rfl
      · exact hgs.notPre b (by simp [hb]) hn x hx ms hms h
      · exact hcl.free b (by simp [hb]) hn j.id hx t0 ht0 hclaim
    · exact hgs.notPre b (by simp [hb]) hn x hx m' hm0 hin'
  | deliverB j cur pick b0 bss hnew h1 h2 h3 hloc hb0 hj hin hjobs hmach hbufs =>
    refine ⟨?_, own_of (Or.inr (no_later (by rw [hnew]; simp))), (List.pairwise_cons.mp hgs.order).2⟩
    intro b hb hn x hx m hm
    exact hgs.notPre b (by simp [hb]) hn x hx m (hmach ▸ hm)

structure AgvFull (inst : Instance) (s : State) : Prop where
  agv : AgvInv s
  route : RouteInv inst s

structure FullGS (s : State) (L : List Transition) : Prop where
  claim : ClaimGS s L
  route : RouteGS s L

theorem applyTransition_full (w : WF inst) {s s' : State} {r r' : Rng} {tr : Transition} {R : List Transition}
    (hI : StructInv inst s) (hS : SchedInv s) (hP : AgvFull inst s) (hv : transitionValid s tr = .ok true)
    (hsafe : Safe s (tr :: R)) (hgs : FullGS s (tr :: R)) (h : applyTransition orc inst s r tr = .ok (s', r')) :
    AgvFull inst s' ∧ FullGS s' R := by
  obtain ⟨hA', hC'⟩ := applyTransition_agv w hI hP.agv hv hgs.claim h
  cases applyTransition_ran h with
  | m m1 hc _ _ _ _ _ _ =>
    obtain ⟨m0, hm0, _, he⟩ := mach_effectR w hI hS hsafe.guard hc h
    refine ⟨⟨hA', machine_route w hI hP.route hm0 he⟩, hC', ?_⟩
    obtain ⟨j, hj, J', hJid, hjobs, hcase⟩ := he.job
    have hmach : ∀ m' ∈ s'.machines, ∃ m ∈ s.machines, m.id = m'.id ∧ ∀ x ∈ m'.pre.store, x ∈ m.pre.store := by
      rcases hcase with ⟨_, _, h'⟩ | ⟨_, _, _, _, h'⟩
      · intro m' hm'; obtain ⟨m, hm, e1, e2, _⟩ := h' m' hm'; exact ⟨m, hm, e1, e2⟩
      · exact h'
    refine ⟨?_, ?_, (List.pairwise_cons.mp hgs.route.order).2⟩
    · intro b hb hn x hx m' hm' hin
      obtain ⟨m, hm, _, hsub⟩ := hmach m' hm'
      exact hgs.route.notPre b (by simp [hb]) hn x hx m hm (hsub x hin)
    · intro b hb hn t ht hcb
      exact hgs.route.own b (by simp [hb]) hn t (he.transports ▸ ht) hcb
  | t t1 hc _ _ _ _ _ _ =>
    obtain ⟨t0, t', ht0, hid0, hid', htrs, he⟩ := agv_effectR w hI hc h
    have hcomp : tr.comp = .t t0.id := by rw [hc, hid0]
    refine ⟨⟨hA', ?_⟩, hC', agv_routeGS w hI hP.agv hP.route ht0 hid' hcomp htrs he hgs.claim hgs.route⟩
    exact agv_route w hI hS hP.agv hP.route ht0 hid' hcomp htrs he
      (fun hn x hx => hgs.route.notPre tr (by simp) hn x hx)
      (fun hn => hgs.route.own tr (by simp) hn)

end JSL
