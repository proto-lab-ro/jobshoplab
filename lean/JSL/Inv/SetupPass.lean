import JSL.Inv.SetupStep

/-!
# Setup separation along every execution
-/

namespace JSL

variable {orc : Oracle} {inst : Instance} {ι : Type} {f : ι → TimeCfg}

/-! ## AGV transitions touch neither records nor the phase / tool of a machine -/

theorem agv_tool (w : WF inst) {s s' : State} {r r' : Rng} {tr : Transition} {tid : Nat} (hI : StructInv inst s)
    (hc : tr.comp = .t tid) (h : applyTransition orc inst s r tr = .ok (s', r')) :
    ∀ m' ∈ s'.machines, ∃ m ∈ s.machines, m'.id = m.id ∧ m'.st = m.st ∧ m'.tool = m.tool := by
  have same : ∀ m' ∈ s.machines, ∃ m ∈ s.machines, m'.id = m.id ∧ m'.st = m.st ∧ m'.tool = m.tool :=
    fun m' hm' => ⟨m', hm', rfl, rfl, rfl⟩
  obtain ⟨t0, t', _, _, _, _, _, he⟩ := agv_transport_effect w hI hc h
  cases he with
  | dispatch _ _ _ _ _ _ _ _ _ _ _ _ hm => rw [hm]; exact same
  | wait _ _ _ _ _ hm => rw [hm]; exact same
  | release _ _ _ _ hm => rw [hm]; exact same
  | pickup _ _ _ _ _ _ _ _ _ _ _ _ _ _ hm =>
    exact fun m' hm' => let ⟨m, h1, e1, e2, e3, _⟩ := hm m' hm'; ⟨m, h1, e1, e2, e3⟩
  | deliverM j _ _ ms _ bss2 _ _ _ _ _ hms _ _ _ _ hm =>
    intro m1 hm1
    rw [hm] at hm1
    rcases (mem_replaceMachine (hI.shape.machNodup w) hms (m' := ms.withPre j.id bss2) rfl m1).mp hm1 with rfl | ⟨hy0, _⟩
    · exact ⟨ms, hms, rfl, rfl, rfl⟩
    · exact same m1 hy0
  | deliverB _ _ _ _ _ _ _ _ _ _ _ _ _ _ _ _ hm _ => rw [hm]; exact same

theorem agv_recs (w : WF inst) {s s' : State} {r r' : Rng} {tr : Transition} {tid : Nat} (hI : StructInv inst s)
    (hI' : StructInv inst s') (hc : tr.comp = .t tid) (h : applyTransition orc inst s r tr = .ok (s', r')) :
    ∀ x, x ∈ recs s' ↔ x ∈ recs s := by
  have hj := (agv_effect w hI hc h).2
  intro x
  constructor
  · intro hx
    obtain ⟨j', hj', hx'⟩ := mem_recs.mp hx
    obtain ⟨j, hj0, _, e⟩ := hj j' hj'
    exact mem_recs.mpr ⟨j, hj0, by rw [e]; exact hx'⟩
  · intro hx
    obtain ⟨j, hj0, hx'⟩ := mem_recs.mp hx
    have e : s.jobs.map (·.id) = s'.jobs.map (·.id) := by rw [hI.shape.jobIds, hI'.shape.jobIds]
    obtain ⟨j', hj', eid⟩ := mem_of_map_eq e hj0
    obtain ⟨j1, hj1, e1, e2⟩ := hj j' hj'
    have : j1 = j := eq_of_mem_of_key_eq (key := fun (y : JobState) => y.id) (hI.shape.jobsNodup w) hj1 hj0
      (by rw [e1]; exact eid.symm)
    subst this
    exact mem_recs.mpr ⟨j', hj', by rw [← e2]; exact hx'⟩

theorem applyTransition_setup (w : WF inst) {s s' : State} {r r' : Rng} {tr : Transition}
    {R : List Transition} (hI : StructInv inst s) (hS : SchedInv s) (hP : SetupInvG orc inst f s)
    (hv : transitionValid s tr = .ok true) (hsafe : Safe s (tr :: R)) (hgs : DueGS s (tr :: R))
    (h : applyTransition orc inst s r tr = .ok (s', r')) : SetupInvG orc inst f s' := by
  have hs := hI.shape
  have hjn := hs.jobsNodup w
  have hI' := applyTransition_struct w hI hv h
  have hg := hsafe.guard
  cases applyTransition_ran h with
  | t t0 hc _ _ _ _ _ _ => exact hP.transfer (agv_recs w hI hI' hc h) (agv_tool w hI hc h)
  | m m0 hc hm0 hd ns hn hmh run =>
    cases hd with
    | idleToSetup =>
      have hst := machineHandler_idleToSetup hmh
      obtain ⟨j, op, oc, mc, sd, b1, b2, hj, htj, _, hnn, hoc, hocj, hoci, hmc, hmcid, _, ⟨c, hcl, hsd⟩, rfl⟩ :=
        idleToSetup_spec run
      have hv' := transitionValid_machine (hs.machNodup w) hm0 hc hv
      have hmach := valid_machine_job hjn hv' (by simp [hst.1]) (by simp [hst.1]) j hj htj op hnn
      have hopm := find?_mem_ops hnn
      have hstep : RecStep s _ m0 (m0.toSetup j.id b1 b2 (s.time + sd) oc.tool) op (opRec oc s.time (s.time + sd) m0.id) :=
        RecStep.mk_of w hI (J' := (j.replaceOp (opRec oc s.time (s.time + sd) m0.id)).at m0.buffer.id)
          (s' := (s.replaceJob ((j.replaceOp (opRec oc s.time (s.time + sd) m0.id)).at m0.buffer.id)).replaceMachine
            (m0.toSetup j.id b1 b2 (s.time + sd) oc.tool)) hj hm0 hopm.1
          ⟨by simp [opRec, hocj], by simp [opRec, hoci]⟩ rfl rfl (by simp [MachineState.toSetup]) rfl rfl
          (by simp [opRec]) hmach
      exact setup_step_accept w hI hS hP hstep hst.1 (by simp [MachineState.toSetup]) (by simpa using hopm.2)
        (by simp [opRec]) (by simp [tS, opRec]) (tl := oc.tool) (by simp [MachineState.toSetup])
        (toolOf_of_cfg w hoc (by simp [opRec]) (by simp [opRec])) hmc hmcid hcl hsd (by simp [tE, opRec])
    | setupToWorking =>
      have hst := machineHandler_setupToWorking hmh
      obtain ⟨j, op0, oc, d, hj, _, hjin, hnn, _, hocj, hoci, _, rfl⟩ := setupToWorking_spec run
      have hbusy : m0.st ≠ .idle := by rw [hst.1]; simp
      obtain ⟨hopm, hpst, hmach0, hstop0⟩ := held_record w hI hS hm0 hbusy hj hjin (held_next w hI hS hm0 hbusy hj hjin hnn)
      have hdue := hgs.due tr (by simp) m0.id hc (Or.inr (Or.inr (by rw [hn, hst.2]))) m0 hm0 rfl
      have hdue' : tE op0 ≤ s.time := by
        unfold tE; rw [hstop0]
        cases hocc : m0.occ with
        | none => rw [hocc] at hdue; simp [dueAt] at hdue
        | some o => rw [hocc] at hdue; simpa [dueAt] using hdue
      have hstep : RecStep s _ m0 (m0.toWorking (s.time + d)) op0 (opRec oc s.time (s.time + d) m0.id) :=
        RecStep.mk_of w hI (J' := j.replaceOp (opRec oc s.time (s.time + d) m0.id))
          (s' := (s.replaceJob (j.replaceOp (opRec oc s.time (s.time + d) m0.id))).replaceMachine
            (m0.toWorking (s.time + d))) hj hm0 hopm
          ⟨by simp [opRec, hocj], by simp [opRec, hoci]⟩ rfl rfl (by simp [MachineState.toWorking]) rfl rfl
          (by simp [opRec]) hmach0
      exact setup_step_begin w hI hS hP hstep hst.1 (by simp [MachineState.toWorking]) (by simp [MachineState.toWorking])
        hpst (by simp [opRec]) (by simp [tS, opRec]) hdue'
    | workingToOutage =>
      have hst := machineHandler_workingToOutage hmh
      obtain ⟨mc, outs, j, op0, _, _, _, hj, htj, hp, rfl⟩ := workingToOutage_spec run
      have hbusy : m0.st ≠ .idle := by rw [hst.1]; simp
      have hjin : j.id ∈ m0.buffer.store := hg.ownJob m0.id hc (by rw [hn, hst.2]) m0 hm0 rfl j.id htj
      obtain ⟨hopm, hpst, hmach0, _⟩ := held_record w hI hS hm0 hbusy hj hjin hp
      have hstep : RecStep s _ m0 (m0.toOutage outs (s.time + occupiedFor outs)) op0
          { op0 with stop := some (s.time + occupiedFor outs) } :=
        RecStep.mk_of w hI (J' := j.replaceOp { op0 with stop := some (s.time + occupiedFor outs) })
          (s' := (s.replaceMachine (m0.toOutage outs (s.time + occupiedFor outs))).replaceJob
            (j.replaceOp { op0 with stop := some (s.time + occupiedFor outs) })) hj hm0 hopm
          ⟨rfl, rfl⟩ rfl rfl (by simp [MachineState.toOutage]) rfl rfl hmach0 hmach0
      exact setup_step_extend w hI hS hP hstep hst.1 (by simp [MachineState.toOutage]) (by simp [MachineState.toOutage])
        hpst (by simp [hpst]) (by simp [tS])
    | outageToIdle =>
      have hst := machineHandler_outageToIdle hmh
      obtain ⟨j, op0, mc, rest, b1, b2, hstore, hj, hp, _, _, _, _, rfl⟩ := outageToIdle_spec run
      have hbusy : m0.st ≠ .idle := by rw [hst.1]; simp
      have hjin : j.id ∈ m0.buffer.store := by rw [hstore]; simp
      obtain ⟨hopm, hpst, hmach0, _⟩ := held_record w hI hS hm0 hbusy hj hjin hp
      have hstep : RecStep s _ m0 (m0.toIdle j.id b1 b2) op0 { op0 with stop := some s.time, st := .done } :=
        RecStep.mk_of w hI (J' := (j.replaceOp { op0 with stop := some s.time, st := .done }).at m0.post.id)
          (s' := (s.replaceJob ((j.replaceOp { op0 with stop := some s.time, st := .done }).at m0.post.id)).replaceMachine
            (m0.toIdle j.id b1 b2)) hj hm0 hopm
          ⟨rfl, rfl⟩ rfl rfl (by simp [MachineState.toIdle]) rfl rfl hmach0 hmach0
      exact setup_step_finish w hI hS hP hstep hst.1 (by simp [MachineState.toIdle]) (by simp [MachineState.toIdle])
        hpst rfl (by simp [tS])

def SetupPass (orc : Oracle) (inst : Instance) (cfg : SMConfig) (w : WF inst) (f : ι → TimeCfg) : Pass orc inst cfg where
  P := SetupInvG orc inst f
  GS := DueGS
  Adm := fun _ a => ∀ tr ∈ a.transitions, OfferShaped tr
  tail := fun h => h.tail
  step := fun hI hS hP hv hsafe _ hgs ha => ⟨applyTransition_setup w hI hS hP hv hsafe hgs ha, hgs.step w hI ha⟩
  advance := fun _ _ hP _ _ => hP.advance _
  timed := fun hI hS _ htt hposs htele => timed_due w hI hS htt (filterTeleport_shape hposs htele)
  timedOnly := fun hI hS _ htt => by simpa using timed_due w hI hS (tele := []) htt (by simp)
  action := fun _ _ _ hadm => DueGS.of_offers fun tr htr => hadm tr (mem_sortedByTransport htr)

theorem occursA_setup {cfg : SMConfig} {s0 σ : State} (hst : Start orc inst s0) (h : OccursA orc inst cfg s0 σ) :
    SetupInvG orc inst f σ := by
  obtain ⟨w, _⟩ := initOKB_sound hst.init
  exact occursA_pass (SetupPass orc inst cfg w f) hst (SetupInvG.of_rest hst.rest) (fun _ _ ha => ha.shaped) h

/-- the state a step returns (its clock possibly stamped with the makespan) -/
theorem final_setup {cfg : SMConfig} {s0 s : State} (hst : Start orc inst s0) (h : OccursA orc inst cfg s0 s)
    {a : Action} (ha : Admissible a) {fuel : Nat} {r r' : Rng} {res : SMResult} {mic : List State}
    (hstep : smStep orc inst cfg fuel s r a = .ok (res, r', mic)) : SetupInvG orc inst f res.state := by
  obtain ⟨w, hI, hS⟩ := occursA_inv hst h
  have nn := nonnegB_sound hst.samples hst.nonneg
  obtain ⟨t, ht⟩ := ((SetupPass orc inst cfg w f).smStep w nn hI hS (occursA_setup hst h) ha ha.shaped hstep).2.2.1
  exact SetupInvG.of_time ht

end JSL
