import JSL.Inv.Startable
import JSL.Inv.EnvReach

/-!
# An accepted machine start starts now

`env.step(1)` with a machine start `(mid, jid)` at the head of the offers submits exactly that
transition with `jump_to_event`; `state.step` applies the action's transitions before anything else,
so the first applied transition (the head of the ghost list `micro`) is the start, applied to the
very state the offer was made in.  Right after it the first idle operation `o` of job `jid` – the
one the offer was made for (T1) – is `PROCESSING` on machine `mid`, which is in `SETUP`, and its
recorded start is the decision instant `res.state.time`.
-/

namespace JSL

variable {orc : Oracle} {inst : Instance} {cfg : SMConfig}

theorem timedLoop_micro_prefix {fuel : Nat} {tt : List Transition} {s : State} {r : Rng} {subs mic : List State}
    {out : LoopOut} (h : timedLoop orc inst cfg fuel tt s r subs mic = .ok out) : ∃ rest, out.micro = mic ++ rest := by
  induction fuel generalizing tt s r subs mic with
  | zero =>
    cases tt with
    | nil => cases h; exact ⟨[], (List.append_nil _).symm⟩
    | cons a as => cases h
  | succ n ih =>
    cases tt with
    | nil => cases h; exact ⟨[], (List.append_nil _).symm⟩
    | cons a as =>
      obtain ⟨_, o, e, _, ⟨_, rfl⟩ | ⟨_, t, tt, _, _, h⟩⟩ := timedLoop_cons_ok h
      · exact ⟨o.micro, rfl⟩
      · cases e
        obtain ⟨rest, e⟩ := ih h
        exact ⟨o.micro ++ rest, by rw [e, List.append_assoc]⟩

theorem smStep_micro_prefix {fuel : Nat} {s0 : State} {r : Rng} {a : Action} {res : SMResult} {r' : Rng}
    {mic : List State} (h : smStep orc inst cfg fuel s0 r a = .ok (res, r', mic)) :
    ∃ p rest, processTransitions orc inst (sortedByTransport a.transitions) s0 r = .ok p ∧ mic = p.micro ++ rest := by
  obtain ⟨p, hp, ⟨_, _, rfl, _⟩ | ⟨_, t, timed, poss, tele, out, _, _, _, _, hout, _, rfl, _⟩⟩ := smStep_cases h
  · exact ⟨p, [], hp, by simp⟩
  · obtain ⟨rest, e⟩ := timedLoop_micro_prefix hout
    exact ⟨p, rest, hp, e⟩

theorem smStep_single_first {fuel : Nat} {s0 : State} {r : Rng} {a : Action} {tr : Transition} {res : SMResult}
    {r' : Rng} {mic : List State} (hat : a.transitions = [tr]) (hv : transitionValid s0 tr = .ok true)
    (h : smStep orc inst cfg fuel s0 r a = .ok (res, r', mic)) :
    ∃ s1 r1 rest, applyTransition orc inst s0 r tr = .ok (s1, r1) ∧ mic = s1 :: rest := by
  obtain ⟨p, rest, hp, e⟩ := smStep_micro_prefix h
  rw [hat, sortedByTransport_single] at hp
  rcases processTransitions_cons_ok hp with ⟨_, s1, r1, o1, ha, ho1, rfl⟩ | ⟨hv', _⟩
  · cases ho1
    exact ⟨s1, r1, rest, ha, e⟩
  · rw [hv] at hv'; cases hv'

/-- **what the start of a startable operation writes**: applied to a state with the structural and
the schedule invariant, the machine start offered for job `j` with first idle operation `o` turns
the record of `o` into `PROCESSING` on that machine from now on, moves the job into the internal
buffer of the machine, and puts the machine into SETUP until the recorded end -/
theorem start_applies_now (w : WF inst) {s s1 : State} {r r1 : Rng} (hI : StructInv inst s) (hS : SchedInv s)
    {j : JobState} (hj : j ∈ s.jobs) {o : OpState} {m : MachineState} (hst : StartableOp s j o m)
    (h : applyTransition orc inst s r { comp := .m o.machine, new := .m .setup, job := some j.id } = .ok (s1, r1)) :
    ∃ sd : Int, ∃ j1 ∈ s1.jobs, j1.id = j.id ∧ j1.loc = m.buffer.id ∧
      (∃ o1 ∈ j1.ops, o1.job = o.job ∧ o1.idx = o.idx ∧ o1.st = .processing ∧ o1.machine = o.machine ∧
        o1.start = some s.time ∧ o1.stop = some (s.time + sd)) ∧
      ∃ m1 ∈ s1.machines, m1.id = o.machine ∧ m1.st = .setup ∧ m1.occ = some (s.time + sd) ∧
        m1.buffer.store = m.buffer.store ++ [j.id] := by
  have hjn := hI.shape.jobsNodup w
  have hmn := hI.shape.machNodup w
  have hm := getMachine_ok hst.machine
  have hnn : j.nextNotDone? = some o := by
    rw [nextNotDone_eq_nextIdle (hS.ops j hj) hst.notRunning, hst.nextIdle]
  have ho : o ∈ j.ops := (find?_mem_ops hst.nextIdle).1
  rw [applyTransition_on_machine hst.machine, hst.idle] at h
  obtain ⟨j2, op2, oc, mc, sd, b1, b2, hj2, htj, _, hnn2, _, hk1, hk2, _, _, _, _, rfl⟩ := idleToSetup_spec h
  have hid : j2.id = j.id := by simpa using htj.symm
  have : j2 = j := eq_of_mem_of_key_eq (key := fun (y : JobState) => y.id) hjn hj2 hj hid
  subst this
  have : op2 = o := by rw [hnn] at hnn2; simpa using hnn2.symm
  subst this
  refine ⟨sd, (j2.replaceOp (opRec oc s.time (s.time + sd) m.id)).at m.buffer.id, ?_, rfl, rfl,
    ⟨opRec oc s.time (s.time + sd) m.id, ?_, hk1, hk2, rfl, hm.2, rfl, rfl⟩,
    m.toSetup j2.id b1 b2 (s.time + sd) oc.tool, ?_, hm.2, rfl, rfl, rfl⟩
  · show _ ∈ (s.replaceJob _).jobs
    exact (mem_replaceJob hjn hj2 (j' := (j2.replaceOp (opRec oc s.time (s.time + sd) m.id)).at m.buffer.id) rfl _).mpr (Or.inl rfl)
  · show _ ∈ (j2.replaceOp _).ops
    exact mem_replaceOp.mpr (Or.inl ⟨rfl, op2, ho, hk1.symm, hk2.symm⟩)
  · show _ ∈ ((s.replaceJob _).replaceMachine _).machines
    simp only [State.replaceMachine, State.replaceJob]
    exact List.mem_map.mpr ⟨m, hm.1, by simp [MachineState.toSetup]⟩

variable {mc : MwCfg} {fuel : Nat}

theorem mwStep_accept_smStep {res : SMResult} {m : MwState} {r : Rng} {tr : Transition} {rest : List Transition}
    (hp : res.possible = tr :: rest) {out : SMResult × MwState × Rng × List State}
    (h : mwStep orc inst cfg mc fuel res m r .accept = .ok out) :
    smStep orc inst cfg fuel res.state r { transitions := [tr], noOp := false, tm := .jumpToEvent } =
      .ok (out.1, out.2.2.1, out.2.2.2) ∧ out.2.1 = { m with actCnt := m.actCnt + 1 } := by
  rcases mwStep_spec h with ⟨_, _, _, ha, _⟩ | ⟨o, rest', _, _, _, _, hp', hs, rfl⟩ | ⟨_, _, _, _, ha, _⟩
  · cases ha
  · rw [hp] at hp'
    cases hp'
    exact ⟨hs, rfl⟩
  · cases ha

/-- **T4 at the middleware.**  In a state with the structural and the schedule invariant whose
offers were computed from it, with the machine start `(mid, jid)` at the head: if "accept" returns,
the start was applied first, to the state held, and right after it the operation the offer was made
for is running from the decision instant on. -/
theorem mwStep_accept_starts_now (w : WF inst) {res : SMResult} {m : MwState} {r : Rng} (hI : StructInv inst res.state)
    (hS : SchedInv res.state) {poss : List Transition} (hposs : possibleTransitions inst cfg res.state = .ok poss)
    {mid jid : Nat} {rest : List Transition}
    (hp : res.possible = { comp := .m mid, new := .m .setup, job := some jid } :: rest)
    (hsub : ({ comp := .m mid, new := .m .setup, job := some jid } : Transition) ∈ poss)
    {out : SMResult × MwState × Rng × List State} (h : mwStep orc inst cfg mc fuel res m r .accept = .ok out) :
    ∃ s1 r1 mic', applyTransition orc inst res.state r { comp := .m mid, new := .m .setup, job := some jid } = .ok (s1, r1) ∧
      out.2.2.2 = s1 :: mic' ∧
      ∃ j ∈ res.state.jobs, j.id = jid ∧ ∃ o mm, StartableOp res.state j o mm ∧ o.machine = mid ∧
      ∃ sd : Int, ∃ j1 ∈ s1.jobs, j1.id = jid ∧
        (∃ o1 ∈ j1.ops, o1.job = o.job ∧ o1.idx = o.idx ∧ o1.st = .processing ∧ o1.machine = mid ∧
          o1.start = some res.state.time ∧ o1.stop = some (res.state.time + sd)) ∧
        ∃ m1 ∈ s1.machines, m1.id = mid ∧ m1.st = .setup ∧ m1.occ = some (res.state.time + sd) := by
  obtain ⟨hs, _⟩ := mwStep_accept_smStep hp h
  have hv := offers_valid w hI hS hposs _ hsub
  obtain ⟨s1, r1, mic', ha, hmic⟩ := smStep_single_first rfl hv hs
  obtain ⟨j, hj, o, mm, hst, hm, e⟩ := offers_sound_op hS hposs hsub rfl
  simp only [Transition.mk.injEq, Comp.m.injEq, true_and, Option.some.injEq] at e
  obtain ⟨rfl, rfl⟩ := e
  obtain ⟨sd, j1, hj1, e1, _, ⟨o1, ho1, k1, k2, k3, k4, k5, k6⟩, m1, hm1, f1, f2, f3, _⟩ :=
    start_applies_now w hI hS hj hst ha
  exact ⟨s1, r1, mic', ha, hmic, j, hj, rfl, o, mm, hst, rfl, sd, j1, hj1, e1,
    ⟨o1, ho1, k1, k2, k3, k4, k5, k6⟩, m1, hm1, f1, f2, f3⟩

end JSL
