import JSL.Inv.ReachList

/-!
# List schedules dominate feasible schedules (C06, reachability side; model independent)

For a feasible schedule `T` of an instance with positive durations there is an order `π` whose list
schedule starts every operation no later than `T` does (`dominated_of_feasT`).  The order is built
greedily: as long as operations are left, the unplaced operation with the least `T`-start is the
next operation of its job (its job predecessors start strictly earlier), and placing it keeps the
list starts below the `T`-starts, because everything placed before it on its machine or in its job
starts no later in `T`, hence – `T` being feasible and durations positive – ends before it starts.
-/

namespace JSL

variable {inst : Instance}

def remaining (inst : Instance) (ls : LS) : Nat := (inst.jobs.map fun jc => jc.ops.length - ls.cnt jc.id).sum

theorem remaining_place {ls : LS} {jc : JobCfg} (hjc : jc ∈ inst.jobs) (hlt : ls.cnt jc.id < jc.ops.length)
    (oc : OpCfg) : remaining inst (lsPlace ls jc.id oc) < remaining inst ls := by
  apply sum_lt_sum
  · exact fun a _ => Nat.sub_le_sub_left (cnt_le_place ls jc.id oc a.id) _
  · refine ⟨jc, hjc, Nat.sub_lt_sub_left hlt ?_⟩
    rw [lsPlace_cnt, if_pos rfl]
    exact Nat.lt_succ_self _

theorem exists_min {α} (f : α → Int) : ∀ (l : List α), l ≠ [] → ∃ x ∈ l, ∀ y ∈ l, f x ≤ f y
  | [], h => absurd rfl h
  | [x], _ => ⟨x, by simp, fun y hy => by simp at hy; subst hy; exact Int.le_refl _⟩
  | x :: x' :: xs, _ => by
    obtain ⟨m, hm, hmin⟩ := exists_min f (x' :: xs) (by simp)
    by_cases hx : f x ≤ f m
    · refine ⟨x, by simp, ?_⟩
      intro y hy
      rcases List.mem_cons.mp hy with rfl | hy'
      · exact Int.le_refl _
      · exact Int.le_trans hx (hmin y hy')
    · refine ⟨m, List.mem_cons_of_mem _ hm, ?_⟩
      intro y hy
      rcases List.mem_cons.mp hy with rfl | hy'
      · omega
      · exact hmin y hy'

theorem exists_min_unplaced (T : Nat → Nat → Int) (ls : LS) (h : ∃ oc, Unplaced inst ls oc) :
    ∃ m, Unplaced inst ls m ∧ ∀ y, Unplaced inst ls y → T m.job m.idx ≤ T y.job y.idx := by
  classical
  obtain ⟨oc, hoc⟩ := h
  have hU : ∀ x, x ∈ (allOps inst).filter (fun x => decide (Unplaced inst ls x)) ↔ Unplaced inst ls x := by
    intro x
    simp only [List.mem_filter, decide_eq_true_eq]
    exact ⟨fun h => h.2, fun h => ⟨h.mem, h⟩⟩
  obtain ⟨m, hm, hmin⟩ := exists_min (fun x : OpCfg => T x.job x.idx)
      ((allOps inst).filter (fun x => decide (Unplaced inst ls x))) (by
    intro e
    have := (hU oc).mpr hoc
    rw [e] at this
    cases this)
  exact ⟨m, (hU m).mp hm, fun y hy => hmin y ((hU y).mpr hy)⟩

theorem min_unplaced_next (hposd : ∀ oc ∈ allOps inst, 0 < oc.d) {T : Nat → Nat → Int} (hT : FeasT inst T) {ls : LS}
    {m : OpCfg} (hm : Unplaced inst ls m) (hmin : ∀ y, Unplaced inst ls y → T m.job m.idx ≤ T y.job y.idx) :
    ∃ jc ∈ inst.jobs, jc.ops[ls.cnt jc.id]? = some m := by
  obtain ⟨jc, hjc, k, hk, hmk⟩ := hm
  refine ⟨jc, hjc, ?_⟩
  by_cases e : k = ls.cnt jc.id
  · rw [← e]; exact hmk
  · exfalso
    have hklen := (List.getElem?_eq_some_iff.mp hmk).1
    have hlt : ls.cnt jc.id < jc.ops.length := by omega
    have ha : jc.ops[ls.cnt jc.id]? = some jc.ops[ls.cnt jc.id] := List.getElem?_eq_getElem hlt
    have hua : Unplaced inst ls jc.ops[ls.cnt jc.id] := ⟨jc, hjc, ls.cnt jc.id, Nat.le_refl _, ha⟩
    have h1 := hT.before_pos (fun oc hoc => Int.le_of_lt (hposd oc hoc)) hjc ha hmk (by omega)
    have h2 := hmin _ hua
    have h3 := hposd _ hua.mem
    omega

structure Below (inst : Instance) (T : Nat → Nat → Int) (ls : LS) : Prop where
  le : ∀ x, Placed inst ls x → ls.st x.job x.idx ≤ T x.job x.idx
  first : ∀ x y, Placed inst ls x → Unplaced inst ls y → T x.job x.idx ≤ T y.job y.idx

theorem Below.init (inst : Instance) (T : Nat → Nat → Int) : Below inst T LS.init :=
  ⟨fun _ ⟨_, _, k, hk, _⟩ => absurd hk (Nat.not_lt_zero k), fun _ _ ⟨_, _, k, hk, _⟩ => absurd hk (Nat.not_lt_zero k)⟩

/-- placing the unplaced operation with the least `T`-start keeps the state below `T`: whatever ends
last so far in its job or on its machine starts no later in `T`, hence ends in `T` before it starts -/
theorem Below.place (w : WF inst) (hposd : ∀ oc ∈ allOps inst, 0 < oc.d) {T : Nat → Nat → Int} (hT : FeasT inst T)
    {ls : LS} (hI : LInv inst ls) (hB : Below inst T ls)
    {jc : JobCfg} (hjc : jc ∈ inst.jobs) {m : OpCfg} (hoc : jc.ops[ls.cnt jc.id]? = some m)
    (hmin : ∀ y, Unplaced inst ls y → T m.job m.idx ≤ T y.job y.idx) : Below inst T (lsPlace ls jc.id m) := by
  have hnn : ∀ oc ∈ allOps inst, 0 ≤ oc.d := fun oc hoc => Int.le_of_lt (hposd oc hoc)
  have hmm : m ∈ jc.ops := List.mem_of_getElem? hoc
  have hma : m ∈ allOps inst := mem_allOps hjc hmm
  have hmu : Unplaced inst ls m := ⟨jc, hjc, ls.cnt jc.id, Nat.le_refl _, hoc⟩
  have hjob : m.job = jc.id := w.opJob jc hjc m hmm
  constructor
  · intro x hx
    rcases (placed_place_iff w hjc hoc).mp hx with h | rfl
    · rw [st_old w hjc hoc h]
      exact hB.le x h
    · rw [st_new w hjc hoc]
      refine Int.max_le.mpr ⟨?_, ?_⟩
      · rcases hI.jal jc.id with e | ⟨a, ⟨jc', hjc', k', hk', ha⟩, haj, e⟩
        · rw [e]
          exact hT.nonneg x hma
        · obtain rfl := job_unique w hjc' hjc ((w.opJob jc' hjc' a (List.mem_of_getElem? ha)).symm.trans haj)
          rw [e]
          exact Int.le_trans (Int.add_le_add_right (hB.le a ⟨jc', hjc', k', hk', ha⟩) _)
            (hT.before_pos hnn hjc' ha hoc hk')
      · rcases hI.mal x.machine with e | ⟨a, hpa, ham, e⟩
        · rw [e]
          exact hT.nonneg x hma
        · have hne : (a.job, a.idx) ≠ (x.job, x.idx) := fun e' =>
            placed_ne w hjc hoc hpa ⟨(Prod.mk.inj e').1.trans hjob, (Prod.mk.inj e').2⟩
          rw [e]
          rcases hT.excl a hpa.mem x hma ham hne with h1 | h1
          · exact Int.le_trans (Int.add_le_add_right (hB.le a hpa) _) h1
          · have h2 := hB.first a x hpa hmu
            have h4 := hposd x hma
            omega
  · intro x y hx hy
    have hy' := unplaced_place jc.id hy
    rcases (placed_place_iff w hjc hoc).mp hx with h | rfl
    · exact hB.first x y h hy'
    · exact hmin y hy'

theorem dom_extend (w : WF inst) (hposd : ∀ oc ∈ allOps inst, 0 < oc.d) {T : Nat → Nat → Int} (hT : FeasT inst T)
    (n : Nat) (π0 : List Nat) (hrem : remaining inst (lsRun inst π0) < n)
    (hcnt : ∀ jc ∈ inst.jobs, π0.count jc.id = (lsRun inst π0).cnt jc.id) (hB : Below inst T (lsRun inst π0)) :
    ∃ π, ValidOrder inst π ∧ ∀ oc ∈ allOps inst, listStarts inst π oc.job oc.idx ≤ T oc.job oc.idx := by
  induction n generalizing π0 with
  | zero => exact absurd hrem (Nat.not_lt_zero _)
  | succ n ih =>
    have hI := LInv.run w (fun oc hoc => Int.le_of_lt (hposd oc hoc)) π0
    by_cases hU : ∃ oc, Unplaced inst (lsRun inst π0) oc
    · obtain ⟨m, hm, hmin⟩ := exists_min_unplaced T _ hU
      obtain ⟨jc, hjc, hoc⟩ := min_unplaced_next hposd hT hm hmin
      have e : lsRun inst (π0 ++ [jc.id]) = lsPlace (lsRun inst π0) jc.id m := by
        rw [lsRun_concat, lsStep_next w hjc hoc]
      apply ih (π0 ++ [jc.id])
      · rw [e]
        exact Nat.lt_of_lt_of_le (remaining_place hjc (List.getElem?_eq_some_iff.mp hoc).1 m) (Nat.le_of_lt_succ hrem)
      · intro jc' hjc'
        rw [e, List.count_append, hcnt jc' hjc', lsPlace_cnt, List.count_singleton]
        by_cases e' : jc'.id = jc.id
        · rw [if_pos e', e', beq_self_eq_true, if_pos rfl]
        · rw [if_neg e', beq_false_of_ne (Ne.symm e')]
          rfl
      · rw [e]
        exact hB.place w hposd hT hI hjc hoc hmin
    · refine ⟨π0, ?_, ?_⟩
      · intro jc hjc
        rw [hcnt jc hjc]
        refine Nat.le_antisymm (hI.cntLe jc hjc) (Nat.not_lt.mp fun hlt => hU ?_)
        exact ⟨_, jc, hjc, _, Nat.le_refl _, List.getElem?_eq_getElem hlt⟩
      · intro oc hoc
        rcases placed_or_unplaced (lsRun inst π0) hoc with h | h
        · exact hB.le oc h
        · exact absurd ⟨oc, h⟩ hU

/-- **Domination, abstract form**: for a feasible schedule `T` of an instance with positive durations
there is a valid order whose list schedule starts every operation no later than `T`. -/
theorem dominated_of_feasT (w : WF inst) (hposd : ∀ oc ∈ allOps inst, 0 < oc.d) {T : Nat → Nat → Int}
    (hT : FeasT inst T) :
    ∃ π, ValidOrder inst π ∧ ∀ oc ∈ allOps inst, listStarts inst π oc.job oc.idx ≤ T oc.job oc.idx :=
  dom_extend w hposd hT _ [] (Nat.lt_succ_self _) (fun _ _ => rfl) (Below.init inst T)

end JSL
