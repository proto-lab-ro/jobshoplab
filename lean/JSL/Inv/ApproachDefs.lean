import JSL.Inv.EnvReach

/-!
# The ordered list of applied transitions of an episode

`Calls.lean` records the applications `state.step` makes as a relation without order.  The approach
leg relates two applications of one episode (a dispatch and a later pickup), so the applications are
listed here *in order*: `procCalls` (one batch), `loopCalls` (the `while timed_transitions` loop),
`stepCalls` (one `state.step`), `mwCalls` (one `middleware.step`), `EnvRun` (an episode).  The
functions follow the code clause by clause; `…_micro` show that the post-states of the listed calls
are exactly the ghost list `micro` (the post-state of every applied transition, in order) the model
returns, so the list is *the* list of applications of the step.
-/

namespace JSL

structure Call where
  pre : State
  tr : Transition
  post : State
  deriving DecidableEq, Repr

variable (orc : Oracle) (inst : Instance)

def procCalls : List Transition → State → Rng → List Call
  | [], _, _ => []
  | tr :: L, s, r =>
    match transitionValid s tr with
    | .ok true =>
      match applyTransition orc inst s r tr with
      | .ok (s1, r1) => ⟨s, tr, s1⟩ :: procCalls L s1 r1
      | .error _ => []
    | .ok false => procCalls L s r
    | .error _ => []

def loopCalls (cfg : SMConfig) : Nat → List Transition → State → Rng → List Call
  | _, [], _, _ => []
  | 0, _ :: _, _, _ => []
  | fuel + 1, tr :: tt, s, r =>
    procCalls orc inst (tr :: tt) s r ++
      (match processTransitions orc inst (tr :: tt) s r with
       | .ok o =>
         if o.nerr > 0 then [] else
         match jumpToEvent inst cfg o.state with
         | .ok t =>
           match timedTransitions inst { o.state with time := t } with
           | .ok tt' => loopCalls cfg fuel tt' { o.state with time := t } o.rng
           | .error _ => []
         | .error _ => []
       | .error _ => [])

def stepCalls (cfg : SMConfig) (fuel : Nat) (s0 : State) (r : Rng) (a : Action) : List Call :=
  procCalls orc inst (sortedByTransport a.transitions) s0 r ++
    (match processTransitions orc inst (sortedByTransport a.transitions) s0 r with
     | .ok p =>
       if p.nerr > 0 then [] else
       match runTimeMachine inst cfg p.state a.tm with
       | .ok t =>
         match timedTransitions inst { p.state with time := t },
               possibleTransitions inst cfg { p.state with time := t } with
         | .ok timed, .ok poss =>
           match filterTeleport orc inst p.rng { p.state with time := t } poss with
           | .ok tele => loopCalls orc inst cfg fuel (timed ++ tele) { p.state with time := t } p.rng
           | .error _ => []
         | _, _ => []
       | .error _ => []
     | .error _ => [])

def mwCalls (cfg : SMConfig) (fuel : Nat) (res : SMResult) (r : Rng) : AgentAct → List Call
  | .outside => []
  | .accept =>
    match res.possible with
    | [] => []
    | tr :: _ => stepCalls orc inst cfg fuel res.state r { transitions := [tr], noOp := false, tm := .jumpToEvent }
  | .decline =>
    match res.possible with
    | [_] => stepCalls orc inst cfg fuel res.state r { noOpAction with tm := .forceJump }
    | _ => []

inductive EnvRun (ec : EnvCfg) (st : RewardStatic) (s0 : State) : EnvState → List Call → Prop
  | reset {r e mic} : envReset orc inst ec s0 r = .ok (e, mic) →
      EnvRun ec st s0 e (stepCalls orc inst ec.sm ec.fuel s0 r noOpAction)
  | step {e a out C} : EnvRun ec st s0 e C → envStep orc inst ec st e a = .ok out →
      EnvRun ec st s0 out.env (C ++ mwCalls orc inst ec.sm ec.fuel e.res e.rng a)

variable {orc inst}

theorem procCalls_cons_ok {tr : Transition} {L : List Transition} {s s1 : State} {r r1 : Rng}
    (hv : transitionValid s tr = .ok true) (ha : applyTransition orc inst s r tr = .ok (s1, r1)) :
    procCalls orc inst (tr :: L) s r = ⟨s, tr, s1⟩ :: procCalls orc inst L s1 r1 := by
  simp only [procCalls, hv, ha]

theorem procCalls_cons_skip {tr : Transition} {L : List Transition} {s : State} {r : Rng}
    (hv : transitionValid s tr = .ok false) : procCalls orc inst (tr :: L) s r = procCalls orc inst L s r := by
  simp only [procCalls, hv]

variable {cfg : SMConfig}

theorem loopCalls_cons_fail {n : Nat} {a : Transition} {as : List Transition} {s : State} {r : Rng} {o : ProcOut}
    (ho : processTransitions orc inst (a :: as) s r = .ok o) (hn : 0 < o.nerr) :
    loopCalls orc inst cfg (n + 1) (a :: as) s r = procCalls orc inst (a :: as) s r := by
  simp only [loopCalls, ho, gt_iff_lt, hn, if_true, List.append_nil]

theorem loopCalls_cons_next {n : Nat} {a : Transition} {as tt' : List Transition} {s : State} {r : Rng}
    {o : ProcOut} {t : Int} (ho : processTransitions orc inst (a :: as) s r = .ok o) (hn : o.nerr = 0)
    (ht : jumpToEvent inst cfg o.state = .ok t) (htt : timedTransitions inst { o.state with time := t } = .ok tt') :
    loopCalls orc inst cfg (n + 1) (a :: as) s r =
      procCalls orc inst (a :: as) s r ++ loopCalls orc inst cfg n tt' { o.state with time := t } o.rng := by
  simp only [loopCalls, ho, hn, gt_iff_lt, Nat.lt_irrefl, if_false, ht, htt]

theorem stepCalls_fail {fuel : Nat} {s0 : State} {r : Rng} {a : Action} {p : ProcOut}
    (hp : processTransitions orc inst (sortedByTransport a.transitions) s0 r = .ok p) (hn : 0 < p.nerr) :
    stepCalls orc inst cfg fuel s0 r a = procCalls orc inst (sortedByTransport a.transitions) s0 r := by
  simp only [stepCalls, hp, gt_iff_lt, hn, if_true, List.append_nil]

theorem stepCalls_next {fuel : Nat} {s0 : State} {r : Rng} {a : Action} {p : ProcOut} {t : Int}
    {timed poss tele : List Transition}
    (hp : processTransitions orc inst (sortedByTransport a.transitions) s0 r = .ok p) (hn : p.nerr = 0)
    (ht : runTimeMachine inst cfg p.state a.tm = .ok t)
    (htimed : timedTransitions inst { p.state with time := t } = .ok timed)
    (hposs : possibleTransitions inst cfg { p.state with time := t } = .ok poss)
    (htele : filterTeleport orc inst p.rng { p.state with time := t } poss = .ok tele) :
    stepCalls orc inst cfg fuel s0 r a =
      procCalls orc inst (sortedByTransport a.transitions) s0 r ++
        loopCalls orc inst cfg fuel (timed ++ tele) { p.state with time := t } p.rng := by
  simp only [stepCalls, hp, hn, gt_iff_lt, Nat.lt_irrefl, if_false, ht, htimed, hposs, htele]

theorem ap_procCalls_micro : ∀ (L : List Transition) (s : State) (r : Rng) (o : ProcOut),
    processTransitions orc inst L s r = .ok o → (procCalls orc inst L s r).map (·.post) = o.micro
  | [], s, r, o, h => by cases h; rfl
  | tr :: L, s, r, o, h => by
    rcases processTransitions_cons_ok h with ⟨hv, s1, r1, o1, ha, ho1, rfl⟩ | ⟨hv, o1, ho1, rfl⟩
    · rw [procCalls_cons_ok hv ha, List.map_cons, ap_procCalls_micro L s1 r1 o1 ho1]
    · rw [procCalls_cons_skip hv]
      exact ap_procCalls_micro L s r o1 ho1

theorem ap_loopCalls_micro : ∀ (fuel : Nat) (tt : List Transition) (s : State) (r : Rng)
    (subs mic : List State) (out : LoopOut), timedLoop orc inst cfg fuel tt s r subs mic = .ok out →
    out.micro = mic ++ (loopCalls orc inst cfg fuel tt s r).map (·.post)
  | fuel, [], s, r, subs, mic, out, h => by
    rw [timedLoop_nil] at h
    cases h
    cases fuel <;> simp [loopCalls]
  | 0, a :: as, s, r, subs, mic, out, h => by cases h
  | n + 1, a :: as, s, r, subs, mic, out, h => by
    obtain ⟨_, o, e, ho, hcase⟩ := timedLoop_cons_ok h
    cases e
    have hm := ap_procCalls_micro _ _ _ _ ho
    rcases hcase with ⟨hn, rfl⟩ | ⟨hn, t, tt', ht, htt', h⟩
    · rw [loopCalls_cons_fail ho hn, hm]
    · rw [loopCalls_cons_next ho hn ht htt', ap_loopCalls_micro _ _ _ _ _ _ _ h, List.map_append, hm,
        List.append_assoc]

theorem ap_stepCalls_micro {fuel : Nat} {s0 : State} {r : Rng} {a : Action} {res : SMResult}
    {r' : Rng} {mic : List State} (h : smStep orc inst cfg fuel s0 r a = .ok (res, r', mic)) :
    (stepCalls orc inst cfg fuel s0 r a).map (·.post) = mic := by
  obtain ⟨p, hp, hcase⟩ := smStep_cases h
  have hm := ap_procCalls_micro _ _ _ _ hp
  rcases hcase with ⟨hn, _, rfl, _⟩ | ⟨hn, t, timed, poss, tele, out, ht, htimed, hposs, htele, hout, _, rfl, _⟩
  · rw [stepCalls_fail hp hn, hm]
  · rw [stepCalls_next hp hn ht htimed hposs htele, List.map_append, hm, ap_loopCalls_micro _ _ _ _ _ _ _ hout]

end JSL
