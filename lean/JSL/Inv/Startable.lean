import JSL.Inv.Offers
import JSL.Inv.Progress
import JSL.Props.Example

/-!
# The machine starts on offer are exactly the startable operations

`possibleTransitions` offers `{ comp := .m o.machine, new := .m .setup, job := some j.id }` exactly for
the jobs `j` of the state that are not running, have an idle operation `o` (the first one), whose
first not-done operation `op` is routed to a machine that exists, is idle, and in front of which
(in its pre-buffer) the job is located.  In a state satisfying the schedule invariant `op = o`
(`nextNotDone_eq_nextIdle`), so the condition speaks about `o` only; in an arbitrary state the two
may differ (a record with the status `TRANSPORT`), and the code then checks one machine and offers
another: `startable_needs_order`.
-/

namespace JSL

variable {inst : Instance}

/-- the job-side and machine-side conditions of a machine start: `o` is the first idle record,
`op` the first record that is not done, `m` the machine `op` is routed to -/
structure Startable (s : State) (j : JobState) (o op : OpState) (m : MachineState) : Prop where
  notRunning : j.running = false
  nextIdle : j.nextIdle? = some o
  nextNotDone : j.nextNotDone? = some op
  machine : getMachine s.machines op.machine = .ok m
  idle : m.st = .idle
  atPre : m.pre.id = j.loc

/-- the first transport of the instance exists and is no teleporter (otherwise
`is_action_possible` raises for every job with a free next operation) -/
def HeadTransportOK (inst : Instance) : Prop := ∃ t0 ts, inst.transports = t0 :: ts ∧ t0.type ≠ .teleporter

theorem nextOpFree_iff {j : JobState} : j.nextOpFree = true ↔ j.running = false ∧ ∃ o, j.nextIdle? = some o := by
  unfold JobState.nextOpFree JobState.nextIdle?
  constructor
  · intro h
    simp only [Bool.and_eq_true, Bool.not_eq_true', List.any_eq_true] at h
    obtain ⟨h1, x, hx, hp⟩ := h
    refine ⟨h1, ?_⟩
    cases hf : j.ops.find? (fun x => x.st == .idle) with
    | none => exact absurd hp (by simpa using List.find?_eq_none.mp hf x hx)
    | some o => exact ⟨o, rfl⟩
  · rintro ⟨h1, o, ho⟩
    simp only [Bool.and_eq_true, Bool.not_eq_true', List.any_eq_true]
    exact ⟨h1, o, List.mem_of_find?_eq_some ho, by simpa using List.find?_some ho⟩

theorem headTransportOK_of_actionPossible {s : State} {j : JobState} {b : Bool}
    (hap : actionPossible inst s j = .ok b) (hfree : j.nextOpFree = true) : HeadTransportOK inst := by
  unfold actionPossible at hap
  simp only [hfree, Bool.not_true, Bool.false_eq_true, ↓reduceIte] at hap
  cases ht : inst.transports with
  | nil =>
    simp only [ht] at hap
    obtain ⟨_, h, _⟩ := except_bind_eq_ok hap
    cases h
  | cons t ts =>
    simp only [ht, except_pure, except_bind_ok] at hap
    split at hap
    · obtain ⟨_, h, _⟩ := except_bind_eq_ok hap
      cases h
    · rename_i htele
      exact ⟨t, ts, ht, by simpa using htele⟩

/-- `is_action_possible` returns `True` exactly for the startable jobs -/
theorem actionPossible_true_iff {s : State} {j : JobState} :
    actionPossible inst s j = .ok true ↔
      HeadTransportOK inst ∧ ∃ o op m, Startable s j o op m := by
  constructor
  · intro hap
    obtain ⟨hrun, op, m, hnn, hgm, hloc, hidle⟩ := actionPossible_ok hap
    have hfree : j.nextOpFree = true := by
      cases hf : j.nextOpFree with
      | true => rfl
      | false =>
        unfold actionPossible at hap
        simp only [hf, Bool.not_false, ↓reduceIte] at hap
        cases hap
    obtain ⟨_, o, ho⟩ := nextOpFree_iff.mp hfree
    exact ⟨headTransportOK_of_actionPossible hap hfree, o, op, m, hrun, ho, nextNotDone_ok hnn, hgm, hidle, hloc⟩
  · rintro ⟨⟨t0, ts, ht0, htele⟩, o, op, m, hst⟩
    have hfree : j.nextOpFree = true := nextOpFree_iff.mpr ⟨hst.notRunning, o, hst.nextIdle⟩
    have hnn : j.nextNotDone = .ok op := by simp [JobState.nextNotDone, hst.nextNotDone]
    have hjm : jobAtMachine j m = .ok true := by
      simp [jobAtMachine, hnn, hst.atPre, bind, Except.bind, pure, Except.pure]
    have htele' : (t0.type == TrType.teleporter) = false := by simpa using htele
    unfold actionPossible
    simp [hfree, ht0, htele', hnn, hst.machine, hjm, hst.idle, bind, Except.bind, pure, Except.pure]

theorem machineOffers_eq : ∀ (pj : List JobState) (mt : List Transition),
    pj.mapM (fun j => match j.nextIdle? with
      | some o => (pure ({ comp := .m o.machine, new := .m .setup, job := some j.id } : Transition) : Except Err Transition)
      | none => throw Err.typeError) = .ok mt →
    mt = pj.filterMap (fun j => j.nextIdle?.map fun o =>
        ({ comp := .m o.machine, new := .m .setup, job := some j.id } : Transition))
  | [], mt, h => by simp [List.mapM_nil] at h; subst h; rfl
  | a :: as, mt, h => by
    rw [List.mapM_cons] at h
    obtain ⟨b, hb, h⟩ := except_bind_eq_ok h
    obtain ⟨bs, hbs, h⟩ := except_bind_eq_ok h
    simp at h; subst h
    have ih := machineOffers_eq as bs hbs
    cases hn : a.nextIdle? with
    | none => simp [hn] at hb
    | some o =>
      simp [hn] at hb; subst hb
      simp [hn, ← ih]

theorem possibleTransitions_split {cfg : SMConfig} {s : State} {poss : List Transition}
    (h : possibleTransitions inst cfg s = .ok poss) :
    ∃ pj pt, possibleJobs inst s = .ok pj ∧ possibleTransportTransitions inst cfg s = .ok pt ∧
      (∀ j ∈ pj, ∃ o, j.nextIdle? = some o) ∧
      poss = pj.filterMap (fun j => j.nextIdle?.map fun o =>
        ({ comp := .m o.machine, new := .m .setup, job := some j.id } : Transition)) ++ pt := by
  unfold possibleTransitions at h
  obtain ⟨pj, hpj, h⟩ := except_bind_eq_ok h
  obtain ⟨pt, hpt, h⟩ := except_bind_eq_ok h
  obtain ⟨mt, hmt, h⟩ := except_bind_eq_ok h
  simp at h; subst h
  refine ⟨pj, pt, hpj, hpt, ?_, ?_⟩
  · intro j hj
    obtain ⟨y, _, e⟩ := (mapM_ok_mem hmt).1 j hj
    cases hn : j.nextIdle? with
    | none => simp [hn] at e
    | some o => exact ⟨o, rfl⟩
  · rw [machineOffers_eq pj mt hmt]

/-- **T1 (a), completeness.**  Whenever the offers are computed, every startable job is offered its
machine start. -/
theorem offers_complete {cfg : SMConfig} {s : State} {poss : List Transition}
    (h : possibleTransitions inst cfg s = .ok poss) {j : JobState} (hj : j ∈ s.jobs)
    {o op : OpState} {m : MachineState} (hst : Startable s j o op m) :
    ({ comp := .m o.machine, new := .m .setup, job := some j.id } : Transition) ∈ poss := by
  obtain ⟨pj, pt, hpj, _, _, rfl⟩ := possibleTransitions_split h
  unfold possibleJobs at hpj
  obtain ⟨b, hb⟩ := filterE_total hpj j hj
  have hhead := headTransportOK_of_actionPossible hb (nextOpFree_iff.mpr ⟨hst.notRunning, o, hst.nextIdle⟩)
  have hap : actionPossible inst s j = .ok true := actionPossible_true_iff.mpr ⟨hhead, o, op, m, hst⟩
  have hmem := filterE_mem_of_true hpj j hj hap
  apply List.mem_append_left
  exact List.mem_filterMap.mpr ⟨j, hmem, by simp [hst.nextIdle]⟩

/-- **T1 (b), soundness.**  Every offer addressed to a machine is the machine start of a startable
job of the state, for the machine of its first idle operation. -/
theorem offers_sound {cfg : SMConfig} {s : State} {poss : List Transition}
    (h : possibleTransitions inst cfg s = .ok poss) {tr : Transition} (htr : tr ∈ poss) {mid : Nat}
    (hc : tr.comp = .m mid) :
    ∃ j ∈ s.jobs, ∃ o op m, Startable s j o op m ∧ o.machine = mid ∧
      tr = { comp := .m o.machine, new := .m .setup, job := some j.id } := by
  rcases mem_possibleTransitions h htr with ⟨j, hj, o, hap, hn, rfl⟩ | ⟨pt, hpt, hin⟩
  · obtain ⟨_, o', op, m, hst⟩ := actionPossible_true_iff.mp hap
    have : o' = o := by have := hst.nextIdle; rw [hn] at this; simpa using this.symm
    subst this
    exact ⟨j, hj, o', op, m, hst, by simpa using hc, rfl⟩
  · obtain ⟨t, _, j, _, rfl, _⟩ := possibleTransport_facts hpt tr hin
    simp at hc

/-- **T1, both directions**: membership of a machine start in the offers -/
theorem machine_offer_iff {cfg : SMConfig} {s : State} {poss : List Transition}
    (h : possibleTransitions inst cfg s = .ok poss) (mid jid : Nat) :
    ({ comp := .m mid, new := .m .setup, job := some jid } : Transition) ∈ poss ↔
      ∃ j ∈ s.jobs, j.id = jid ∧ ∃ o op m, Startable s j o op m ∧ o.machine = mid := by
  constructor
  · intro htr
    obtain ⟨j, hj, o, op, m, hst, hm, e⟩ := offers_sound h htr rfl
    simp at e
    exact ⟨j, hj, e.2.symm, o, op, m, hst, hm⟩
  · rintro ⟨j, hj, rfl, o, op, m, hst, rfl⟩
    exact offers_complete h hj hst

theorem offer_comp_cases {cfg : SMConfig} {s : State} {poss : List Transition}
    (h : possibleTransitions inst cfg s = .ok poss) {tr : Transition} (htr : tr ∈ poss) :
    (∃ mid jid, tr = { comp := .m mid, new := .m .setup, job := some jid }) ∨
    (∃ tid jid, tr = { comp := .t tid, new := .t .working, job := some jid }) := by
  rcases mem_possibleTransitions h htr with ⟨j, _, o, _, _, rfl⟩ | ⟨pt, hpt, hin⟩
  · exact Or.inl ⟨_, _, rfl⟩
  · obtain ⟨t, _, j, _, rfl, _⟩ := possibleTransport_facts hpt tr hin
    exact Or.inr ⟨_, _, rfl⟩

/-- unlike `nextNotDone_eq_nextIdle` this needs no invariant on times, only that no record has the
status `TRANSPORT` -/
theorem nextNotDone_eq_nextIdle_of_noTransport {j : JobState} (hnt : ∀ o ∈ j.ops, o.st ≠ .transport)
    (hr : j.running = false) : j.nextNotDone? = j.nextIdle? := by
  unfold JobState.nextNotDone? JobState.nextIdle?
  have key : ∀ o ∈ j.ops, (o.st != OSt.done) = (o.st == OSt.idle) := by
    intro o ho
    have hnp : o.st ≠ .processing := running_false_iff.mp hr o ho
    cases hst : o.st with
    | idle => simp
    | done => simp
    | processing => exact absurd hst hnp
    | transport => exact absurd hst (hnt o ho)
  generalize j.ops = l at key
  induction l with
  | nil => rfl
  | cons a as ih =>
    simp only [List.find?_cons, key a (by simp)]
    rw [ih (fun o ho => key o (by simp [ho]))]

/-- the conditions of a machine start in terms of the one operation to be started -/
structure StartableOp (s : State) (j : JobState) (o : OpState) (m : MachineState) : Prop where
  notRunning : j.running = false
  nextIdle : j.nextIdle? = some o
  machine : getMachine s.machines o.machine = .ok m
  idle : m.st = .idle
  atPre : m.pre.id = j.loc

theorem startable_iff_op {s : State} {j : JobState} (hnt : ∀ o ∈ j.ops, o.st ≠ .transport) {o : OpState}
    {m : MachineState} : (∃ op, Startable s j o op m) ↔ StartableOp s j o m := by
  constructor
  · rintro ⟨op, h⟩
    have : op = o := by
      have e := nextNotDone_eq_nextIdle_of_noTransport hnt h.notRunning
      rw [h.nextNotDone, h.nextIdle] at e; simpa using e
    subst this
    exact ⟨h.notRunning, h.nextIdle, h.machine, h.idle, h.atPre⟩
  · intro h
    refine ⟨o, h.notRunning, h.nextIdle, ?_, h.machine, h.idle, h.atPre⟩
    rw [nextNotDone_eq_nextIdle_of_noTransport hnt h.notRunning, h.nextIdle]

theorem SchedInv.noTransport {s : State} (hS : SchedInv s) {j : JobState} (hj : j ∈ s.jobs) :
    ∀ o ∈ j.ops, o.st ≠ .transport := fun o ho => (OpsOK_mem _ _ (hS.ops j hj) o ho).2.2

/-- **T1 under the schedule invariant** (which holds in every state of every episode): a machine
start `(mid, jid)` is on offer iff job `jid` is not running, its first idle operation `o` is routed
to `mid`, that machine is idle and the job is in its pre-buffer. -/
theorem machine_offer_iff_op {cfg : SMConfig} {s : State} (hS : SchedInv s) {poss : List Transition}
    (h : possibleTransitions inst cfg s = .ok poss) (mid jid : Nat) :
    ({ comp := .m mid, new := .m .setup, job := some jid } : Transition) ∈ poss ↔
      ∃ j ∈ s.jobs, j.id = jid ∧ ∃ o m, StartableOp s j o m ∧ o.machine = mid := by
  rw [machine_offer_iff h]
  constructor
  · rintro ⟨j, hj, e, o, op, m, hst, hm⟩
    exact ⟨j, hj, e, o, m, (startable_iff_op (hS.noTransport hj)).mp ⟨op, hst⟩, hm⟩
  · rintro ⟨j, hj, e, o, m, hst, hm⟩
    obtain ⟨op, hst'⟩ := (startable_iff_op (hS.noTransport hj)).mpr hst
    exact ⟨j, hj, e, o, op, m, hst', hm⟩

theorem offers_complete_op {cfg : SMConfig} {s : State} (hS : SchedInv s) {poss : List Transition}
    (h : possibleTransitions inst cfg s = .ok poss) {j : JobState} (hj : j ∈ s.jobs)
    {o : OpState} {m : MachineState} (hst : StartableOp s j o m) :
    ({ comp := .m o.machine, new := .m .setup, job := some j.id } : Transition) ∈ poss :=
  (machine_offer_iff_op hS h o.machine j.id).mpr ⟨j, hj, rfl, o, m, hst, rfl⟩

theorem offers_sound_op {cfg : SMConfig} {s : State} (hS : SchedInv s) {poss : List Transition}
    (h : possibleTransitions inst cfg s = .ok poss) {tr : Transition} (htr : tr ∈ poss) {mid : Nat}
    (hc : tr.comp = .m mid) :
    ∃ j ∈ s.jobs, ∃ o m, StartableOp s j o m ∧ o.machine = mid ∧
      tr = { comp := .m o.machine, new := .m .setup, job := some j.id } := by
  obtain ⟨j, hj, o, op, m, hst, hm, e⟩ := offers_sound h htr hc
  exact ⟨j, hj, o, m, (startable_iff_op (hS.noTransport hj)).mp ⟨op, hst⟩, hm, e⟩

namespace ExOrder

/-- `Ex.s0` with job 0 standing in the pre-buffer of machine 1 while its first record (routed to
machine 0) carries the status `TRANSPORT`: not a state of any episode -/
def s : State :=
  { Ex.s0 with
    jobs := [{ id := 0, ops := [{ Ex.op 0 0 0 with st := .transport }, Ex.op 0 1 1], loc := 3 },
             { id := 1, ops := [Ex.op 1 0 1, Ex.op 1 1 0], loc := 7 }] }

def j0 : JobState := { id := 0, ops := [{ Ex.op 0 0 0 with st := .transport }, Ex.op 0 1 1], loc := 3 }

end ExOrder

/-- **The one-operation form of T1 needs the order of the records** (`DONE* PROCESSING? IDLE*`, part
of the schedule invariant): with a record of status `TRANSPORT` in front of the first idle one, the
job is not running, its first idle operation is routed to machine 1, machine 1 is idle and the job
stands in its pre-buffer – and that machine start is not offered, because `is_action_possible`
looks at the machine of the first record that is not done (machine 0). -/
theorem startable_needs_order :
    ∃ (s : State) (poss : List Transition), possibleTransitions Ex.inst { allowEarly := true } s = .ok poss ∧
      ∃ j ∈ s.jobs, ∃ o m, StartableOp s j o m ∧
        ({ comp := .m o.machine, new := .m .setup, job := some j.id } : Transition) ∉ poss := by
  refine ⟨ExOrder.s, [{ comp := .t 0, new := .t .working, job := some 1 }],
    by rfl, ExOrder.j0, by decide, Ex.op 0 1 1, Ex.ms 1 3 4 5, ⟨by decide, by decide, by rfl, by decide, by decide⟩, by decide⟩

end JSL
