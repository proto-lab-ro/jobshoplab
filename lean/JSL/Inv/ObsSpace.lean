import JSL.Model.ObsSpace
import JSL.Inv.Jobs
import JSL.Inv.ObsRead
import JSL.Props.Example
import Mathlib.Algebra.Order.Field.Rat
import Mathlib.Algebra.Order.Field.Basic

/-!
# Every observation `SimpleJsspObservationFactory.make` returns lies in the declared space

`simpleObs_in_space`: for a state with the shape of the instance, every observation the factory
returns has the declared shapes, `job_progression ≤ max_ops_per_job`,
`machine_progression ≤ max_ops_per_machine` and, for `0 ≤ time ≤ tmax`, `current_time ∈ [0, 1]`.
No bound on the size of the instance.
-/

namespace JSL

theorem le_foldl_max_init (l : List Nat) (a : Nat) : a ≤ l.foldl max a := by
  induction l generalizing a with
  | nil => exact Nat.le_refl _
  | cons x xs ih => exact Nat.le_trans (Nat.le_max_left a x) (ih (max a x))

theorem le_foldl_max_of_mem {l : List Nat} {x : Nat} (hx : x ∈ l) (a : Nat) : x ≤ l.foldl max a := by
  induction l generalizing a with
  | nil => cases hx
  | cons y ys ih =>
    rcases List.mem_cons.mp hx with rfl | h
    · exact Nat.le_trans (Nat.le_max_right a x) (le_foldl_max_init ys (max a x))
    · exact ih h (max a y)

theorem flatMap_ops_keys : ∀ (l : List JobState) (l' : List JobCfg), l.map jKey = l'.map jcKey →
    (l.flatMap (·.ops)).map opKey = (l'.flatMap (·.ops)).map ocKey := by
  intro l
  induction l with
  | nil =>
    intro l' h
    cases l' with
    | nil => rfl
    | cons _ _ => simp at h
  | cons a as ih =>
    intro l' h
    cases l' with
    | nil => simp at h
    | cons b bs =>
      simp only [List.map_cons, List.cons.injEq, jKey, jcKey, Prod.mk.injEq] at h
      simp only [List.flatMap_cons, List.map_append]
      rw [h.1.2, ih bs h.2]

theorem filter_machine_length_state (l : List OpState) (k : Nat) :
    (l.filter fun o => o.machine == k).length =
      ((l.map opKey).filter fun t => t.2.2 == k).length := by
  rw [List.filter_map, List.length_map]
  rfl

theorem filter_machine_length_cfg (l : List OpCfg) (k : Nat) :
    (l.filter fun o => o.machine == k).length =
      ((l.map ocKey).filter fun t => t.2.2 == k).length := by
  rw [List.filter_map, List.length_map]
  rfl

theorem Shape.opsOnMachine_eq {inst : Instance} {s : State} (hs : Shape inst s) (k : Nat) :
    ((s.jobs.flatMap (·.ops)).filter fun o => o.machine == k).length = opsOnMachine inst k := by
  unfold opsOnMachine
  rw [filter_machine_length_state, filter_machine_length_cfg, flatMap_ops_keys _ _ hs.jobs]

theorem Shape.ops_length_le {inst : Instance} {s : State} (hs : Shape inst s) {j : JobState}
    (hj : j ∈ s.jobs) : j.ops.length ≤ maxOpsPerJob inst := by
  obtain ⟨jc, hjc, hk⟩ := hs.job_cfg hj
  simp only [jKey, jcKey, Prod.mk.injEq] at hk
  have e : j.ops.length = jc.ops.length := by
    have := congrArg List.length hk.2
    simpa using this
  rw [e]
  have hmem : jc.ops.length ∈ inst.jobs.map (fun j => j.ops.length) := List.mem_map.mpr ⟨jc, hjc, rfl⟩
  exact le_foldl_max_of_mem hmem 0

theorem Shape.opsOnMachine_le {inst : Instance} {s : State} (hs : Shape inst s) {m : MachineState}
    (hm : m ∈ s.machines) : opsOnMachine inst m.id ≤ maxOpsPerMachine inst := by
  obtain ⟨mc, hmc, hk⟩ := hs.machine_cfg hm
  simp only [mKey, mcKey, Prod.mk.injEq] at hk
  rw [hk.1]
  have hmem : opsOnMachine inst mc.id ∈ inst.machines.map (fun m => opsOnMachine inst m.id) :=
    List.mem_map.mpr ⟨mc, hmc, rfl⟩
  exact le_foldl_max_of_mem hmem 0

theorem Shape.done_on_machine_le {inst : Instance} {s : State} (hs : Shape inst s) (k : Nat) :
    (((sortById (·.id) s.jobs).flatMap (·.ops)).filter fun o => o.machine == k && o.st == .done).length
      ≤ opsOnMachine inst k := by
  rw [← hs.opsOnMachine_eq k]
  have hp : ((sortById (·.id) s.jobs).flatMap (·.ops)).Perm (s.jobs.flatMap (·.ops)) :=
    (sortById_perm _ _).flatMap_right _
  rw [← (hp.filter _).length_eq]
  have : (((sortById (·.id) s.jobs).flatMap (·.ops)).filter fun o => o.machine == k && o.st == .done) =
      ((((sortById (·.id) s.jobs).flatMap (·.ops)).filter fun o => o.machine == k).filter
        fun o => o.st == .done) := by
    rw [List.filter_filter]
    congr 1
    funext o
    exact Bool.and_comm _ _
  rw [this]
  exact List.length_filter_le _ _

/-- **Shapes and integer bounds**: every observation the factory returns for a state with the
shape of the instance has the declared shapes, `job_progression ≤ max_ops_per_job` and
`machine_progression ≤ max_ops_per_machine`.  No hypothesis on the time. -/
theorem simpleObs_int_fields_in_space {inst : Instance} {s : State} (hs : Shape inst s) {tmax : Int}
    {o : SimpleObs} (h : simpleObs inst.machines.length tmax s = .ok o) :
    o.intFieldsInSpaceB inst.jobs.length inst.machines.length (maxOpsPerJob inst)
      (maxOpsPerMachine inst) = true := by
  obtain ⟨p, f⟩ := simpleObs_ok h
  have hnj : (sortById (·.id) s.jobs).length = inst.jobs.length := by
    have := congrArg List.length hs.jobs
    simpa [sortById_length] using this
  have hnm : (sortById (·.id) s.machines).length = inst.machines.length := by
    have := congrArg List.length hs.machines
    simpa [sortById_length] using this
  have hprog := foldlM_listSet_ok (fun (j : JobState) => j.id)
    (fun (j : JobState) => (j.ops.filter fun (o : OpState) => o.st == .done).length) _ _ _ p.prog
  simp only [SimpleObs.intFieldsInSpaceB, Bool.and_eq_true, beq_iff_eq, List.all_eq_true,
    decide_eq_true_eq]
  refine ⟨⟨⟨⟨⟨⟨⟨⟨?_, ?_⟩, ?_⟩, ?_⟩, ?_⟩, ?_⟩, ?_⟩, ?_⟩, ?_⟩
  · rw [p.running, List.length_map, hnj]
  · rw [← p.avail.length_eq, hnj]
  · rw [← p.exec.length_eq, hnj]
  · intro r hr
    obtain ⟨j, _, e⟩ := forall2_mem_right p.exec r hr
    rw [(foldlM_listSet_ok (fun (o : OpState) => o.machine) (fun _ => true) _ _ _ e).1,
      List.length_replicate]
  · rw [hprog.1, List.length_replicate, hnj]
  · intro x hx
    rcases hprog.2 x hx with hx | ⟨j, hj, rfl⟩
    · rw [List.eq_of_mem_replicate hx]
      exact Nat.zero_le _
    · exact Nat.le_trans (List.length_filter_le _ _) (hs.ops_length_le (mem_sortById.mp hj))
  · rw [f.mrun, List.length_map, hnm]
  · rw [f.mprog, List.length_map, hnm]
  · intro x hx
    rw [f.mprog] at hx
    obtain ⟨m, hm, rfl⟩ := List.mem_map.mp hx
    exact Nat.le_trans (hs.done_on_machine_le m.id) (hs.opsOnMachine_le (mem_sortById.mp hm))

theorem div_in_unit {a b : Rat} (h0 : 0 ≤ a) (hab : a ≤ b) (hb : 0 < b) : 0 ≤ a / b ∧ a / b ≤ 1 :=
  ⟨div_nonneg h0 (le_of_lt hb), (div_le_one hb).mpr hab⟩

/-- **`current_time ∈ [0, 1]`** whenever the factory returns and `0 ≤ time ≤ tmax` -/
theorem simpleObs_time_in_space {nm : Nat} {s : State} {tmax : Int} {o : SimpleObs}
    (h : simpleObs nm tmax s = .ok o) (ht0 : 0 ≤ s.time) (ht1 : s.time ≤ tmax) :
    o.timeInSpaceB = true := by
  have f := (simpleObs_ok h).2
  have hpos : (0 : Int) < tmax := by have := f.tmaxNe; omega
  simp only [SimpleObs.timeInSpaceB, Bool.and_eq_true, decide_eq_true_eq, f.time]
  exact div_in_unit (Int.cast_nonneg ht0) (Int.cast_le.mpr ht1) (Int.cast_pos.mpr hpos)

theorem SimpleObs.inSpaceB_eq (nj nm hiJ hiM : Nat) (o : SimpleObs) :
    o.inSpaceB nj nm hiJ hiM = (o.intFieldsInSpaceB nj nm hiJ hiM && o.timeInSpaceB) := by
  simp only [SimpleObs.inSpaceB, SimpleObs.intFieldsInSpaceB, SimpleObs.timeInSpaceB, Bool.and_assoc]

theorem simpleObs_in_space {inst : Instance} {s : State} (hs : Shape inst s)
    {tmax : Int} {o : SimpleObs}
    (h : simpleObs inst.machines.length tmax s = .ok o) (ht0 : 0 ≤ s.time) (ht1 : s.time ≤ tmax) :
    o.inSpaceB inst.jobs.length inst.machines.length (maxOpsPerJob inst) (maxOpsPerMachine inst)
      = true := by
  rw [SimpleObs.inSpaceB_eq, simpleObs_int_fields_in_space hs h, simpleObs_time_in_space h ht0 ht1]
  rfl

example : maxOpsPerJob Ex.inst = 2 ∧ maxOpsPerMachine Ex.inst = 2 := by decide

/-- `mergeSort` is defined by well-founded recursion, which the kernel does not unfold; the lists
of the example are already in order, so the sort is the identity -/
theorem ex_jobs_sorted : sortById (·.id) Ex.s0.jobs = Ex.s0.jobs :=
  List.mergeSort_of_pairwise (by decide)

theorem ex_machines_sorted : sortById (·.id) Ex.s0.machines = Ex.s0.machines :=
  List.mergeSort_of_pairwise (by decide)

example : ((simpleObs 2 9 Ex.s0).toOption.map
    (·.inSpaceB 2 2 (maxOpsPerJob Ex.inst) (maxOpsPerMachine Ex.inst))) = some true := by
  unfold simpleObs
  rw [ex_jobs_sorted, ex_machines_sorted]
  decide +kernel

/-- the bounds are tight enough to reject something: the same observation is outside the space
declared for a one-job instance -/
example : ((simpleObs 2 9 Ex.s0).toOption.map (·.inSpaceB 1 2 2 2)) = some false := by
  unfold simpleObs
  rw [ex_jobs_sorted, ex_machines_sorted]
  decide +kernel

end JSL
