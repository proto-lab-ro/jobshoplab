import JSL.Model.Obs
import Mathlib.Algebra.Order.Field.Rat
import Mathlib.Tactic.FieldSimp

/-!
# Positions of the sorted lists, the string order, and the reading of the offer triple

The factory sorts jobs and machines by their numeric id and then uses list positions as job /
machine numbers.  For jobs (machines) numbered 0 … n-1 position `k` of the sorted list holds the one
numbered `k` (`ix_positions_are_numbers`, `sorted_getElem`), so every per-job / per-machine array is
indexed by number, whatever the internal order.  `idStrLe` is the order of the id *strings*, which
the code used before the repair "fix: sort jobs and machines by numeric id".
`currentTransition_parts` reads the three components of the encoded offer.
-/

namespace JSL

theorem sortById_perm {α} (id : α → Nat) (l : List α) : (sortById id l).Perm l :=
  List.mergeSort_perm _ _

theorem sortById_length {α} (id : α → Nat) (l : List α) : (sortById id l).length = l.length :=
  (sortById_perm id l).length_eq

theorem mem_sortById {α} {id : α → Nat} {l : List α} {a : α} : a ∈ sortById id l ↔ a ∈ l :=
  (sortById_perm id l).mem_iff

theorem sortById_sorted {α} (id : α → Nat) (l : List α) :
    (sortById id l).Pairwise (fun a b => id a ≤ id b) := by
  have := List.pairwise_mergeSort (le := fun (a b : α) => decide (id a ≤ id b))
    (fun a b c h1 h2 => by simp at *; omega) (fun a b => by simp; omega) l
  exact this.imp (fun h => by simpa using h)

/-- **Positions are numbers**: for jobs (machines) numbered 0 … n-1 in whatever internal order,
position `k` of the list the factory builds its arrays from holds number `k`. -/
theorem ix_positions_are_numbers {α} (id : α → Nat) (l : List α) (n : Nat)
    (hids : (l.map id).Perm (List.range n)) : (sortById id l).map id = List.range n := by
  have hnd : (l.map id).Nodup := hids.nodup_iff.mpr List.nodup_range
  have hp := sortById_perm id l
  have hnd' : ((sortById id l).map id).Nodup := (hp.map id).nodup_iff.mpr hnd
  have h1 : ((sortById id l).map id).Pairwise (· < ·) := by
    rw [List.pairwise_map]
    have hne : (sortById id l).Pairwise (fun a b => id a ≠ id b) := by
      rw [List.nodup_iff_pairwise_ne, List.pairwise_map] at hnd'
      exact hnd'
    exact ((sortById_sorted id l).and hne).imp (fun ⟨h1, h2⟩ => by omega)
  have h2 : (List.range n).Pairwise (· < ·) := List.pairwise_lt_range
  have hperm : ((sortById id l).map id).Perm (List.range n) := (hp.map id).trans hids
  exact List.Perm.eq_of_pairwise (le := (· < ·)) (fun a b _ _ h1 h2 => by omega) h1 h2 hperm

theorem sortById_getElem_id {α} (id : α → Nat) (l : List α) (n : Nat)
    (hids : (l.map id).Perm (List.range n)) {i : Nat} (hi : i < (sortById id l).length) :
    id (sortById id l)[i] = i := by
  have h : ((sortById id l).map id)[i]'(by simpa using hi) = i := by
    simp only [ix_positions_are_numbers id l n hids, List.getElem_range]
  simpa using h

theorem sorted_getElem {α} (id : α → Nat) (l : List α) (n : Nat)
    (hids : (l.map id).Perm (List.range n)) (k : Nat) (hk : k < n) :
    ∃ a ∈ l, id a = k ∧ (sortById id l)[k]? = some a := by
  have hk' : k < (sortById id l).length := by
    rw [sortById_length, ← List.length_map (f := id), hids.length_eq, List.length_range]
    exact hk
  exact ⟨(sortById id l)[k], mem_sortById.mp (List.getElem_mem hk'),
    sortById_getElem_id id l n hids hk', List.getElem?_eq_getElem hk'⟩

theorem sorted_getElem_of_mem {α} (id : α → Nat) (l : List α) (n : Nat)
    (hids : (l.map id).Perm (List.range n)) (a : α) (ha : a ∈ l) :
    (sortById id l)[id a]? = some a := by
  obtain ⟨i, hi, rfl⟩ := List.getElem_of_mem (mem_sortById (id := id).mpr ha)
  rw [sortById_getElem_id id l n hids hi]
  exact List.getElem?_eq_getElem hi

theorem number_unique {α} (id : α → Nat) (l : List α) (n : Nat)
    (hids : (l.map id).Perm (List.range n)) {a b : α} (ha : a ∈ l) (hb : b ∈ l)
    (e : id a = id b) : a = b := by
  have h := sorted_getElem_of_mem id l n hids a ha
  rw [e, sorted_getElem_of_mem id l n hids b hb] at h
  exact (Option.some.inj h).symm

theorem idStrLe_trans (a b c : Nat) (h1 : idStrLe a b = true) (h2 : idStrLe b c = true) : idStrLe a c = true := by
  simp only [idStrLe, decide_eq_true_eq] at *
  exact String.le_trans h1 h2

theorem idStrLe_total (a b : Nat) : (idStrLe a b || idStrLe b a) = true := by
  simp only [idStrLe, Bool.or_eq_true, decide_eq_true_eq]
  exact String.le_total _ _

theorem sortByIdStr_perm {α} (id : α → Nat) (l : List α) : (sortByIdStr id l).Perm l :=
  List.mergeSort_perm _ _

theorem sortByIdStr_sorted {α} (id : α → Nat) (l : List α) :
    (sortByIdStr id l).Pairwise (fun a b => idStrLe (id a) (id b) = true) :=
  List.pairwise_mergeSort (le := fun (a b : α) => idStrLe (id a) (id b))
    (fun _ _ _ h1 h2 => idStrLe_trans _ _ _ h1 h2) (fun _ _ => idStrLe_total _ _) l

theorem idxOf_inj {l : List Comp} {a b : Comp} {i : Nat} (ha : l.idxOf? a = some i) (hb : l.idxOf? b = some i) : a = b := by
  obtain ⟨h, ea, _⟩ := List.idxOf?_eq_some_iff.mp ha
  obtain ⟨_, eb, _⟩ := List.idxOf?_eq_some_iff.mp hb
  rw [← ea, ← eb]

def offerComps (inst : Instance) : List Comp :=
  inst.machines.map (fun m => Comp.m m.id) ++ inst.transports.map (fun t => Comp.t t.id)

/-- the job number encoded for an offer: the job's number, or `n` for "no job" -/
def offerJobNum (n : Nat) (tr : Transition) : Nat :=
  match tr.job with | some j => j | none => n

/-- the type code of an offer's component (numerator over 100) -/
def offerCode (tr : Transition) : Nat :=
  match tr.comp with | .m _ => typeCode100 0 | .t _ => typeCode100 1 | .b _ => typeCode100 2

theorem currentTransition_parts {inst : Instance} {n : Nat} {res : SMResult} {a b c : Rat}
    (h : currentTransition inst n res false = .ok (a, b, c)) :
    ∃ tr rest idx, res.possible = tr :: rest ∧ n ≠ 0 ∧
      (offerComps inst).idxOf? tr.comp = some idx ∧ idx < (offerComps inst).length ∧
      a = (idx : Rat) / ((offerComps inst).length : Rat) ∧
      b = (offerJobNum n tr : Rat) / (n : Rat) ∧
      c = (offerCode tr : Rat) / 100 := by
  unfold currentTransition at h
  cases hp : res.possible with
  | nil => rw [hp] at h; cases h
  | cons tr rest =>
    simp only [hp, Bool.false_eq_true, if_false, bind, Except.bind, pure, Except.pure] at h
    by_cases hn : n = 0
    · rw [if_pos hn] at h; cases h
    · simp only [hn, if_false] at h
      cases hi : (inst.machines.map (fun m => Comp.m m.id) ++
          inst.transports.map (fun t => Comp.t t.id)).idxOf? tr.comp with
      | none => rw [hi] at h; cases h
      | some i =>
        simp only [hi, Except.ok.injEq, Prod.mk.injEq] at h
        obtain ⟨h1, h2, h3⟩ := h
        have hlt := (List.idxOf?_eq_some_iff.mp hi).1
        exact ⟨tr, rest, i, rfl, hn, hi, hlt, h1.symm, h2.symm, h3.symm⟩

end JSL
