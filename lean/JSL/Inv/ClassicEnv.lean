import JSL.Inv.ClassicPassE
import JSL.Inv.ClassicSync
import JSL.Inv.ClassicTotal
import JSL.Inv.ClassicEnvDefs
import JSL.Inv.ClassicStart

/-!
# The classic pass meets the interface of the totality plumbing

`cpass_total_of`: `CPass` meets `TotalHyp` with the stage measure and the bound `3·#machines + 5·#AGVs`,
for any property `Q` kept by the enabled transitions and by the jumps of the clock at dead points;
`cpass_total` is the instance for "in step with the target schedule", `cpass_total_true` the one for
the trivial property (pure totality).
-/

namespace JSL

variable {orc : Oracle} {inst : Instance}

variable {cfg : SMConfig}

theorem cpass_total_of (w : WF inst) (nn : NonNeg orc inst) (hC : Classic inst) (he : cfg.allowEarly = false)
    (Q : State → Prop)
    (hqs : ∀ {s tr r s' r'}, StructInv inst s → SchedInv s → Bundle inst s ∧ DurInv inst s → En inst s tr →
      tr.new ≠ .m .setup → applyTransition orc inst s r tr = .ok (s', r') → Q s → Q s')
    (hqj : ∀ {s t}, StructInv inst s → SchedInv s → Bundle inst s ∧ DurInv inst s → Q s →
      numPossibleEvents inst cfg s = .ok 0 → forceJump s = .ok t → Q { s with time := t }) :
    TotalHyp (CPass orc inst cfg w nn hC he) stage (3 * inst.machines.length + 5 * inst.transports.length) Q where
  apply := fun r hI hS hP hgs hne =>
    enE_applies w hC hI hS hP.1.toE (enE_of_en w hI hP.1.cinv.claimed (hgs.2.2.en _ (by simp))) hne r
  timed := fun hI hS hP => timedTransitions_totalE w hI hS hP.1.full hP.1.cinv.toE
  poss := fun hI hS hP => possibleTransitions_total w hC hI hS cfg
  count := fun hI hS hP => numPossibleEvents_total w hC hI hS cfg
  tele := fun r hI hS hP hp => filterTeleport_total w hC hI hS hP.1.full hp r
  force := fun _ hS hP => forceJump_total hS (fun t ht hb => by
    obtain ⟨c, hc, _⟩ := hP.1.cinv.agvDue t ht hb; exact ⟨c, hc⟩)
  lastDone := fun hS => lastDoneEnd_total hS
  noStartTimed := fun hI hS htt => timed_noStart w hC hI hS htt
  noStartTele := fun hp hte => tele_noStart hp hte
  noDispatchTimed := fun hS htt => timed_no_dispatch hS htt
  μ_time := fun s t => stage_time s t
  μ_le := fun hI => stage_le hI.shape
  μ_step := by
    intro s tr R r s' r' hI _ _ hgs hns hnd h
    have := stage_step w hI (hgs.2.2.en tr (by simp)) hns hnd h
    omega
  q_step := by
    intro s tr R r s' r' hI hS hP hgs hns h hQ
    exact hqs hI hS hP (hgs.2.2.en tr (by simp)) hns h hQ
  q_jump := fun hI hS hP hQ h0 hf => hqj hI hS hP hQ h0 hf

theorem cpass_total (w : WF inst) (nn : NonNeg orc inst) (hC : Classic inst) (he : cfg.allowEarly = false)
    {S : Nat → Nat → Int} (hT : TargetOK inst S) :
    TotalHyp (CPass orc inst cfg w nn hC he) stage (3 * inst.machines.length + 5 * inst.transports.length)
      (SyncL inst S) := by
  apply cpass_total_of w nn hC he (SyncL inst S)
  · intro s tr r s' r' hI hS hP hE hns h hQ
    exact sync_step w hI hS hP.1 hns h hQ
  · intro s t hI hS hP hQ h0 hf
    by_cases hidle : ∀ x ∈ s.transports, x.st = .idle
    · exact sync_jump w hC hT hI hS hP.2 hP.1.cinv hQ
        (fun j hj hnr o ho hm => by
          exfalso
          obtain ⟨m, hm', hid⟩ := op_machine_mem w hI.shape hj (List.mem_of_find?_eq_some ho)
          exact dead_point_busy w hC hI hS hP.1.full hidle h0 j hj hnr o ho m hm' hid (hm m hm' hid)) hf
    · -- a busy AGV is due now: the clock does not move
      obtain ⟨x, hx⟩ := Classical.not_forall.mp hidle
      obtain ⟨hx, hb⟩ := Classical.not_imp.mp hx
      obtain ⟨c, hc, hle⟩ := hP.1.cinv.agvDue x hx hb
      obtain ⟨h1, _, h3, _⟩ := c12_jump_exact hS hf
      have := h3 x hx hb c hc
      have : t = s.time := by omega
      subst this
      exact hQ

theorem cpass_total_true (w : WF inst) (nn : NonNeg orc inst) (hC : Classic inst) (he : cfg.allowEarly = false) :
    TotalHyp (CPass orc inst cfg w nn hC he) stage (3 * inst.machines.length + 5 * inst.transports.length)
      (fun _ => True) :=
  cpass_total_of w nn hC he (fun _ => True) (fun _ _ _ _ _ _ _ => trivial) (fun _ _ _ _ _ _ => trivial)


/-- in the start state every AGV and every machine is idle and every record is idle -/
theorem cinv_start {s0 : State} (hst : Start orc inst s0) (hC : Classic inst) (hok : classicStartB inst s0 = true) :
    CInv inst s0 := by
  obtain ⟨hm, hj, ht⟩ := restB_facts hst.rest
  obtain ⟨_, hloc, _⟩ := classicStartB_facts hok
  have hs := (initOKB_sound hst.init).2.shape
  refine ⟨fun t htm => (ht t htm).2.2.1, fun t htm => by rw [(ht t htm).1]; simp, ?_, ?_, fun t htm _ => hloc t htm,
    ?_, ?_, ?_⟩
  · intro t htm hst
    rcases hst with h | h <;> (rw [(ht t htm).1] at h; cases h)
  · intro t htm hst
    exact absurd (ht t htm).1 hst
  · intro j hjm _ _
    exact nextIdle_of_allIdle (job_has_record hC hs hjm) (hj j hjm)
  · intro m hmm hst
    rcases hst with h | h <;> (rw [(hm m hmm).1] at h; cases h)
  · intro m hmm hst
    rw [(hm m hmm).1] at hst; cases hst

end JSL
