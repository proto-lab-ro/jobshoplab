import JSL.Inv.TotalEffect
import JSL.Props.Example

/-!
# `NoDep` along every episode of an instance with unordered pickup buffers, and progress of the environment

With FLEX post-buffers `_get_waiting_time` always returns a fixed time (a stored job is ready, a
job still on its machine has a recorded end), so no AGV is ever parked on a time dependency
(`applyTransition_noDep`).
-/

namespace JSL

variable {orc : Oracle} {inst : Instance}

theorem NoDep.of_rest {s : State} (h : restB s = true) : NoDep s := by
  simp only [restB, Bool.and_eq_true, List.all_eq_true, beq_iff_eq, List.isEmpty_iff, Option.isNone_iff_eq_none] at h
  obtain ⟨_, ht⟩ := h
  intro t ht' hb
  exact absurd (ht t ht').1.1.1 hb

def ProgressPass (orc : Oracle) (inst : Instance) (cfg : SMConfig) (w : WF inst) (hF : PickFlex inst) :
    Pass orc inst cfg where
  P := fun s => AgvFull inst s ∧ NoDep s
  GS := FullGS
  Adm := AdmOffer inst cfg
  tail := fun h => (FullPass orc inst cfg w).tail h
  step := fun hI hS hP hv hsafe hfresh hgs ha =>
    ⟨⟨((FullPass orc inst cfg w).step hI hS hP.1 hv hsafe hfresh hgs ha).1, applyTransition_noDep w hF hI hS hP.2 ha⟩,
     ((FullPass orc inst cfg w).step hI hS hP.1 hv hsafe hfresh hgs ha).2⟩
  advance := fun hI hS hP hle hpg => ⟨(FullPass orc inst cfg w).advance hI hS hP.1 hle hpg, hP.2⟩
  timed := fun hI hS hP htt hposs htele => (FullPass orc inst cfg w).timed hI hS hP.1 htt hposs htele
  timedOnly := fun hI hS hP htt => (FullPass orc inst cfg w).timedOnly hI hS hP.1 htt
  action := fun hI hS hP hadm => (FullPass orc inst cfg w).action hI hS hP.1 hadm

theorem occursF_progress {cfg : SMConfig} {s0 σ : State} (hst : Start orc inst s0) (hF : PickFlex inst)
    (h : OccursF orc inst cfg s0 σ) : AgvFull inst σ ∧ NoDep σ :=
  occursF_pass (ProgressPass orc inst cfg (initOKB_sound hst.init).1 hF) hst
    ⟨AgvFull.of_rest hst.rest hst.placed, NoDep.of_rest hst.rest⟩ (fun _ _ _ ho => ho) h

def Offers (inst : Instance) (cfg : SMConfig) (s : State) : Prop :=
  isDone inst s = false → ∀ poss, possibleTransitions inst cfg s = .ok poss → poss ≠ []

theorem poss_ne_of_count {cfg : SMConfig} {s : State} {n : Nat} (hn : numPossibleEvents inst cfg s = .ok n) (hpos : 0 < n)
    {poss : List Transition} (hp : possibleTransitions inst cfg s = .ok poss) : poss ≠ [] := by
  unfold numPossibleEvents at hn
  obtain ⟨pt, hpt, hn⟩ := except_bind_eq_ok hn
  obtain ⟨pj, hpj, hn⟩ := except_bind_eq_ok hn
  simp at hn; subst hn
  obtain ⟨pj', pt', hpj', hpt', hne⟩ := possibleTransitions_parts hp
  rw [hpj] at hpj'; injection hpj' with e1; subst e1
  rw [hpt] at hpt'; injection hpt' with e2; subst e2
  apply hne
  cases pj with
  | cons j rest => exact Or.inl (List.cons_ne_nil _ _)
  | nil =>
    cases pt with
    | cons tr rest => exact Or.inr (List.cons_ne_nil _ _)
    | nil => simp at hpos

theorem not_quiet_after_forceJump (w : WF inst) {s : State} (hI : StructInv inst s) (hS : SchedInv s)
    (hp : Pending s) {t : Int} (h : forceJump s = .ok t) : ¬ Quiet inst { s with time := t } := by
  intro hq
  rcases forceJump_pending hS hp h with ⟨j, hj, o, ho, hst, hstop⟩ | ⟨x, hx, hb, ho⟩
  · obtain ⟨m, hm, _, hbusy, hstore⟩ := hS.procOnBusy j hj o ho hst
    obtain ⟨_, op, hpr, _, hocc, _⟩ := busy_job hI hS w hm hbusy hj (by rw [hstore]; simp)
    obtain ⟨_, _, hl, _, hpst⟩ := processing?_split' hpr
    have hopm : op ∈ j.ops := by rw [hl]; simp
    have : o = op := OpsOK_one_processing _ _ (hS.ops j hj) o ho op hopm hst hpst
    subst this
    have hd := hq.machine (s := { s with time := t }) hm hbusy (by rw [hstore]; simp)
    rw [← hocc, hstop] at hd
    simp [dueAt] at hd
  · have := hq.transport (s := { s with time := t }) hx hb ho
    simp at this

theorem offers_after_jump (w : WF inst) (hF : PickFlex inst) (hA : HasAgv inst) {cfg : SMConfig} {s : State}
    (hI : StructInv inst s) (hS : SchedInv s) (hP : AgvFull inst s) (hN : NoDep s) {tm : TimeMachine}
    (htm : tm ≠ .jumpByOne) {t : Int} (ht : runTimeMachine inst cfg s tm = .ok t)
    (hq : Quiet inst { s with time := t }) : Offers inst cfg { s with time := t } := by
  intro hnd poss hposs
  rw [possibleTransitions_time] at hposs
  have hnd' : isDone inst s = false := hnd
  rcases progress_state w hF hA hI hS hP hN hnd' hposs with h | hpend
  · exact h
  · cases tm with
    | jumpByOne => exact absurd rfl htm
    | forceJump =>
      simp [runTimeMachine] at ht
      exact absurd hq (not_quiet_after_forceJump w hI hS hpend ht)
    | jumpToEvent =>
      simp only [runTimeMachine, jumpToEvent] at ht
      obtain ⟨n, hn, ht⟩ := except_bind_eq_ok ht
      split at ht
      · rename_i hpos
        exact poss_ne_of_count hn hpos hposs
      · exact absurd hq (not_quiet_after_forceJump w hI hS hpend ht)

/-- the `while timed_transitions` loop: when it ends without failure in a state that is not
finished, that state has an offer -/
theorem timedLoop_offers (w : WF inst) (nn : NonNeg orc inst) (hF : PickFlex inst) (hA : HasAgv inst) {cfg : SMConfig}
    {fuel : Nat} {tt : List Transition} {s : State} {r : Rng} {subs mic : List State} {out : LoopOut}
    (hM : (ProgressPass orc inst cfg w hF).Mid s tt) (hg : tt = [] → Offers inst cfg s)
    (h : timedLoop orc inst cfg fuel tt s r subs mic = .ok out) (hnf : out.failed = false) : Offers inst cfg out.state := by
  let ps := ProgressPass orc inst cfg w hF
  -- `Q`: what holds at the start of every round; the loop ends (not failed) with `Q out.state []`
  refine ((timedLoop_ind (P := fun _ => True) (Q := fun s tt => ps.Mid s tt ∧ (tt = [] → Offers inst cfg s))
    (fun _ => trivial) (fun _ _ => ⟨trivial, fun _ _ => trivial⟩) ?_ ⟨hM, hg⟩ h).2.1 hnf).2 rfl
  -- a round: the batch is worked off, the clock jumps, the next batch is read
  intro s tt r o t tt' ⟨hM, _⟩ ho _ ht htt'
  have hp := (ps.batch w nn hM ho).1
  have hM' := Pass.Mid.advance w hp.all (jumpToEvent_spec hp.batch.sched ht) htt' (tele := []) (fun _ h => nomatch h)
    (fun hA => by rw [List.append_nil]; exact ps.timedOnly hA.1 hA.2.1 hA.2.2 htt')
  rw [List.append_nil] at hM'
  refine ⟨hM', fun e => ?_⟩
  subst e
  exact offers_after_jump w hF hA hp.batch.struct hp.batch.sched hp.inv.1 hp.inv.2 (tm := .jumpToEvent) (by simp)
    (by simpa [runTimeMachine] using ht) htt'

/-- **`state.step` never returns "zero offers although not done"** for an instance with unordered
pickup buffers and an AGV: a successful step that does not finish the shop returns at least one offer. -/
theorem smStep_offers (w : WF inst) (nn : NonNeg orc inst) (hF : PickFlex inst) (hA : HasAgv inst) {cfg : SMConfig}
    {fuel : Nat} {s0 : State} {r : Rng} {a : Action} {res : SMResult} {r' : Rng} {mic : List State}
    (hI : StructInv inst s0) (hS : SchedInv s0) (hP : AgvFull inst s0 ∧ NoDep s0) (ha : Admissible a)
    (hadm : AdmOffer inst cfg s0 a) (h : smStep orc inst cfg fuel s0 r a = .ok (res, r', mic)) :
    res.success = true → res.done = false → res.possible ≠ [] := by
  let ps := ProgressPass orc inst cfg w hF
  obtain ⟨p, hp, hcase⟩ := smStep_cases h
  have hp' := (ps.batch w nn ⟨ha.batch hI hS, hP, ps.action hI hS hP hadm⟩ hp).1
  rcases hcase with ⟨_, _, _, rfl⟩ | ⟨_, t, timed, poss, tele, out, ht, htimed, hposs, htele, hout, _, _, hres⟩
  · intro hs; cases hs
  · have hM := Pass.Mid.advance w hp'.all (runTimeMachine_spec hp'.batch.sched ha.tm ht) htimed
      (filterTeleport_shape hposs htele) (fun hA => ps.timed hA.1 hA.2.1 hA.2.2 htimed hposs htele)
    have hg : timed ++ tele = [] → Offers inst cfg { p.state with time := t } := by
      intro e
      have : timed = [] := (List.append_eq_nil_iff.mp e).1
      subst this
      exact offers_after_jump w hF hA hp'.batch.struct hp'.batch.sched hp'.inv.1 hp'.inv.2 ha.tm ht htimed
    have hl := timedLoop_offers w nn hF hA hM hg hout
    rcases hres with ⟨_, rfl⟩ | ⟨_, _, _, _, rfl⟩ | ⟨hnf, hnd, poss', hposs', rfl⟩
    · intro hs; cases hs
    · intro _ hd; cases hd
    · intro _ _; exact hl hnf hnd poss' hposs'

theorem smStep_good {cfg : SMConfig} {s0 s : State} (hst : Start orc inst s0) (hF : PickFlex inst) (hA : HasAgv inst)
    (hO : OccursF orc inst cfg s0 s) {a : Action} (ha : Admissible a) (hadm : AdmOffer inst cfg s a)
    {fuel : Nat} {r r' : Rng} {res : SMResult} {mic : List State}
    (hstep : smStep orc inst cfg fuel s r a = .ok (res, r', mic)) :
    (isDone inst res.state = false → OccursF orc inst cfg s0 res.state) ∧
    (res.success = true → isDone inst res.state = false → res.possible ≠ []) := by
  obtain ⟨w, hI, hS⟩ := occursA_inv hst hO.toA
  have nn := nonnegB_sound hst.samples hst.nonneg
  have hP := occursF_progress hst hF hO
  have hoff := smStep_offers w nn hF hA hI hS hP ha hadm hstep
  rcases (smStep_spec hstep).2 with h1 | h1 | h1
  · refine ⟨fun _ => by rw [h1.2.2.1]; exact hO, fun hs => ?_⟩
    rw [h1.1] at hs; cases hs
  · refine ⟨fun hd => ?_, fun _ hd => ?_⟩ <;> (rw [h1.2.2.2] at hd; cases hd)
  · exact ⟨fun _ => OccursF.result hO ha hadm hstep h1.2.1, fun hs _ => hoff hs h1.2.1⟩

structure EnvGood (orc : Oracle) (inst : Instance) (cfg : SMConfig) (s0 : State) (res : SMResult) : Prop where
  occ : isDone inst res.state = false → OccursF orc inst cfg s0 res.state
  offers : res.success = true → isDone inst res.state = false → res.possible ≠ []

theorem envGood_lift {cfg : SMConfig} {s0 : State} (hst : Start orc inst s0) (hF : PickFlex inst) (hA : HasAgv inst) :
    EnvLift orc inst cfg s0 (EnvGood orc inst cfg s0) (fun _ => True) where
  init := fun h =>
    have := smStep_good hst hF hA OccursF.init admissible_noOp (Or.inl rfl) h
    ⟨⟨this.1, this.2⟩, fun _ _ => trivial⟩
  drop := fun hg _ => ⟨hg.occ, fun _ _ => by simp⟩
  step := fun hi _ hne ha hadm hs =>
    have := smStep_good hst hF hA (hi.liveF hne) ha hadm hs
    ⟨⟨this.1, this.2⟩, fun _ _ => trivial⟩

theorem envReach_good {ec : EnvCfg} {st : RewardStatic} {s0 : State} (hst : Start orc inst s0) (hF : PickFlex inst)
    (hA : HasAgv inst) {e : EnvState} (h : EnvReach orc inst ec st s0 e) : EnvGood orc inst ec.sm s0 e.res :=
  (envGood_lift hst hF hA).reach hst h

/-- **Progress of the environment (state form)**: in every state the environment holds during an
episode of an instance with unordered buffers and an AGV, unless the shop is finished, a transition
is on offer or something is pending. -/
theorem env_progress {ec : EnvCfg} {st : RewardStatic} {s0 : State} (hst : Start orc inst s0)
    (hF : flexInstB inst = true) (hA : hasAgvB inst = true) {e : EnvState} (h : EnvReach orc inst ec st s0 e)
    (hnd : isDone inst e.res.state = false) {poss : List Transition}
    (hposs : possibleTransitions inst ec.sm e.res.state = .ok poss) : poss ≠ [] ∨ Pending e.res.state := by
  have hF' := (flexInstB_sound hF).pick
  have hO := (envReach_good hst hF' (hasAgvB_sound hA) h).occ hnd
  obtain ⟨w, hI, hS⟩ := occursA_inv hst hO.toA
  have hP := occursF_progress hst hF' hO
  exact progress_state w hF' (hasAgvB_sound hA) hI hS hP.1 hP.2 hnd hposs

/-- **No "zero offers although not done"**: every environment state of an episode of an instance
with unordered buffers and an AGV whose result is successful and whose shop is not finished holds
at least one offer. -/
theorem env_offers {ec : EnvCfg} {st : RewardStatic} {s0 : State} (hst : Start orc inst s0)
    (hF : flexInstB inst = true) (hA : hasAgvB inst = true) {e : EnvState} (h : EnvReach orc inst ec st s0 e)
    (hs : e.res.success = true) (hnd : isDone inst e.res.state = false) : e.res.possible ≠ [] :=
  (envReach_good hst (flexInstB_sound hF).pick (hasAgvB_sound hA) h).offers hs hnd

/-! ## non-vacuity, and why an AGV is required -/

namespace ExP

def orc0 : Oracle := fun _ _ => 0

theorem start_ex : Start orc0 Ex.inst Ex.s0 :=
  ⟨by decide +kernel, by decide +kernel, by decide +kernel, by decide +kernel, fun _ _ => Int.le_refl 0⟩

/-- the example instance (2 jobs × 2 machines, one AGV, FLEX buffers) meets the two guards -/
example : flexInstB Ex.inst = true ∧ hasAgvB Ex.inst = true := by decide +kernel

/-- so none of its episodes ever holds a successful, unfinished result without offers -/
example {ec : EnvCfg} {st : RewardStatic} {e : EnvState} (h : EnvReach orc0 Ex.inst ec st Ex.s0 e)
    (hs : e.res.success = true) (hnd : isDone Ex.inst e.res.state = false) : e.res.possible ≠ [] :=
  env_offers start_ex (by decide +kernel) (by decide +kernel) h hs hnd

/-- the same shop with a conveyor instead of the AGV -/
def instC : Instance :=
  { Ex.inst with transports := [{ id := 0, type := .conveyor, outages := [], buf := Ex.bc 6 1 .component (some (.t 0)) }] }

def okNil : Except Err (List Transition) → Bool
  | .ok [] => true
  | _ => false

theorem okNil_sound {x : Except Err (List Transition)} (h : okNil x = true) : x = .ok [] := by
  unfold okNil at h
  split at h
  · rfl
  · cases h

/-- **`HasAgv` is needed**: with unordered buffers but no AGV the initial state (which satisfies every
guard of `Start`) is not finished, offers nothing and has nothing pending -/
theorem no_agv_stuck : initOKB instC Ex.s0 = true ∧ restB Ex.s0 = true ∧ placedB instC Ex.s0 = true ∧
    flexInstB instC = true ∧ hasAgvB instC = false ∧ isDone instC Ex.s0 = false ∧
    possibleTransitions instC { allowEarly := true } Ex.s0 = .ok [] ∧
    possibleTransitions instC { allowEarly := false } Ex.s0 = .ok [] ∧ ¬ Pending Ex.s0 := by
  refine ⟨by decide +kernel, by decide +kernel, by decide +kernel, by decide +kernel, by decide +kernel, by decide +kernel, okNil_sound (by decide +kernel),
    okNil_sound (by decide +kernel), ?_⟩
  rintro (⟨j, hj, o, ho, hst, _⟩ | ⟨t, ht, hb, _⟩)
  · simp [Ex.s0, Ex.op] at hj
    rcases hj with rfl | rfl <;> simp at ho <;> rcases ho with rfl | rfl <;> simp at hst
  · simp [Ex.s0] at ht
    subst ht
    simp at hb

end ExP

end JSL
