import JSL.Inv.SchedLemmas
import JSL.Inv.Outage

/-! The schedule invariant is preserved by the four machine handlers. -/

namespace JSL

variable {orc : Oracle} {inst : Instance}

theorem not_processing_of_stored {s : State} (hI : StructInv inst s) (hS : SchedInv s) (w : WF inst)
    {j : JobState} (hj : j ∈ s.jobs) {i : Nat} (hin : j.id ∈ storeAt s i)
    (hi : ∀ m ∈ s.machines, m.buffer.id ≠ i) : ∀ o ∈ j.ops, o.st ≠ .processing := by
  intro o ho hst
  obtain ⟨m, hm, _, _, hstore⟩ := hS.procOnBusy j hj o ho hst
  have : j.id ∈ storeAt s m.buffer.id := by
    rw [storeAt_of_mem (hI.shape.bufNodup w) (mem_allBufs_of_machine hm).2.1, hstore]; simp
  exact hi m hm (unique_store hI.cons (hI.shape.jobsNodup w) this hin)

theorem nextNotDone_of_processing {now : Int} {j : JobState} {op0 : OpState} (hok : OpsOK now none j.ops)
    (hp : j.processing? = some op0) : j.nextNotDone? = some op0 := by
  obtain ⟨l1, l2, hl, _, hst⟩ := processing?_split' hp
  have hd := OpsOK_prefix_done op0 (by rw [hst]; simp) l2 l1 none (hl ▸ hok)
  unfold JobState.nextNotDone?
  rw [hl, List.find?_append]
  have : l1.find? (fun o => o.st != OSt.done) = none := by
    apply List.find?_eq_none.mpr
    intro x hx; simp [hd x hx]
  simp [this, hst]

theorem busy_job {s : State} (hI : StructInv inst s) (hS : SchedInv s) (w : WF inst) {m : MachineState}
    (hm : m ∈ s.machines) (hb : m.st ≠ .idle) {j : JobState} (hj : j ∈ s.jobs) (hin : j.id ∈ m.buffer.store) :
    m.buffer.store = [j.id] ∧ ∃ op, j.processing? = some op ∧ op.machine = m.id ∧ op.stop = m.occ ∧ m.occ ≠ none := by
  obtain ⟨j0, hj0, hst, op, h1, h2, h3, h4⟩ := hS.busyHolds m hm hb
  rw [hst] at hin; simp at hin
  have : j0 = j := eq_of_mem_of_key_eq (key := fun (z : JobState) => z.id) (hI.shape.jobsNodup w) hj0 hj hin.symm
  subst this
  exact ⟨hst, op, h1, h2, h3, h4⟩

theorem processing_of_internal {s : State} (hI : StructInv inst s) (hS : SchedInv s) (w : WF inst) {m : MachineState}
    (hm : m ∈ s.machines) {j : JobState} (hj : j ∈ s.jobs) (hin : j.id ∈ m.buffer.store) :
    ∃ o ∈ j.ops, o.st = .processing := by
  have hbusy : m.st ≠ .idle := fun hi => by rw [hS.idleEmpty m hm hi] at hin; cases hin
  obtain ⟨_, op, hp, _⟩ := busy_job hI hS w hm hbusy hj hin
  obtain ⟨_, _, hl, _, hst⟩ := processing?_split' hp
  exact ⟨op, by rw [hl]; simp, hst⟩

theorem other_machine_other_job {s : State} (hI : StructInv inst s) (w : WF inst) {m y : MachineState}
    (hm : m ∈ s.machines) (hy : y ∈ s.machines) (hne : y.id ≠ m.id) {a b : Nat}
    (ha : m.buffer.store = [a]) (hb : y.buffer.store = [b]) : b ≠ a := by
  intro e; subst e
  have hs := hI.shape
  have h1 : b ∈ storeAt s m.buffer.id := by
    rw [storeAt_of_mem (hs.bufNodup w) (mem_allBufs_of_machine hm).2.1, ha]; simp
  have h2 : b ∈ storeAt s y.buffer.id := by
    rw [storeAt_of_mem (hs.bufNodup w) (mem_allBufs_of_machine hy).2.1, hb]; simp
  have := unique_store hI.cons (hs.jobsNodup w) h1 h2
  exact machines_bufs_ne hs w hy hm hne _ (by simp) _ (by simp) this.symm

theorem mem_flatMap_ops {oc : OpCfg} (h : oc ∈ inst.jobs.flatMap (·.ops)) : ∃ jc ∈ inst.jobs, oc ∈ jc.ops := by
  simpa [List.mem_flatMap] using h

/-- The running operation of a job is written (started, or its end moved).  Job `j` becomes `j'`,
whose records differ in one place – `op'` for `op`, between a done prefix and an idle suffix;
machine `m` becomes `m'`, busy with `j` until the end of `op'`; nothing else changes. -/
theorem SchedInv.run {s s' : State} (hS : SchedInv s) {j j' : JobState} {m m' : MachineState}
    {l1 l2 : List OpState} {op op' : OpState} (hj : j ∈ s.jobs) (hm : m ∈ s.machines)
    (hmn : (s.machines.map (·.id)).Nodup)
    (hJ : ∀ x, x ∈ s'.jobs ↔ (x = j' ∨ (x ∈ s.jobs ∧ x.id ≠ j.id)))
    (hM : ∀ y, y ∈ s'.machines ↔ (y = m' ∨ (y ∈ s.machines ∧ y.id ≠ m.id)))
    (hT : s'.transports = s.transports) (htime : s'.time = s.time) (hjid : j'.id = j.id) (hmid : m'.id = m.id)
    (hops : j.ops = l1 ++ op :: l2) (hops' : j'.ops = l1 ++ op' :: l2)
    (hl1 : ∀ x ∈ l1, x.st = .done) (hl2 : allIdle l2) (hok : OpsOK s.time none (l1 ++ op' :: l2))
    (hst : op'.st = .processing) (hbusy : m'.st ≠ .idle) (hstore : m'.buffer.store = [j.id])
    (hmach : op'.machine = m.id) (hstop : op'.stop = m'.occ) (hocc : m'.occ ≠ none)
    -- before, `m` was idle or held `j` already; no other busy machine holds `j`
    (hmold : m.st ≠ .idle → m.buffer.store = [j.id])
    (hothers : ∀ y ∈ s.machines, y.id ≠ m.id → y.st ≠ .idle → y.buffer.store ≠ [j.id])
    -- what has finished on the machine ended before `op'` starts
    (hdone : ∀ x ∈ s.jobs, ∀ o ∈ x.ops, o.machine = op'.machine → o.st = .done → ∀ b a, o.stop = some b →
      op'.start = some a → b ≤ a) : SchedInv s' := by
  have doneOld : ∀ x ∈ s'.jobs, ∀ o ∈ x.ops, o.st = .done → ∃ x0 ∈ s.jobs, o ∈ x0.ops := by
    intro x hx o ho hd
    rcases (hJ x).mp hx with rfl | ⟨hx0, _⟩
    · rw [hops'] at ho
      rcases List.mem_append.mp ho with ho | ho
      · exact ⟨j, hj, by rw [hops]; simp [ho]⟩
      · rcases List.mem_cons.mp ho with rfl | ho
        · rw [hst] at hd; cases hd
        · exact absurd (hl2 o ho) (by rw [hd]; simp)
    · exact ⟨x, hx0, ho⟩
  have procNew : ∀ o ∈ j'.ops, o.st = .processing → o = op' := by
    intro o ho hp
    rw [hops'] at ho
    rcases List.mem_append.mp ho with ho | ho
    · exact absurd (hl1 o ho) (by rw [hp]; simp)
    · rcases List.mem_cons.mp ho with rfl | ho
      · rfl
      · exact absurd (hl2 o ho) (by rw [hp]; simp)
  refine {
    idleEmpty := ?_, busyHolds := ?_, procOnBusy := ?_, ops := ?_, doneBeforeProc := ?_, doneDisjoint := ?_,
    agvPending := fun t ht => by rw [htime]; exact hS.agvPending t (hT ▸ ht),
    freeNoClaim := fun t ht => hS.freeNoClaim t (hT ▸ ht), depWaiting := fun t ht => hS.depWaiting t (hT ▸ ht) }
  · intro y hy hyst
    rcases (hM y).mp hy with rfl | ⟨hy0, _⟩
    · exact absurd hyst hbusy
    · exact hS.idleEmpty y hy0 hyst
  · intro y hy hyst
    rcases (hM y).mp hy with rfl | ⟨hy0, hyne⟩
    · exact ⟨j', (hJ _).mpr (Or.inl rfl), by rw [hstore, hjid], op', processing?_split hops' hl1 hst,
        by rw [hmach, hmid], hstop, hocc⟩
    · obtain ⟨j2, hj2, hst2, rest⟩ := hS.busyHolds y hy0 hyst
      have hne : j2.id ≠ j.id := fun e => hothers y hy0 hyne hyst (by rw [hst2, e])
      exact ⟨j2, (hJ j2).mpr (Or.inr ⟨hj2, hne⟩), hst2, rest⟩
  · intro x hx o ho hp
    rcases (hJ x).mp hx with rfl | ⟨hx0, hxne⟩
    · rw [procNew o ho hp]
      exact ⟨m', (hM _).mpr (Or.inl rfl), by rw [hmid, hmach], hbusy, by rw [hstore, hjid]⟩
    · obtain ⟨m3, hm3, h1, h2, h3⟩ := hS.procOnBusy x hx0 o ho hp
      have hne : m3.id ≠ m.id := by
        intro e
        have : m3 = m := eq_of_mem_of_key_eq (key := fun (z : MachineState) => z.id) hmn hm3 hm e
        subst this
        rw [hmold h2] at h3
        exact hxne (List.cons.inj h3).1.symm
      exact ⟨m3, (hM m3).mpr (Or.inr ⟨hm3, hne⟩), h1, h2, h3⟩
  · intro x hx
    rw [htime]
    rcases (hJ x).mp hx with rfl | ⟨hx0, _⟩
    · rw [hops']; exact hok
    · exact hS.ops x hx0
  · intro j1 hj1 o1 ho1 j2 hj2 o2 ho2 hmm hd hp b1 a2 hb1 ha2
    obtain ⟨x1, hx1, hox1⟩ := doneOld j1 hj1 o1 ho1 hd
    rcases (hJ j2).mp hj2 with rfl | ⟨hj20, _⟩
    · have := procNew o2 ho2 hp
      subst this
      exact hdone x1 hx1 o1 hox1 hmm hd b1 a2 hb1 ha2
    · exact hS.doneBeforeProc x1 hx1 o1 hox1 j2 hj20 o2 ho2 hmm hd hp b1 a2 hb1 ha2
  · intro j1 hj1 o1 ho1 j2 hj2 o2 ho2 hmm hd1 hd2 hne
    obtain ⟨x1, hx1, hox1⟩ := doneOld j1 hj1 o1 ho1 hd1
    obtain ⟨x2, hx2, hox2⟩ := doneOld j2 hj2 o2 ho2 hd2
    exact hS.doneDisjoint x1 hx1 o1 hox1 x2 hx2 o2 hox2 hmm hd1 hd2 hne

theorem done_before_now {s : State} (hS : SchedInv s) {op' : OpState} (hstart : op'.start = some s.time) :
    ∀ x ∈ s.jobs, ∀ o ∈ x.ops, o.machine = op'.machine → o.st = .done → ∀ b a, o.stop = some b →
      op'.start = some a → b ≤ a := by
  intro x hx o ho _ hd b a hb ha
  rw [hstart] at ha
  cases ha
  obtain ⟨_, b', _, hb', _, hle⟩ := (OpsOK_mem _ _ (hS.ops x hx) o ho).1 hd
  rw [hb'] at hb
  cases hb
  exact hle

theorem idleToSetup_sched (w : WF inst) (nn : NonNeg orc inst) {s s' : State} {r r' : Rng} {tr : Transition}
    {m : MachineState} (hI : StructInv inst s) (hS : SchedInv s) (hm : m ∈ s.machines) (hidle : m.st = .idle)
    (h : handleMachineIdleToSetup orc inst s r tr m = .ok (s', r')) : SchedInv s' := by
  obtain ⟨j, op, oc, mc, sd, bss1, bss2, hj, htj, hjin, hop, hoc, hocj, hoci, hmc, hmcid, hcap, ⟨c, hc, hsd⟩, rfl⟩ :=
    idleToSetup_spec h
  have hs := hI.shape
  have hjn := hs.jobsNodup w
  have hmn := hs.machNodup w
  have hsd0 : 0 ≤ sd := by
    have := TimeCfg.readUpd_nonneg nn.orc r c (nn.setup mc hmc _ (lookup_mem hc))
    rw [← hsd] at this; exact this
  have hpre : storeAt s m.pre.id = m.pre.store := storeAt_of_mem (hs.bufNodup w) (mem_allBufs_of_machine hm).1
  have hnoproc : ∀ o ∈ j.ops, o.st ≠ .processing :=
    not_processing_of_stored hI hS w hj (by rw [hpre]; exact hjin)
      (fun m3 hm3 => (internal_ne_pre_post hs w hm3 hm).1)
  obtain ⟨l1, l2, hops, hl1, hopnd⟩ := nextNotDone?_split hop
  have hl2 : allIdle l2 := OpsOK_after op hopnd l2 l1 none hl1 (hops ▸ hS.ops j hj)
  have hj'ops : ((j.replaceOp (opRec oc s.time (s.time + sd) m.id)).at m.buffer.id).ops =
      l1 ++ opRec oc s.time (s.time + sd) m.id :: l2 :=
    replaceOp_split j l1 op _ l2 hops (hs.ops_key_nodup w hj) ⟨hocj, hoci⟩
  have hmst : m.buffer.store = [] := hS.idleEmpty m hm hidle
  refine hS.run (j' := (j.replaceOp (opRec oc s.time (s.time + sd) m.id)).at m.buffer.id)
    (m' := m.toSetup j.id bss1 bss2 (s.time + sd) oc.tool) (op' := opRec oc s.time (s.time + sd) m.id) hj hm hmn
    (fun x => by rw [replaceMachine_jobs]; exact mem_replaceJob hjn hj (by rfl) x)
    (fun y => mem_replaceMachine (s := s.replaceJob _) hmn hm (by rfl) y) rfl rfl rfl rfl hops hj'ops hl1 hl2
    (OpsOK_start (b := s.time + sd) (by omega) _ rfl rfl rfl op hopnd l2 l1 none hl1 (by simp) (hops ▸ hS.ops j hj))
    rfl (by simp [MachineState.toSetup]) (by simp [MachineState.toSetup, hmst]) rfl rfl (by simp [MachineState.toSetup])
    (fun hb => absurd hidle hb) ?_ (done_before_now hS rfl)
  -- a busy machine holding `j` would be processing it
  intro y hy _ hyst hst
  obtain ⟨_, op2, hp2, _⟩ := busy_job hI hS w hy hyst hj (by rw [hst]; simp)
  obtain ⟨_, _, hl, _, hpr⟩ := processing?_split' hp2
  exact hnoproc op2 (by rw [hl]; simp) hpr

theorem setupToWorking_sched (w : WF inst) (nn : NonNeg orc inst) {s s' : State} {r r' : Rng} {tr : Transition}
    {m : MachineState} (hI : StructInv inst s) (hS : SchedInv s) (hm : m ∈ s.machines) (hst : m.st = .setup)
    (h : handleMachineSetupToWorking orc inst s r tr m = .ok (s', r')) : SchedInv s' := by
  obtain ⟨j, op, oc, d, hj, htj, hjin, hop, hoc, hocj, hoci, hd, rfl⟩ := setupToWorking_spec h
  have hs := hI.shape
  have hjn := hs.jobsNodup w
  have hmn := hs.machNodup w
  obtain ⟨hstore, op0, hp0, hm0, hstop0, _⟩ := busy_job hI hS w hm (by rw [hst]; simp) hj hjin
  have hd0 : 0 ≤ d := by
    obtain ⟨jc, hjc, hocm⟩ := mem_flatMap_ops hoc
    have := TimeCfg.updRead_nonneg nn.orc r oc.dur (nn.ops jc hjc oc hocm)
    rw [← hd] at this; exact this
  obtain ⟨l1, l2, hops, hl1, hopnd⟩ := nextNotDone?_split hop
  have hl2 : allIdle l2 := OpsOK_after op hopnd l2 l1 none hl1 (hops ▸ hS.ops j hj)
  have hj'ops : (j.replaceOp (opRec oc s.time (s.time + d) m.id)).ops = l1 ++ opRec oc s.time (s.time + d) m.id :: l2 :=
    replaceOp_split j l1 op _ l2 hops (hs.ops_key_nodup w hj) ⟨hocj, hoci⟩
  exact hS.run (j' := j.replaceOp (opRec oc s.time (s.time + d) m.id)) (m' := m.toWorking (s.time + d))
    (op' := opRec oc s.time (s.time + d) m.id) hj hm hmn
    (fun x => by rw [replaceMachine_jobs]; exact mem_replaceJob hjn hj (by rfl) x)
    (fun y => mem_replaceMachine (s := s.replaceJob _) hmn hm (by rfl) y) rfl rfl rfl rfl hops hj'ops hl1 hl2
    (OpsOK_start (b := s.time + d) (by omega) _ rfl rfl rfl op hopnd l2 l1 none hl1 (by simp) (hops ▸ hS.ops j hj))
    rfl (by simp [MachineState.toWorking]) hstore rfl rfl (by simp [MachineState.toWorking])
    (fun _ => hstore) (fun y hy hyne _ hst2 => other_machine_other_job hI w hm hy hyne hstore hst2 rfl)
    (done_before_now hS rfl)

theorem workingToOutage_sched (w : WF inst) (nn : NonNeg orc inst) {s s' : State} {r r' : Rng} {tr : Transition}
    {m : MachineState} (hI : StructInv inst s) (hS : SchedInv s) (hm : m ∈ s.machines) (hst : m.st = .working)
    (hown : ∀ x, tr.job = some x → x ∈ m.buffer.store)
    (h : handleMachineWorkingToOutage orc inst s r tr m = .ok (s', r')) : SchedInv s' := by
  obtain ⟨mc, outs, j, op, hmc, hmcid, hout, hj, htj, hp, rfl⟩ := workingToOutage_spec h
  have hs := hI.shape
  have hjn := hs.jobsNodup w
  have hmn := hs.machNodup w
  obtain ⟨hstore, op0, hp0, hm0, hstop0, _⟩ := busy_job hI hS w hm (by rw [hst]; simp) hj (hown _ htj)
  have : op0 = op := by rw [hp] at hp0; simpa using hp0.symm
  subst this
  have hocc : 0 ≤ occupiedFor outs := occupiedFor_new_nonneg nn.orc (nn.mout mc hmc) hout
  obtain ⟨l1, l2, hops, _, hopst⟩ := processing?_split' hp
  have hl1 : ∀ x ∈ l1, x.st = .done := OpsOK_prefix_done op0 (by rw [hopst]; simp) l2 l1 none (hops ▸ hS.ops j hj)
  have hl2 : allIdle l2 := OpsOK_after op0 (by rw [hopst]; simp) l2 l1 none hl1 (hops ▸ hS.ops j hj)
  have hj'ops : (j.replaceOp { op0 with stop := some (s.time + occupiedFor outs) }).ops =
      l1 ++ { op0 with stop := some (s.time + occupiedFor outs) } :: l2 :=
    replaceOp_split j l1 op0 _ l2 hops (hs.ops_key_nodup w hj) ⟨rfl, rfl⟩
  exact hS.run (j' := j.replaceOp { op0 with stop := some (s.time + occupiedFor outs) })
    (m' := m.toOutage outs (s.time + occupiedFor outs)) (op' := { op0 with stop := some (s.time + occupiedFor outs) })
    hj hm hmn
    (fun x => mem_replaceJob (s := s.replaceMachine _) hjn hj (by rfl) x)
    (fun y => by rw [replaceJob_machines]; exact mem_replaceMachine hmn hm (by rfl) y) rfl rfl rfl rfl hops hj'ops hl1 hl2
    (OpsOK_extend (b' := s.time + occupiedFor outs) (by omega) op0 hopst l2 l1 none hl1 (hops ▸ hS.ops j hj))
    hopst (by simp [MachineState.toOutage]) hstore hm0 rfl (by simp [MachineState.toOutage])
    (fun _ => hstore) (fun y hy hyne _ hst2 => other_machine_other_job hI w hm hy hyne hstore hst2 rfl)
    (fun x hx o ho hmm hd b a hb ha => hS.doneBeforeProc x hx o ho j hj op0 (by rw [hops]; simp) hmm hd hopst b a hb ha)

/-- The running operation of a job ends now.  Job `j` becomes `j'`, in whose records `op` is done
and stops at the clock; machine `m`, which held `j`, becomes `m'`, idle and empty; nothing else
changes. -/
theorem SchedInv.finish {s s' : State} (hS : SchedInv s) {j j' : JobState} {m m' : MachineState}
    {l1 l2 : List OpState} {op : OpState} (hj : j ∈ s.jobs) (hm : m ∈ s.machines)
    (hmn : (s.machines.map (·.id)).Nodup)
    (hJ : ∀ x, x ∈ s'.jobs ↔ (x = j' ∨ (x ∈ s.jobs ∧ x.id ≠ j.id)))
    (hM : ∀ y, y ∈ s'.machines ↔ (y = m' ∨ (y ∈ s.machines ∧ y.id ≠ m.id)))
    (hT : s'.transports = s.transports) (htime : s'.time = s.time)
    (hops : j.ops = l1 ++ op :: l2) (hops' : j'.ops = l1 ++ { op with stop := some s.time, st := .done } :: l2)
    (hl1 : ∀ x ∈ l1, x.st = .done) (hl2 : allIdle l2) (hst : op.st = .processing) (hmach : op.machine = m.id)
    (hidle : m'.st = .idle) (hempty : m'.buffer.store = []) (hstore : m.buffer.store = [j.id])
    (hothers : ∀ y ∈ s.machines, y.id ≠ m.id → y.st ≠ .idle → y.buffer.store ≠ [j.id]) : SchedInv s' := by
  have hopmem : op ∈ j.ops := by rw [hops]; simp
  have recs : ∀ o ∈ j'.ops, o = { op with stop := some s.time, st := .done } ∨ (o ∈ j.ops ∧ o.st ≠ .processing) := by
    intro o ho
    rw [hops'] at ho
    rcases List.mem_append.mp ho with ho | ho
    · exact Or.inr ⟨by rw [hops]; simp [ho], by rw [hl1 o ho]; simp⟩
    · rcases List.mem_cons.mp ho with rfl | ho
      · exact Or.inl rfl
      · exact Or.inr ⟨by rw [hops]; simp [ho], by rw [hl2 o ho]; simp⟩
  -- every operation record of the new state is an old record, except the finished one
  have opOld : ∀ x ∈ s'.jobs, ∀ o ∈ x.ops, o = { op with stop := some s.time, st := .done } ∨
      (∃ x0 ∈ s.jobs, o ∈ x0.ops ∧ (x0.id = j.id → o.st ≠ .processing)) := by
    intro x hx o ho
    rcases (hJ x).mp hx with rfl | ⟨hx0, hxne⟩
    · exact (recs o ho).imp id (fun h => ⟨j, hj, h.1, fun _ => h.2⟩)
    · exact Or.inr ⟨x, hx0, ho, fun e => absurd e hxne⟩
  -- what runs on `m` belongs to `j`
  have procOnM : ∀ x0 ∈ s.jobs, ∀ o ∈ x0.ops, o.st = .processing → o.machine = m.id → x0.id = j.id := by
    intro x0 hx0 o ho hpr hmid
    obtain ⟨m3, hm3, h1, _, h3⟩ := hS.procOnBusy x0 hx0 o ho hpr
    have : m3 = m := eq_of_mem_of_key_eq (key := fun (z : MachineState) => z.id) hmn hm3 hm (by rw [h1, hmid])
    subst this
    rw [hstore] at h3
    exact (List.cons.inj h3).1.symm
  obtain ⟨a0, b0, ha0, hb0, _, hale, _⟩ := (OpsOK_mem _ _ (hS.ops j hj) op hopmem).2.1 hst
  refine {
    idleEmpty := ?_, busyHolds := ?_, procOnBusy := ?_, ops := ?_, doneBeforeProc := ?_, doneDisjoint := ?_,
    agvPending := fun t ht => by rw [htime]; exact hS.agvPending t (hT ▸ ht),
    freeNoClaim := fun t ht => hS.freeNoClaim t (hT ▸ ht), depWaiting := fun t ht => hS.depWaiting t (hT ▸ ht) }
  · intro y hy hyst
    rcases (hM y).mp hy with rfl | ⟨hy0, _⟩
    · exact hempty
    · exact hS.idleEmpty y hy0 hyst
  · intro y hy hyst
    rcases (hM y).mp hy with rfl | ⟨hy0, hyne⟩
    · exact absurd hidle hyst
    · obtain ⟨j2, hj2, hst2, rest⟩ := hS.busyHolds y hy0 hyst
      have hne : j2.id ≠ j.id := fun e => hothers y hy0 hyne hyst (by rw [hst2, e])
      exact ⟨j2, (hJ j2).mpr (Or.inr ⟨hj2, hne⟩), hst2, rest⟩
  · intro x hx o ho hpr
    rcases (hJ x).mp hx with rfl | ⟨hx0, hxne⟩
    · rcases recs o ho with rfl | ⟨_, hnp⟩
      · cases hpr
      · exact absurd hpr hnp
    · obtain ⟨m3, hm3, h1, h2, h3⟩ := hS.procOnBusy x hx0 o ho hpr
      have hne : m3.id ≠ m.id := fun e => hxne (procOnM x hx0 o ho hpr (by rw [← h1, e]))
      exact ⟨m3, (hM m3).mpr (Or.inr ⟨hm3, hne⟩), h1, h2, h3⟩
  · intro x hx
    rw [htime]
    rcases (hJ x).mp hx with rfl | ⟨hx0, _⟩
    · rw [hops']
      exact OpsOK_finish op hst l2 l1 none hl1 (hops ▸ hS.ops j hj)
    · exact hS.ops x hx0
  · intro j1 hj1 o1 ho1 j2 hj2 o2 ho2 hmm hd1 hpr b1 a2 hb1 ha2
    rcases opOld j2 hj2 o2 ho2 with rfl | ⟨x2, hx2, hox2, hnp2⟩
    · cases hpr
    · rcases opOld j1 hj1 o1 ho1 with rfl | ⟨x1, hx1, hox1, _⟩
      · -- the freshly finished record against a running one on the same machine: impossible
        exact absurd hpr (hnp2 (procOnM x2 hx2 o2 hox2 hpr (by rw [← hmm]; exact hmach)))
      · exact hS.doneBeforeProc x1 hx1 o1 hox1 x2 hx2 o2 hox2 hmm hd1 hpr b1 a2 hb1 ha2
  · intro j1 hj1 o1 ho1 j2 hj2 o2 ho2 hmm hd1 hd2 hne
    rcases opOld j1 hj1 o1 ho1 with rfl | ⟨x1, hx1, hox1, _⟩ <;>
      rcases opOld j2 hj2 o2 ho2 with rfl | ⟨x2, hx2, hox2, _⟩
    · exact absurd rfl hne
    · -- the finished record `[a0, now]` against an older one on the machine, which ended before `a0`
      intro a1 b1 a2 b2 h1 _ _ h4
      have := hS.doneBeforeProc x2 hx2 o2 hox2 j hj op hopmem hmm.symm hd2 hst b2 a0 h4 ha0
      right
      rw [show a1 = a0 from Option.some.inj (h1.symm.trans ha0)]
      exact this
    · intro a1 b1 a2 b2 _ h2 h3 _
      have := hS.doneBeforeProc x1 hx1 o1 hox1 j hj op hopmem hmm hd1 hst b1 a0 h2 ha0
      left
      rw [show a2 = a0 from Option.some.inj (h3.symm.trans ha0)]
      exact this
    · exact hS.doneDisjoint x1 hx1 o1 hox1 x2 hx2 o2 hox2 hmm hd1 hd2 hne

theorem outageToIdle_sched (w : WF inst) {s s' : State} {r r' : Rng}
    {m : MachineState} (hI : StructInv inst s) (hS : SchedInv s) (hm : m ∈ s.machines) (hst : m.st = .outage)
    (h : handleMachineOutageToIdle inst s r m = .ok (s', r')) : SchedInv s' := by
  obtain ⟨j, op, mc, rest, bss1, bss2, hstore0, hj, hp, hmc, hmcid, hcap, _, rfl⟩ := outageToIdle_spec h
  have hs := hI.shape
  have hjn := hs.jobsNodup w
  have hmn := hs.machNodup w
  obtain ⟨hstore, op0, hp0, hm0, _⟩ := busy_job hI hS w hm (by rw [hst]; simp) hj (by rw [hstore0]; simp)
  have : op0 = op := by rw [hp] at hp0; simpa using hp0.symm
  subst this
  obtain ⟨l1, l2, hops, _, hopst⟩ := processing?_split' hp
  have hl1 : ∀ x ∈ l1, x.st = .done := OpsOK_prefix_done op0 (by rw [hopst]; simp) l2 l1 none (hops ▸ hS.ops j hj)
  have hl2 : allIdle l2 := OpsOK_after op0 (by rw [hopst]; simp) l2 l1 none hl1 (hops ▸ hS.ops j hj)
  have hj'ops : ((j.replaceOp { op0 with stop := some s.time, st := .done }).at m.post.id).ops =
      l1 ++ { op0 with stop := some s.time, st := .done } :: l2 :=
    replaceOp_split j l1 op0 _ l2 hops (hs.ops_key_nodup w hj) ⟨rfl, rfl⟩
  exact hS.finish (j' := (j.replaceOp { op0 with stop := some s.time, st := .done }).at m.post.id)
    (m' := m.toIdle j.id bss1 bss2) hj hm hmn
    (fun x => by rw [replaceMachine_jobs]; exact mem_replaceJob hjn hj (by rfl) x)
    (fun y => mem_replaceMachine (s := s.replaceJob _) hmn hm (by rfl) y) rfl rfl hops hj'ops hl1 hl2 hopst hm0
    rfl (by simp [MachineState.toIdle, hstore]) hstore
    (fun y hy hyne _ hst2 => other_machine_other_job hI w hm hy hyne hstore hst2 rfl)

end JSL
