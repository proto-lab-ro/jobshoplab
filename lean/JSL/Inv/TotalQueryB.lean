import JSL.Inv.TotalQueryA

/-!
# The offer computation and the teleport filter never raise

For an instance of the class `TotClassP` and a state satisfying `TotInv`:
`possibleTransitions`, `numPossibleEvents` and `filterTeleport` return.
-/

namespace JSL

variable {inst : Instance}

theorem machine_of_op (w : WF inst) {s : State} (hs : Shape inst s) {j : JobState} (hj : j ∈ s.jobs)
    {o : OpState} (ho : o ∈ j.ops) : ∃ m ∈ s.machines, m.id = o.machine ∧ getMachine s.machines o.machine = .ok m := by
  obtain ⟨_, _, m, hmm, _, hid, _⟩ := op_machine w hs hj ho
  exact ⟨m, hmm, hid, by rw [← hid]; exact getMachine_of_mem (hs.machNodup w) hmm⟩

theorem nextNotDone_of_idleT {j : JobState} {o : OpState} (ho : o ∈ j.ops) (hi : o.st = .idle) :
    ∃ op, j.nextNotDone = .ok op ∧ op ∈ j.ops := by
  unfold JobState.nextNotDone JobState.nextNotDone?
  cases hf : j.ops.find? (fun x => x.st != .done) with
  | none =>
    have := List.find?_eq_none.mp hf o ho
    simp [hi] at this
  | some op => exact ⟨op, rfl, List.mem_of_find?_eq_some hf⟩

theorem nextIdle_mem {j : JobState} {o : OpState} (h : j.nextIdle? = some o) : o ∈ j.ops ∧ o.st = .idle := by
  unfold JobState.nextIdle? at h
  exact ⟨List.mem_of_find?_eq_some h, by simpa using List.find?_some h⟩

theorem nextIdle_of_not_allDone {now : Int} {j : JobState} (hok : OpsOK now none j.ops) (hr : j.running = false)
    (hd : j.allDone = false) : ∃ o, j.nextIdle? = some o := by
  unfold JobState.allDone at hd
  have : ∃ o ∈ j.ops, o.st ≠ .done := by
    apply Classical.byContradiction
    intro hno
    have : j.ops.all (·.st == .done) = true := by
      apply List.all_eq_true.mpr
      intro o ho
      apply Classical.byContradiction
      intro hn
      exact hno ⟨o, ho, by simpa using hn⟩
    rw [this] at hd; cases hd
  obtain ⟨o, ho, hnd⟩ := this
  have hnt := (OpsOK_mem _ _ hok o ho).2.2
  have hnp : o.st ≠ .processing := by
    intro e
    unfold JobState.running at hr
    have : j.ops.any (·.st == .processing) = true := List.any_eq_true.mpr ⟨o, ho, by simp [e]⟩
    rw [hr] at this; cases this
  have hi : o.st = .idle := by
    cases h : o.st with
    | idle => rfl
    | processing => exact absurd h hnp
    | done => exact absurd h hnd
    | transport => exact absurd h hnt
  unfold JobState.nextIdle?
  cases hf : j.ops.find? (fun x => x.st == .idle) with
  | none =>
    have := List.find?_eq_none.mp hf o ho
    simp [hi] at this
  | some o' => exact ⟨o', rfl⟩

theorem actionPossible_totalT (w : WF inst) (C : TotClassP inst) {s : State} (hV : TotInv inst s) {j : JobState}
    (hj : j ∈ s.jobs) : ∃ b, actionPossible inst s j = .ok b := by
  have hs := hV.struct.shape
  unfold actionPossible
  by_cases hfree : j.nextOpFree = true
  · obtain ⟨hrun, o, ho⟩ := nextOpFree_iff.mp hfree
    obtain ⟨hom, hoi⟩ := nextIdle_mem ho
    obtain ⟨op, hnn, hopm⟩ := nextNotDone_of_idleT hom hoi
    obtain ⟨m, _, _, hgm⟩ := machine_of_op w hs hj hopm
    cases ht0 : inst.transports with
    | nil => exact absurd ht0 C.agvOnly.ne
    | cons t0 ts =>
      have hty : t0.type = .agv := C.agvOnly.agv t0 (by rw [ht0]; simp)
      simp only [hfree, hty, hnn, hgm, jobAtMachine, bind, Except.bind, pure, Except.pure]
      have hne : (TrType.agv == TrType.teleporter) = false := by decide
      simp only [hne, Bool.not_true, Bool.false_eq_true, if_false]
      split <;> exact ⟨_, rfl⟩
  · simp only [hfree, bind, Except.bind, pure, Except.pure]
    exact ⟨_, rfl⟩

theorem possibleTransports_totalT {s : State} (hs : Shape inst s) : ∃ ts, possibleTransports inst s = .ok ts := by
  unfold possibleTransports
  apply bind_total
  · apply mapM_total
    intro t ht
    have : t.id ∈ inst.transports.map (·.id) := by rw [← hs.transportIds]; exact List.mem_map.mpr ⟨t, ht, rfl⟩
    obtain ⟨tc, htc, e⟩ := List.mem_map.mp this
    obtain ⟨tc', htc'⟩ := findE_of_exists (p := fun (c : TransportCfg) => c.id == t.id) .invalidKey htc (by simp [e])
    rw [htc']
    exact ⟨_, rfl⟩
  · intro l _
    exact ⟨_, rfl⟩

theorem transportable_totalT (w : WF inst) {s : State} (hs : Shape inst s) (hS : SchedInv s) {j : JobState}
    (hj : j ∈ s.jobs) (hr : j.running = false) : ∃ b, transportable inst s j = .ok b := by
  unfold transportable
  by_cases hd : jobDone inst j = true
  · simp only [hd, bind, Except.bind, pure, Except.pure]
    exact ⟨_, rfl⟩
  · by_cases hall : j.allDone = true
    · simp only [hd, hall, bind, Except.bind, pure, Except.pure]
      exact ⟨_, rfl⟩
    · have hall' : j.allDone = false := by simpa using hall
      obtain ⟨o, ho⟩ := nextIdle_of_not_allDone (hS.ops j hj) hr hall'
      obtain ⟨hom, hoi⟩ := nextIdle_mem ho
      obtain ⟨op, hnn, _⟩ := nextNotDone_of_idleT hom hoi
      obtain ⟨m, _, _, hgm⟩ := machine_of_op w hs hj hom
      simp only [hd, hall, ho, hgm, jobAtMachine, hnn, bind, Except.bind, pure, Except.pure]
      cases (m.pre.id == j.loc) <;> exact ⟨_, rfl⟩

theorem possibleTransportTransitions_totalT (w : WF inst) {s : State} (hV : TotInv inst s) (cfg : SMConfig) :
    ∃ pt, possibleTransportTransitions inst cfg s = .ok pt := by
  have hs := hV.struct.shape
  obtain ⟨ts, hts⟩ := possibleTransports_totalT (inst := inst) hs
  obtain ⟨idle, hidle⟩ := filterE_ok_of_forall (p := transportable inst s) (l := s.jobs.filter (!·.running))
    (fun j hj => by
      obtain ⟨hj1, hj2⟩ := List.mem_filter.mp hj
      exact transportable_totalT w hs hV.sched hj1 (by simpa using hj2))
  have hidleMem : ∀ j ∈ idle, j ∈ s.jobs := fun j hj => (List.mem_filter.mp (filterE_ok hidle j hj).1).1
  have hlon : ∃ lonely, earlyFilter inst cfg s ((s.jobs.filter (·.running) ++ idle).filter
      fun j => !(s.transports.filterMap (·.job)).contains j.id) = .ok lonely := by
    unfold earlyFilter
    by_cases he : cfg.allowEarly = true
    · rw [if_pos he]; exact ⟨_, rfl⟩
    · rw [if_neg he]
      apply filterE_ok_of_forall
      intro j hj
      have hjs : j ∈ s.jobs := by
        rcases List.mem_append.mp (List.mem_filter.mp hj).1 with h | h
        · exact (List.mem_filter.mp h).1
        · exact hidleMem j h
      exact readyForPickup_totalT w hV.struct hjs
  obtain ⟨lonely, hlonely⟩ := hlon
  unfold possibleTransportTransitions
  simp only [hts, hidle, hlonely, except_bind_ok, except_pure]
  exact ⟨_, rfl⟩

theorem possibleJobs_totalT (w : WF inst) (C : TotClassP inst) {s : State} (hV : TotInv inst s) :
    ∃ pj, possibleJobs inst s = .ok pj :=
  filterE_ok_of_forall (fun _ hj => actionPossible_totalT w C hV hj)

theorem possibleTransitions_totalT (w : WF inst) (C : TotClassP inst) {s : State} (hV : TotInv inst s) (cfg : SMConfig) :
    ∃ p, possibleTransitions inst cfg s = .ok p := by
  obtain ⟨pj, hpj⟩ := possibleJobs_totalT w C hV
  obtain ⟨pt, hpt⟩ := possibleTransportTransitions_totalT w hV cfg
  unfold possibleTransitions
  rw [hpj, hpt]
  simp only [except_bind_ok]
  apply bind_total
  · apply mapM_total
    intro j hj
    have hap := (filterE_ok hpj j hj).2
    obtain ⟨_, o, _, _, hst⟩ := actionPossible_true_iff.mp hap
    simp only [hst.nextIdle, except_pure]
    exact ⟨_, rfl⟩
  · intro mt _
    exact ⟨_, rfl⟩

theorem numPossibleEvents_totalT (w : WF inst) (C : TotClassP inst) {s : State} (hV : TotInv inst s) (cfg : SMConfig) :
    ∃ n, numPossibleEvents inst cfg s = .ok n := by
  obtain ⟨pj, hpj⟩ := possibleJobs_totalT w C hV
  obtain ⟨pt, hpt⟩ := possibleTransportTransitions_totalT w hV cfg
  unfold numPossibleEvents
  simp only [hpj, hpt, except_bind_ok, except_pure]
  exact ⟨_, rfl⟩

theorem noOpIdle_false_of_idle {j : JobState} {o : OpState} (ho : o ∈ j.ops) (hi : o.st = .idle) :
    j.noOpIdle = false := by
  unfold JobState.noOpIdle
  cases h : j.ops.all (·.st != .idle) with
  | false => rfl
  | true =>
    have := List.all_eq_true.mp h o ho
    simp [hi] at this

theorem nextIdle_of_not_noOpIdleT {j : JobState} (h : j.noOpIdle = false) : ∃ o, j.nextIdle? = some o := by
  unfold JobState.nextIdle?
  cases hf : j.ops.find? (fun x => x.st == .idle) with
  | some o => exact ⟨o, rfl⟩
  | none =>
    exfalso
    have hn := List.find?_eq_none.mp hf
    have : j.noOpIdle = true := by
      unfold JobState.noOpIdle
      apply List.all_eq_true.mpr
      intro x hx
      simpa using hn x hx
    rw [this] at h; cases h

theorem firstOutput_mem_stands {o : Nat} (h : firstOutput inst = .ok o) : Loc.b o ∈ stands inst := by
  unfold stands
  apply List.mem_append.mpr; right
  unfold firstOutput at h
  cases hob : outputBuffers inst with
  | nil => simp [hob] at h
  | cons b bs => simp [hob] at h; simp [h]

theorem machine_mem_stands {mc : MachineCfg} (h : mc ∈ inst.machines) : Loc.m mc.id ∈ stands inst := by
  unfold stands
  exact List.mem_append.mpr (Or.inl (List.mem_map.mpr ⟨mc, h, rfl⟩))

theorem machine_mem_sources {mc : MachineCfg} (h : mc ∈ inst.machines) : Loc.m mc.id ∈ sources inst := by
  unfold sources
  exact List.mem_append.mpr (Or.inl (List.mem_map.mpr ⟨mc, h, rfl⟩))

/-- where the job is taken to, as `travelTimeForTransport` computes it -/
def ttNxt (inst : Instance) (j : JobState) : Except Err Loc :=
  if j.noOpIdle then (firstOutput inst).map Loc.b
  else match j.nextIdle? with
    | some o => pure (Loc.m o.machine) | none => throw .typeError

/-- where the job lies, as `travelTimeForTransport` computes it -/
def ttCur (bc : BufCfg) (j : JobState) : Except Err Loc :=
  match bc.parent with
  | some (.m mid) => pure (Loc.m mid)
  | some (.b n) => pure (Loc.b n)
  | some (.t _) => throw .notImplemented
  | none => pure (Loc.b j.loc)

theorem travelTime_factored (orc : Oracle) (inst : Instance) (r : Rng) (s : State) (jid : Option Nat) :
    travelTimeForTransport orc inst r s jid = (do
      let j ← getJobOpt s.jobs jid
      let bc ← getBufCfg (allBufCfgs inst) j.loc
      let nxt ← ttNxt inst j
      let cur ← ttCur bc j
      if cur == nxt then pure 0 else
      match travelCfg inst cur nxt with
      | some c => pure (c.cur orc r)
      | none => throw .notImplemented) := by
  unfold travelTimeForTransport ttNxt
  cases getJobOpt s.jobs jid with
  | error e => rfl
  | ok j =>
    simp only [except_bind_ok]
    cases getBufCfg (allBufCfgs inst) j.loc with
    | error e => rfl
    | ok bc =>
      simp only [except_bind_ok]
      by_cases h : j.noOpIdle = true
      · simp only [h, if_true]
        rfl
      · simp only [h]
        cases j.nextIdle? with
        | none => rfl
        | some o => rfl

theorem nxt_total (w : WF inst) (C : TotClassP inst) {s : State} (hs : Shape inst s) {j : JobState} (hj : j ∈ s.jobs) :
    ∃ nxt, ttNxt inst j = .ok nxt ∧
      nxt ∈ stands inst ∧ (j.noOpIdle = false → nxt.isBuf = false) := by
  unfold ttNxt
  by_cases hn : j.noOpIdle = true
  · obtain ⟨o, ho⟩ := C.tables.output
    refine ⟨Loc.b o, by simp [hn, ho], firstOutput_mem_stands ho, fun h => by rw [hn] at h; cases h⟩
  · have hn' : j.noOpIdle = false := by simpa using hn
    obtain ⟨o, ho⟩ := nextIdle_of_not_noOpIdleT hn'
    obtain ⟨mc, hmc, _, _, hid, _⟩ := op_machine w hs hj (nextIdle_mem ho).1
    refine ⟨Loc.m o.machine, by simp [hn', ho], by rw [← hid]; exact machine_mem_stands hmc, fun _ => rfl⟩

/-- the travel time of a machine start on offer: the job lies in front of the machine -/
theorem travelTime_machine_offer (w : WF inst) (C : TotClassP inst) {s : State} (hV : TotInv inst s) {j : JobState}
    (hj : j ∈ s.jobs) {o : OpState} (hap : actionPossible inst s j = .ok true) (hn : j.nextIdle? = some o)
    (orc : Oracle) (r : Rng) : travelTimeForTransport orc inst r s (some j.id) = .ok 0 := by
  have hs := hV.struct.shape
  obtain ⟨m, hgm, _, hloc, _⟩ := actionPossible_facts hV.sched hj hap hn
  obtain ⟨hm, hmid⟩ := getMachine_ok hgm
  obtain ⟨mc, hmc, hk⟩ := hs.machine_cfg hm
  simp only [mKey, mcKey, Prod.mk.injEq] at hk
  have hget := findE_of_mem (key := fun (y : BufCfg) => y.id) w.bufNodup (mem_allBufCfgs_of_machine hmc).1 Err.invalidValue
  have hget' : getBufCfg (allBufCfgs inst) j.loc = .ok mc.pre := by
    rw [← hloc, hk.2.1]; exact hget
  have hpar := (C.parents.machine mc hmc).1
  have hno := noOpIdle_false_of_idle (nextIdle_mem hn).1 (nextIdle_mem hn).2
  have hgj : getJobOpt s.jobs (some j.id) = .ok j := getJob_of_mem (hs.jobsNodup w) hj
  have hid : mc.id = o.machine := by rw [← hk.1, hmid]
  unfold travelTimeForTransport
  simp [hgj, hget', hpar, hno, hn, hid]

theorem travelTime_dispatch_offer (w : WF inst) (C : TotClassP inst) {s : State} (hV : TotInv inst s) {j : JobState}
    (hj : j ∈ s.jobs) (hfree : ∀ x ∈ s.transports, x.job ≠ some j.id)
    (hkind : j.running = true ∨ transportable inst s j = .ok true)
    (hnpre : ∀ m ∈ s.machines, j.id ∉ m.pre.store) (orc : Oracle) (r : Rng) :
    ∃ t, travelTimeForTransport orc inst r s (some j.id) = .ok t := by
  have hs := hV.struct.shape
  obtain ⟨bc, hbc, hpick, hid⟩ := offered_job_buffer w hV.struct hV.full hj hfree hkind hnpre
  obtain ⟨nxt, hnxt, hst, hnb⟩ := nxt_total w C hs hj
  have hgj : getJobOpt s.jobs (some j.id) = .ok j := getJob_of_mem (hs.jobsNodup w) hj
  have hcur : ∃ cur, ttCur bc j = .ok cur ∧ cur ∈ sources inst ∧
      (cur.isBuf = true → nxt.isBuf = false) := by
    unfold ttCur
    unfold pickupBufs at hpick
    rcases List.mem_append.mp hpick with h | h
    · obtain ⟨hb, hrole⟩ := List.mem_filter.mp h
      have hpar := C.parents.standalone bc hb
      refine ⟨Loc.b j.loc, by simp [hpar], ?_, fun _ => ?_⟩
      · unfold sources
        apply List.mem_append.mpr; right
        exact List.mem_map.mpr ⟨bc, h, by rw [hid]⟩
      · apply hnb
        apply hV.place.inputIdle j hj
        unfold nonOutIds
        exact List.mem_map.mpr ⟨bc, h, hid⟩
    · obtain ⟨mc, hmc, hin⟩ := List.mem_flatMap.mp h
      simp only [List.mem_cons, List.not_mem_nil, or_false] at hin
      have hpar : bc.parent = some (Comp.m mc.id) := by
        rcases hin with e | e
        · rw [e]; exact (C.parents.machine mc hmc).2.1
        · rw [e]; exact (C.parents.machine mc hmc).2.2
      refine ⟨Loc.m mc.id, by simp [hpar], machine_mem_sources hmc, fun h => by simp [Loc.isBuf] at h⟩
  obtain ⟨cur, hcure, hsrc, hbb⟩ := hcur
  rw [travelTime_factored]
  simp only [hgj, hbc, except_bind_ok, hnxt, hcure]
  by_cases heq : (cur == nxt) = true
  · simp only [heq, if_true]; exact ⟨_, rfl⟩
  · simp only [heq]
    rcases C.routes cur hsrc nxt hst with ⟨h1, h2⟩ | h
    · rw [hbb h1] at h2; cases h2
    · obtain ⟨c, hc⟩ := Option.isSome_iff_exists.mp h
      simp only [hc]
      exact ⟨_, rfl⟩

theorem filterTeleport_totalT (w : WF inst) (C : TotClassP inst) {s : State} (hV : TotInv inst s) {cfg : SMConfig}
    {poss : List Transition} (hp : possibleTransitions inst cfg s = .ok poss) (orc : Oracle) (r : Rng) :
    ∃ tele, filterTeleport orc inst r s poss = .ok tele := by
  unfold filterTeleport
  apply bind_total
  · apply filterE_ok_of_forall
    intro x hx
    have : ∃ t, travelTimeForTransport orc inst r s x.job = .ok t := by
      rcases mem_possibleTransitions hp hx with ⟨j, hj, o, hap, hn, rfl⟩ | ⟨pt, hpt, hin⟩
      · exact ⟨_, travelTime_machine_offer w C hV hj hap hn orc r⟩
      · obtain ⟨t, ht, tc, j, hj, rfl, hst, htc, hty, hfree, hkind, _⟩ := possibleTransport_offer hpt x hin
        exact travelTime_dispatch_offer w C hV hj hfree hkind
          (offers_not_in_pre w hV.struct hV.sched hV.full.route hp _ hx rfl j.id rfl) orc r
    obtain ⟨t, ht⟩ := this
    rw [ht]
    exact ⟨_, rfl⟩
  · intro l _
    exact ⟨_, rfl⟩

end JSL
