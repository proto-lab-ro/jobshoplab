import JSL.Inv.TimeMachine

/-!
# What one applied transition leaves untouched

Used to show that the transitions of one batch (created from the state at the start of the batch
and applied one after the other) still meet their side conditions when their turn comes.
-/

namespace JSL

variable {orc : Oracle} {inst : Instance}

structure StepFrame (s s1 : State) (tr : Transition) : Prop where
  machines : ∀ m1 ∈ s1.machines, tr.comp ≠ .m m1.id →
    ∃ m ∈ s.machines, m.id = m1.id ∧ m.buffer.store = m1.buffer.store
  jobs : ∀ j1 ∈ s1.jobs, ∃ j ∈ s.jobs, j.id = j1.id ∧
    (j.ops = j1.ops ∨ (tr.new = .m .setup ∧ tr.job = some j.id) ∨ (∃ o ∈ j.ops, o.st = .processing))

theorem frame_job_machine (w : WF inst) {s : State} (hI : StructInv inst s) {j j' : JobState} {m m' : MachineState}
    {tr : Transition} {mid : Nat} (hc : tr.comp = .m mid) (hj : j ∈ s.jobs) (hm : m ∈ s.machines)
    (hjid : j'.id = j.id) (hmid : m'.id = m.id) (hmm : m.id = mid)
    (hwhy : (tr.new = .m .setup ∧ tr.job = some j.id) ∨ (∃ o ∈ j.ops, o.st = .processing))
    {s1 : State} (hs1 : s1 = (s.replaceJob j').replaceMachine m' ∨ s1 = (s.replaceMachine m').replaceJob j') :
    StepFrame s s1 tr := by
  have hjn := hI.shape.jobsNodup w
  have hmn := hI.shape.machNodup w
  have hmemJ : ∀ x, x ∈ s1.jobs ↔ (x = j' ∨ (x ∈ s.jobs ∧ x.id ≠ j.id)) := by
    intro x
    rcases hs1 with rfl | rfl
    · rw [replaceMachine_jobs]; exact mem_replaceJob hjn hj hjid x
    · exact mem_replaceJob (s := s.replaceMachine m') hjn hj hjid x
  have hmemM : ∀ y, y ∈ s1.machines ↔ (y = m' ∨ (y ∈ s.machines ∧ y.id ≠ m.id)) := by
    intro y
    rcases hs1 with rfl | rfl
    · exact mem_replaceMachine (s := s.replaceJob j') hmn hm hmid y
    · rw [replaceJob_machines]; exact mem_replaceMachine hmn hm hmid y
  constructor
  · intro m1 hm1 hne
    rcases (hmemM m1).mp hm1 with rfl | ⟨h0, _⟩
    · exact absurd (by rw [hc, hmid, hmm]) hne
    · exact ⟨m1, h0, rfl, rfl⟩
  · intro j1 hj1
    rcases (hmemJ j1).mp hj1 with rfl | ⟨h0, _⟩
    · exact ⟨j, hj, hjid.symm, Or.inr hwhy⟩
    · exact ⟨j1, h0, rfl, Or.inl rfl⟩

theorem frame_transport_only {s : State} {t' : TransportState} {tr : Transition} :
    StepFrame s (s.replaceTransport t') tr :=
  ⟨fun m1 hm1 _ => ⟨m1, hm1, rfl, rfl⟩, fun j1 hj1 => ⟨j1, hj1, rfl, Or.inl rfl⟩⟩

theorem frame_of_same {s s1 : State} {tr : Transition}
    (hm : ∀ m1 ∈ s1.machines, ∃ m ∈ s.machines, m.id = m1.id ∧ m.buffer.store = m1.buffer.store)
    (hj : ∀ j1 ∈ s1.jobs, ∃ j ∈ s.jobs, j.id = j1.id ∧ j.ops = j1.ops) : StepFrame s s1 tr :=
  ⟨fun m1 hm1 _ => hm m1 hm1, fun j1 hj1 => by
    obtain ⟨j, hj0, e1, e2⟩ := hj j1 hj1; exact ⟨j, hj0, e1, Or.inl e2⟩⟩

theorem applyTransition_frame (w : WF inst) {s s' : State} {r r' : Rng} {tr : Transition}
    (hI : StructInv inst s) (hS : SchedInv s) (hg : Guard s tr)
    (h : applyTransition orc inst s r tr = .ok (s', r')) : StepFrame s s' tr := by
  have hs := hI.shape
  cases applyTransition_cases h with
  | idleToSetup m hm hc hst hn run =>
    obtain ⟨j, op, oc, mc, sd, b1, b2, hj, htj, _, _, _, _, _, _, _, _, _, rfl⟩ := idleToSetup_spec run
    exact frame_job_machine w hI hc hj hm (by simp) (by simp [MachineState.toSetup]) rfl
      (Or.inl ⟨hn, htj⟩) (Or.inl rfl)
  | setupToWorking m hm hc hst hn run =>
    obtain ⟨j, op, oc, d, hj, htj, hjin, _, _, _, _, _, rfl⟩ := setupToWorking_spec run
    obtain ⟨_, op0, hp0, _⟩ := busy_job hI hS w hm (by rw [hst]; simp) hj hjin
    obtain ⟨_, _, hl, _, hpst⟩ := processing?_split' hp0
    exact frame_job_machine w hI hc hj hm (by simp) (by simp [MachineState.toWorking]) rfl
      (Or.inr ⟨op0, by rw [hl]; simp, hpst⟩) (Or.inl rfl)
  | workingToOutage m hm hc hst hn run =>
    obtain ⟨mc, outs, j, op, _, _, _, hj, _, hp, rfl⟩ := workingToOutage_spec run
    obtain ⟨_, _, hl, _, hpst⟩ := processing?_split' hp
    exact frame_job_machine w hI hc hj hm (by simp) (by simp [MachineState.toOutage]) rfl
      (Or.inr ⟨op, by rw [hl]; simp, hpst⟩) (Or.inr rfl)
  | outageToIdle m hm hc hst hn run =>
    obtain ⟨j, op, mc, rest, b1, b2, _, hj, hp, _, _, _, _, rfl⟩ := outageToIdle_spec run
    obtain ⟨_, _, hl, _, hpst⟩ := processing?_split' hp
    exact frame_job_machine w hI hc hj hm (by simp) (by simp [MachineState.toIdle]) rfl
      (Or.inr ⟨op, by rw [hl]; simp, hpst⟩) (Or.inl rfl)
  | idleToWorking t ht hc hst hn run =>
    obtain ⟨_, _, _, _, _, _, _, _, _, _, _, _, _, _, _, rfl⟩ := idleToWorking_spec run
    exact frame_transport_only
  | pickupToWaiting t ht hc hst hn run =>
    obtain ⟨_, _, _, _, rfl⟩ := pickupToWaiting_spec run
    exact frame_transport_only
  | waitingToWaiting t ht hc hst hn run =>
    obtain ⟨_, _, _, rfl⟩ := waitingToWaiting_spec run
    exact frame_transport_only
  | agvOutageToIdle t ht hc hst hn run =>
    obtain ⟨_, rfl⟩ := agvOutageToIdle_spec run
    exact frame_transport_only
  | pickupToTransit t0 ht hc hst hn run =>
    obtain ⟨j, src, dst, tt, bss1, bss2, hj, htj, _, _, _, hcase⟩ := pickupToTransit_spec run
    have hnoproc := hg.notProcessing t0.id hc hn j hj htj
    rcases hcase with ⟨fb, _, _, hfb, _, _, rfl⟩ | ⟨mid, ms, bs, ms', _, _, hms, _, hbs, hin, hms', rfl⟩
    · apply frame_of_same
      · intro m1 hm1; exact ⟨m1, hm1, rfl, rfl⟩
      · intro j1 hj1
        exact (jobs_frame_at (s := s.replaceBuffer (fb.without j.id bss1)) (hs.jobsNodup w) hj t0.buffer.id).1 j1 hj1
    · obtain ⟨_, hbwhich⟩ := bufOfMachine_ok hbs
      have hne3 := machine_buf_ids_ne hs w hms
      have hnotint : bs.id ≠ ms.buffer.id := by
        intro e
        rcases hbwhich with rfl | rfl | rfl
        · exact hne3.1 e
        · obtain ⟨o, ho, hst⟩ := processing_of_internal hI hS w hms hj hin
          exact hnoproc o ho hst
        · exact hne3.2.2 e.symm
      obtain ⟨_, hid, hst', hocc, hbuf⟩ := replaceBufInMachine_same hms'
      apply frame_of_same
      · intro m1 hm1
        obtain ⟨y, hy, e1, _, _, e4⟩ := (machines_frame (hs.machNodup w) hms hid hst' hocc
          (congrArg BufState.store (hbuf hnotint))).1 m1 hm1
        exact ⟨y, hy, e1, e4⟩
      · intro j1 hj1
        exact (jobs_frame_at (s := s.replaceMachine ms') (hs.jobsNodup w) hj t0.buffer.id).1 j1 hj1
  | transitToOutage t0 ht hc hst hn run =>
    obtain ⟨j, cur, pick, drop, tc, outs, bss1, bss2, hj, _, _, _, _, _, _, hcase⟩ := transitToOutage_spec run
    rcases hcase with ⟨mid, ms, _, hms, _, _, rfl⟩ | ⟨bid, b, _, hb, _, _, rfl⟩
    · apply frame_of_same
      · intro m1 hm1
        obtain ⟨y, hy, e1, _, _, e4⟩ := (machines_frame (s := (s.replaceJob (j.at ms.pre.id)).replaceTransport
          (t0.toOutage j.id bss1 outs (s.time + occupiedFor outs) drop)) (hs.machNodup w) hms
          (m' := ms.withPre j.id bss2) rfl rfl rfl rfl).1 m1 hm1
        exact ⟨y, hy, e1, e4⟩
      · intro j1 hj1
        exact (jobs_frame_at (hs.jobsNodup w) hj ms.pre.id).1 j1 hj1
    · apply frame_of_same
      · intro m1 hm1; exact ⟨m1, hm1, rfl, rfl⟩
      · intro j1 hj1
        exact (jobs_frame_at (hs.jobsNodup w) hj b.id).1 j1 hj1

end JSL
