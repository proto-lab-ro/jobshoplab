import JSL.Inv.SchedAgv

/-!
# The schedule invariant along `applyTransition`

A validated transition keeps `SchedInv` when it meets the side conditions `Guard`.
-/

namespace JSL

variable {orc : Oracle} {inst : Instance}

/-- Side conditions on an applied transition that the handlers themselves do not re-check:
a WORKING→OUTAGE transition names the job the machine holds, and a →TRANSIT (pickup) transition
names a job that is not being processed.  Transitions created by `create_timed_transitions` have
these properties in the state they were created from (`timed_batch_safe`); offered transitions
are never of these two kinds. -/
structure Guard (s : State) (tr : Transition) : Prop where
  ownJob : ∀ mid, tr.comp = .m mid → tr.new = .m .outage → ∀ m ∈ s.machines, m.id = mid →
    ∀ x, tr.job = some x → x ∈ m.buffer.store
  notProcessing : ∀ tid, tr.comp = .t tid → tr.new = .t .transit → ∀ j ∈ s.jobs, tr.job = some j.id →
    ∀ o ∈ j.ops, o.st ≠ .processing

theorem applyTransition_sched (w : WF inst) (nn : NonNeg orc inst) {s s' : State} {r r' : Rng} {tr : Transition}
    (hI : StructInv inst s) (hS : SchedInv s) (hv : transitionValid s tr = .ok true) (hg : Guard s tr)
    (h : applyTransition orc inst s r tr = .ok (s', r')) : SchedInv s' := by
  cases applyTransition_cases h with
  | idleToSetup m hm hc hst hn run => exact idleToSetup_sched w nn hI hS hm hst run
  | setupToWorking m hm hc hst hn run => exact setupToWorking_sched w nn hI hS hm hst run
  | workingToOutage m hm hc hst hn run =>
    exact workingToOutage_sched w nn hI hS hm hst (hg.ownJob m.id hc hn m hm rfl) run
  | outageToIdle m hm hc hst hn run => exact outageToIdle_sched w hI hS hm hst run
  | idleToWorking t ht hc hst hn run => exact idleToWorking_sched w nn hI hS ht run
  | pickupToWaiting t ht hc hst hn run => exact pickupToWaiting_sched w hI hS ht hn run
  | waitingToWaiting t ht hc hst hn run => exact waitingToWaiting_sched w hI hS ht hn run
  | pickupToTransit t ht hc hst hn run =>
    exact pickupToTransit_sched w nn hI hS ht (fun j hj htj => hg.notProcessing t.id hc hn j hj htj) run
  | transitToOutage t ht hc hst hn run => exact transitToOutage_sched w nn hI hS ht run
  | agvOutageToIdle t ht hc hst hn run => exact agvOutageToIdle_sched w hI hS ht hst run

end JSL
