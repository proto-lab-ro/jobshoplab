import JSL.Inv.ReachTarget
import JSL.Inv.Defs

/-!
# List scheduling (C06, reachability side; model independent)

A sequence `π` of job ids is turned into a schedule by placing, for every entry, the next
unplaced operation of the named job as early as its job predecessor and the operations placed so far
on its machine allow (`listStarts`).  **Theorem A** (`listStarts_targetOK`): for an order that names
every job as often as it has operations the result is a feasible, event-aligned target schedule
(`TargetOK`).  The domination theorem (every feasible plan is matched by a list schedule) is in
`ReachListDom.lean`, the bridge to recorded schedules in `ReachListPlan.lean`.
-/

namespace JSL

/-- state of the list scheduler: per job the number of operations placed and the end of the last one,
per machine the end of the last operation placed on it, and the starts chosen so far -/
structure LS where
  cnt : Nat → Nat
  jend : Nat → Int
  mend : Nat → Int
  st : Nat → Nat → Int

def LS.init : LS := ⟨fun _ => 0, fun _ => 0, fun _ => 0, fun _ _ => 0⟩

def findJob (inst : Instance) (i : Nat) : Option JobCfg := inst.jobs.find? (fun jc => jc.id == i)

def lsPlace (ls : LS) (i : Nat) (oc : OpCfg) : LS :=
  let t := max (ls.jend i) (ls.mend oc.machine)
  { cnt := fun j => if j = i then ls.cnt j + 1 else ls.cnt j
    jend := fun j => if j = i then t + oc.d else ls.jend j
    mend := fun m => if m = oc.machine then t + oc.d else ls.mend m
    st := fun j k => if j = i ∧ k = oc.idx then t else ls.st j k }

/-- one entry of the order: the next operation of job `i` (nothing if there is no such job or all
its operations are placed) -/
def lsStep (inst : Instance) (ls : LS) (i : Nat) : LS :=
  match findJob inst i with
  | none => ls
  | some jc =>
    match jc.ops[ls.cnt i]? with
    | none => ls
    | some oc => lsPlace ls i oc

def lsRun (inst : Instance) (π : List Nat) : LS := π.foldl (lsStep inst) LS.init

/-- the list schedule of the order `π`: job id → operation index → start -/
def listStarts (inst : Instance) (π : List Nat) : Nat → Nat → Int := (lsRun inst π).st

def ValidOrder (inst : Instance) (π : List Nat) : Prop :=
  ∀ jc ∈ inst.jobs, π.count jc.id = jc.ops.length

def validOrderB (inst : Instance) (π : List Nat) : Bool :=
  inst.jobs.all fun jc => π.count jc.id == jc.ops.length

theorem validOrderB_iff {inst : Instance} {π : List Nat} : validOrderB inst π = true ↔ ValidOrder inst π := by
  simp [validOrderB, ValidOrder]

instance (inst : Instance) (π : List Nat) : Decidable (ValidOrder inst π) :=
  decidable_of_iff _ validOrderB_iff

theorem lsRun_append (inst : Instance) (π1 π2 : List Nat) :
    lsRun inst (π1 ++ π2) = π2.foldl (lsStep inst) (lsRun inst π1) := by
  simp [lsRun, List.foldl_append]

theorem lsRun_concat (inst : Instance) (π : List Nat) (i : Nat) :
    lsRun inst (π ++ [i]) = lsStep inst (lsRun inst π) i := by
  simp [lsRun_append]

theorem d_pos_of_det {inst : Instance} (hpos : ∀ oc ∈ allOps inst, ∃ d, oc.dur = .det d ∧ 0 < d) :
    ∀ oc ∈ allOps inst, 0 < oc.d := by
  intro oc hoc
  obtain ⟨d, h1, h2⟩ := hpos oc hoc
  simp [OpCfg.d, h1, h2]

theorem d_nonneg_of_det {inst : Instance} (hpos : ∀ oc ∈ allOps inst, ∃ d, oc.dur = .det d ∧ 0 < d) :
    ∀ oc ∈ allOps inst, 0 ≤ oc.d := fun oc hoc => Int.le_of_lt (d_pos_of_det hpos oc hoc)

theorem mem_allOps {inst : Instance} {jc : JobCfg} (hjc : jc ∈ inst.jobs) {oc : OpCfg} (hoc : oc ∈ jc.ops) :
    oc ∈ allOps inst := List.mem_flatMap.mpr ⟨jc, hjc, hoc⟩

variable {inst : Instance}

theorem findJob_some {i : Nat} {jc : JobCfg} (h : findJob inst i = some jc) : jc ∈ inst.jobs ∧ jc.id = i := by
  unfold findJob at h
  exact ⟨List.mem_of_find?_eq_some h, by simpa using List.find?_some h⟩

theorem job_unique (w : WF inst) {a b : JobCfg} (ha : a ∈ inst.jobs) (hb : b ∈ inst.jobs) (h : a.id = b.id) :
    a = b := eq_of_mem_of_key_eq (key := fun (y : JobCfg) => y.id) w.jobsNodup ha hb h

theorem job_eq_or_id_ne (w : WF inst) {a b : JobCfg} (ha : a ∈ inst.jobs) (hb : b ∈ inst.jobs) : a = b ∨ a.id ≠ b.id :=
  (Decidable.em (a.id = b.id)).imp_left (job_unique w ha hb)

theorem findJob_mem (w : WF inst) {jc : JobCfg} (hjc : jc ∈ inst.jobs) : findJob inst jc.id = some jc := by
  cases h : findJob inst jc.id with
  | none =>
    have := List.find?_eq_none.mp h jc hjc
    simp at this
  | some jc' =>
    obtain ⟨h1, h2⟩ := findJob_some h
    rw [job_unique w h1 hjc h2]

theorem idx_pos_unique {l : List OpCfg} (hn : (l.map (·.idx)).Nodup) {k k' : Nat} {a b : OpCfg}
    (ha : l[k]? = some a) (hb : l[k']? = some b) (h : a.idx = b.idx) : k = k' := by
  refine (List.getElem?_inj ?_ hn).mp ?_
  · rw [List.length_map]
    exact (List.getElem?_eq_some_iff.mp ha).1
  · rw [List.getElem?_map, List.getElem?_map, ha, hb, Option.map_some, Option.map_some, h]

def Placed (inst : Instance) (ls : LS) (oc : OpCfg) : Prop :=
  ∃ jc ∈ inst.jobs, ∃ k, k < ls.cnt jc.id ∧ jc.ops[k]? = some oc

def Unplaced (inst : Instance) (ls : LS) (oc : OpCfg) : Prop :=
  ∃ jc ∈ inst.jobs, ∃ k, ls.cnt jc.id ≤ k ∧ jc.ops[k]? = some oc

theorem Placed.mem {ls : LS} {oc : OpCfg} (h : Placed inst ls oc) : oc ∈ allOps inst := by
  obtain ⟨jc, hjc, k, _, hk⟩ := h
  exact mem_allOps hjc (List.mem_of_getElem? hk)

theorem Unplaced.mem {ls : LS} {oc : OpCfg} (h : Unplaced inst ls oc) : oc ∈ allOps inst := by
  obtain ⟨jc, hjc, k, _, hk⟩ := h
  exact mem_allOps hjc (List.mem_of_getElem? hk)

theorem placed_or_unplaced (ls : LS) {oc : OpCfg} (h : oc ∈ allOps inst) : Placed inst ls oc ∨ Unplaced inst ls oc := by
  obtain ⟨jc, hjc, hoc⟩ := List.mem_flatMap.mp h
  obtain ⟨k, hk⟩ := List.getElem?_of_mem hoc
  rcases Nat.lt_or_ge k (ls.cnt jc.id) with hlt | hge
  · exact Or.inl ⟨jc, hjc, k, hlt, hk⟩
  · exact Or.inr ⟨jc, hjc, k, hge, hk⟩

section place

variable {ls : LS} {jc : JobCfg} {oc : OpCfg}

theorem lsPlace_cnt (ls : LS) (i : Nat) (oc : OpCfg) (j : Nat) :
    (lsPlace ls i oc).cnt j = if j = i then ls.cnt j + 1 else ls.cnt j := rfl

theorem lsPlace_jend (ls : LS) (i : Nat) (oc : OpCfg) (j : Nat) :
    (lsPlace ls i oc).jend j = if j = i then max (ls.jend i) (ls.mend oc.machine) + oc.d else ls.jend j := rfl

theorem lsPlace_mend (ls : LS) (i : Nat) (oc : OpCfg) (m : Nat) :
    (lsPlace ls i oc).mend m =
      if m = oc.machine then max (ls.jend i) (ls.mend oc.machine) + oc.d else ls.mend m := rfl

theorem cnt_le_place (ls : LS) (i : Nat) (oc : OpCfg) (j : Nat) : ls.cnt j ≤ (lsPlace ls i oc).cnt j := by
  rw [lsPlace_cnt]
  split
  · exact Nat.le_succ _
  · exact Nat.le_refl _

theorem placed_place_iff (w : WF inst) (hjc : jc ∈ inst.jobs) (hoc : jc.ops[ls.cnt jc.id]? = some oc) {x : OpCfg} :
    Placed inst (lsPlace ls jc.id oc) x ↔ Placed inst ls x ∨ x = oc := by
  constructor
  · rintro ⟨jc', hjc', k, hk, hx⟩
    rw [lsPlace_cnt] at hk
    rcases job_eq_or_id_ne w hjc' hjc with rfl | e
    · rw [if_pos rfl] at hk
      rcases Nat.lt_succ_iff_lt_or_eq.mp hk with hlt | rfl
      · exact Or.inl ⟨jc', hjc', k, hlt, hx⟩
      · exact Or.inr (Option.some.inj (hx.symm.trans hoc))
    · rw [if_neg e] at hk
      exact Or.inl ⟨jc', hjc', k, hk, hx⟩
  · rintro (⟨jc', hjc', k, hk, hx⟩ | rfl)
    · exact ⟨jc', hjc', k, Nat.lt_of_lt_of_le hk (cnt_le_place ls jc.id oc jc'.id), hx⟩
    · exact ⟨jc, hjc, ls.cnt jc.id, by rw [lsPlace_cnt, if_pos rfl]; exact Nat.lt_succ_self _, hoc⟩

theorem unplaced_place {x : OpCfg} (i : Nat) (h : Unplaced inst (lsPlace ls i oc) x) : Unplaced inst ls x := by
  obtain ⟨jc', hjc', k, hk, hx⟩ := h
  exact ⟨jc', hjc', k, Nat.le_trans (cnt_le_place ls i oc jc'.id) hk, hx⟩

theorem placed_ne (w : WF inst) (hjc : jc ∈ inst.jobs) (hoc : jc.ops[ls.cnt jc.id]? = some oc) {x : OpCfg}
    (h : Placed inst ls x) : ¬ (x.job = jc.id ∧ x.idx = oc.idx) := by
  obtain ⟨jc', hjc', k, hk, hx⟩ := h
  intro ⟨e1, e2⟩
  have hj := w.opJob jc' hjc' x (List.mem_of_getElem? hx)
  obtain rfl := job_unique w hjc' hjc (hj.symm.trans e1)
  have := idx_pos_unique (w.opIdxNodup jc' hjc') hx hoc e2
  omega

theorem st_old (w : WF inst) (hjc : jc ∈ inst.jobs) (hoc : jc.ops[ls.cnt jc.id]? = some oc) {x : OpCfg}
    (h : Placed inst ls x) : (lsPlace ls jc.id oc).st x.job x.idx = ls.st x.job x.idx :=
  if_neg (placed_ne w hjc hoc h)

theorem st_new (w : WF inst) (hjc : jc ∈ inst.jobs) (hoc : jc.ops[ls.cnt jc.id]? = some oc) :
    (lsPlace ls jc.id oc).st oc.job oc.idx = max (ls.jend jc.id) (ls.mend oc.machine) :=
  if_pos ⟨w.opJob jc hjc oc (List.mem_of_getElem? hoc), rfl⟩

end place

structure LInv (inst : Instance) (ls : LS) : Prop where
  cntLe : ∀ jc ∈ inst.jobs, ls.cnt jc.id ≤ jc.ops.length
  jend0 : ∀ i, 0 ≤ ls.jend i
  mend0 : ∀ m, 0 ≤ ls.mend m
  nonneg : ∀ oc, Placed inst ls oc → 0 ≤ ls.st oc.job oc.idx
  jle : ∀ oc, Placed inst ls oc → ls.st oc.job oc.idx + oc.d ≤ ls.jend oc.job
  mle : ∀ oc, Placed inst ls oc → ls.st oc.job oc.idx + oc.d ≤ ls.mend oc.machine
  chain : ∀ jc ∈ inst.jobs, ∀ k a b, k + 1 < ls.cnt jc.id → jc.ops[k]? = some a → jc.ops[k + 1]? = some b →
    ls.st a.job a.idx + a.d ≤ ls.st b.job b.idx
  excl : ∀ a b, Placed inst ls a → Placed inst ls b → a.machine = b.machine → (a.job, a.idx) ≠ (b.job, b.idx) →
    ls.st a.job a.idx + a.d ≤ ls.st b.job b.idx ∨ ls.st b.job b.idx + b.d ≤ ls.st a.job a.idx
  aligned : ∀ oc, Placed inst ls oc → ls.st oc.job oc.idx = 0 ∨
    ∃ oc', Placed inst ls oc' ∧ ls.st oc.job oc.idx = ls.st oc'.job oc'.idx + oc'.d
  jal : ∀ i, ls.jend i = 0 ∨ ∃ oc, Placed inst ls oc ∧ oc.job = i ∧ ls.jend i = ls.st oc.job oc.idx + oc.d
  mal : ∀ m, ls.mend m = 0 ∨ ∃ oc, Placed inst ls oc ∧ oc.machine = m ∧ ls.mend m = ls.st oc.job oc.idx + oc.d

theorem LInv.init (inst : Instance) : LInv inst LS.init := by
  have hno : ∀ oc, ¬ Placed inst LS.init oc := fun oc ⟨_, _, k, hk, _⟩ => Nat.not_lt_zero k hk
  exact ⟨fun _ _ => Nat.zero_le _, fun _ => Int.le_refl 0, fun _ => Int.le_refl 0,
    fun oc h => absurd h (hno oc), fun oc h => absurd h (hno oc), fun oc h => absurd h (hno oc),
    fun _ _ k _ _ hk => absurd hk (Nat.not_lt_zero _), fun a _ h => absurd h (hno a),
    fun oc h => absurd h (hno oc), fun _ => Or.inl rfl, fun _ => Or.inl rfl⟩

theorem LInv.place (w : WF inst) (hnn : ∀ oc ∈ allOps inst, 0 ≤ oc.d) {ls : LS} (hI : LInv inst ls) {jc : JobCfg}
    (hjc : jc ∈ inst.jobs) {oc : OpCfg} (hoc : jc.ops[ls.cnt jc.id]? = some oc) :
    LInv inst (lsPlace ls jc.id oc) := by
  have hocm : oc ∈ jc.ops := List.mem_of_getElem? hoc
  have hd : 0 ≤ oc.d := hnn oc (mem_allOps hjc hocm)
  have hjob : oc.job = jc.id := w.opJob jc hjc oc hocm
  have hP : ∀ {x}, Placed inst (lsPlace ls jc.id oc) x ↔ Placed inst ls x ∨ x = oc := placed_place_iff w hjc hoc
  have hold : ∀ {x}, Placed inst ls x → (lsPlace ls jc.id oc).st x.job x.idx = ls.st x.job x.idx :=
    st_old w hjc hoc
  have hnew := st_new (ls := ls) w hjc hoc
  have hjt := Int.le_max_left (ls.jend jc.id) (ls.mend oc.machine)
  have hmt := Int.le_max_right (ls.jend jc.id) (ls.mend oc.machine)
  -- the new operation ends its job and its machine; all ends only grow
  have hjnew : (lsPlace ls jc.id oc).jend oc.job = (lsPlace ls jc.id oc).st oc.job oc.idx + oc.d := by
    rw [hnew, lsPlace_jend, if_pos hjob]
  have hmnew : (lsPlace ls jc.id oc).mend oc.machine = (lsPlace ls jc.id oc).st oc.job oc.idx + oc.d := by
    rw [hnew, lsPlace_mend, if_pos rfl]
  have hjge : ∀ i, ls.jend i ≤ (lsPlace ls jc.id oc).jend i := by
    intro i
    rw [lsPlace_jend]
    split
    · next e =>
      rw [e]
      exact Int.le_trans hjt (Int.le_add_of_nonneg_right hd)
    · exact Int.le_refl _
  have hmge : ∀ m, ls.mend m ≤ (lsPlace ls jc.id oc).mend m := by
    intro m
    rw [lsPlace_mend]
    split
    · next e =>
      rw [e]
      exact Int.le_trans hmt (Int.le_add_of_nonneg_right hd)
    · exact Int.le_refl _
  refine ⟨?_, ?_, ?_, ?_, ?_, ?_, ?_, ?_, ?_, ?_, ?_⟩
  · intro jc' hjc'
    rw [lsPlace_cnt]
    rcases job_eq_or_id_ne w hjc' hjc with rfl | e
    · rw [if_pos rfl]
      exact (List.getElem?_eq_some_iff.mp hoc).1
    · rw [if_neg e]
      exact hI.cntLe jc' hjc'
  · exact fun i => Int.le_trans (hI.jend0 i) (hjge i)
  · exact fun m => Int.le_trans (hI.mend0 m) (hmge m)
  · intro x hx
    rcases hP.mp hx with h | rfl
    · rw [hold h]
      exact hI.nonneg x h
    · rw [hnew]
      exact Int.le_trans (hI.jend0 jc.id) hjt
  · intro x hx
    rcases hP.mp hx with h | rfl
    · rw [hold h]
      exact Int.le_trans (hI.jle x h) (hjge x.job)
    · exact Int.le_of_eq hjnew.symm
  · intro x hx
    rcases hP.mp hx with h | rfl
    · rw [hold h]
      exact Int.le_trans (hI.mle x h) (hmge x.machine)
    · exact Int.le_of_eq hmnew.symm
  · intro jc' hjc' k a b hk ha hb
    by_cases hlt : k + 1 < ls.cnt jc'.id
    · rw [hold ⟨jc', hjc', k, Nat.lt_of_succ_lt hlt, ha⟩, hold ⟨jc', hjc', k + 1, hlt, hb⟩]
      exact hI.chain jc' hjc' k a b hlt ha hb
    · -- otherwise `b` is the operation placed now and `a` the last one of its job so far
      rw [lsPlace_cnt] at hk
      rcases job_eq_or_id_ne w hjc' hjc with rfl | e
      · rw [if_pos rfl] at hk
        have hk1 : k + 1 = ls.cnt jc'.id := Nat.le_antisymm (Nat.le_of_lt_succ hk) (Nat.not_lt.mp hlt)
        rw [hk1, hoc] at hb
        obtain rfl := Option.some.inj hb
        have hpa : Placed inst ls a := ⟨jc', hjc', k, Nat.le_of_eq hk1, ha⟩
        have hja : ls.jend a.job = ls.jend jc'.id := congrArg ls.jend (w.opJob jc' hjc' a (List.mem_of_getElem? ha))
        rw [hold hpa, hnew]
        exact Int.le_trans (hja ▸ hI.jle a hpa) hjt
      · rw [if_neg e] at hk
        exact absurd hk hlt
  · intro a b ha hb hm hne
    rcases hP.mp ha with ha' | rfl
    · rcases hP.mp hb with hb' | rfl
      · rw [hold ha', hold hb']
        exact hI.excl a b ha' hb' hm hne
      · rw [hold ha', hnew]
        exact Or.inl (Int.le_trans (hm ▸ hI.mle a ha') hmt)
    · rcases hP.mp hb with hb' | rfl
      · rw [hold hb', hnew]
        exact Or.inr (Int.le_trans (hm ▸ hI.mle b hb') hmt)
      · exact absurd rfl hne
  · intro x hx
    have hlift : ∀ oc', Placed inst ls oc' → ∀ v, v = ls.st oc'.job oc'.idx + oc'.d →
        v = 0 ∨ ∃ oc', Placed inst (lsPlace ls jc.id oc) oc' ∧
          v = (lsPlace ls jc.id oc).st oc'.job oc'.idx + oc'.d :=
      fun oc' h' v hv => Or.inr ⟨oc', hP.mpr (Or.inl h'), by rw [hold h']; exact hv⟩
    rcases hP.mp hx with h | rfl
    · rw [hold h]
      rcases hI.aligned x h with h0 | ⟨oc', h', e⟩
      · exact Or.inl h0
      · exact hlift oc' h' _ e
    · -- the start chosen is the end so far of the job or of the machine
      rw [hnew]
      rcases Int.le_total (ls.mend x.machine) (ls.jend jc.id) with hle | hle
      · rw [Int.max_eq_left hle]
        rcases hI.jal jc.id with h0 | ⟨oc', h', _, e⟩
        · exact Or.inl h0
        · exact hlift oc' h' _ e
      · rw [Int.max_eq_right hle]
        rcases hI.mal x.machine with h0 | ⟨oc', h', _, e⟩
        · exact Or.inl h0
        · exact hlift oc' h' _ e
  · intro i
    by_cases e : i = jc.id
    · exact Or.inr ⟨oc, hP.mpr (Or.inr rfl), hjob.trans e.symm, by rw [← hjnew, hjob, e]⟩
    · rw [lsPlace_jend, if_neg e]
      rcases hI.jal i with h0 | ⟨oc', h', e1, e2⟩
      · exact Or.inl h0
      · exact Or.inr ⟨oc', hP.mpr (Or.inl h'), e1, by rw [hold h']; exact e2⟩
  · intro m
    by_cases e : m = oc.machine
    · exact Or.inr ⟨oc, hP.mpr (Or.inr rfl), e.symm, by rw [← hmnew, e]⟩
    · rw [lsPlace_mend, if_neg e]
      rcases hI.mal m with h0 | ⟨oc', h', e1, e2⟩
      · exact Or.inl h0
      · exact Or.inr ⟨oc', hP.mpr (Or.inl h'), e1, by rw [hold h']; exact e2⟩

theorem lsStep_next (w : WF inst) {ls : LS} {jc : JobCfg} (hjc : jc ∈ inst.jobs) {oc : OpCfg}
    (hoc : jc.ops[ls.cnt jc.id]? = some oc) : lsStep inst ls jc.id = lsPlace ls jc.id oc := by
  unfold lsStep
  rw [findJob_mem w hjc]
  simp only [hoc]

theorem LInv.step (w : WF inst) (hnn : ∀ oc ∈ allOps inst, 0 ≤ oc.d) {ls : LS} (hI : LInv inst ls) (i : Nat) :
    LInv inst (lsStep inst ls i) := by
  unfold lsStep
  cases hf : findJob inst i with
  | none => exact hI
  | some jc =>
    obtain ⟨hjc, rfl⟩ := findJob_some hf
    simp only
    cases ho : jc.ops[ls.cnt jc.id]? with
    | none => exact hI
    | some oc => exact hI.place w hnn hjc ho

theorem LInv.foldl (w : WF inst) (hnn : ∀ oc ∈ allOps inst, 0 ≤ oc.d) : ∀ (π : List Nat) {ls : LS}, LInv inst ls →
    LInv inst (π.foldl (lsStep inst) ls)
  | [], _, h => h
  | i :: π, _, h => LInv.foldl w hnn π (h.step w hnn i)

theorem LInv.run (w : WF inst) (hnn : ∀ oc ∈ allOps inst, 0 ≤ oc.d) (π : List Nat) : LInv inst (lsRun inst π) :=
  LInv.foldl w hnn π (LInv.init inst)

theorem cnt_step (w : WF inst) {jc : JobCfg} (hjc : jc ∈ inst.jobs) (ls : LS) (i : Nat) :
    (lsStep inst ls i).cnt jc.id =
      if i = jc.id ∧ ls.cnt jc.id < jc.ops.length then ls.cnt jc.id + 1 else ls.cnt jc.id := by
  unfold lsStep
  cases hf : findJob inst i with
  | none =>
    have hne : i ≠ jc.id := fun e => by
      rw [e, findJob_mem w hjc] at hf
      cases hf
    exact (if_neg fun h => hne h.1).symm
  | some jc' =>
    obtain ⟨hjc', rfl⟩ := findJob_some hf
    simp only
    rcases job_eq_or_id_ne w hjc' hjc with rfl | e
    · cases ho : jc'.ops[ls.cnt jc'.id]? with
      | none => exact (if_neg fun h => Nat.not_lt.mpr (List.getElem?_eq_none_iff.mp ho) h.2).symm
      | some oc => exact (if_pos rfl).trans (if_pos ⟨rfl, (List.getElem?_eq_some_iff.mp ho).1⟩).symm
    · rw [if_neg fun h => e h.1]
      cases ho : jc'.ops[ls.cnt jc'.id]? with
      | none => rfl
      | some oc => exact if_neg fun h => e h.symm

theorem cnt_foldl (w : WF inst) {jc : JobCfg} (hjc : jc ∈ inst.jobs) (π : List Nat) (ls : LS)
    (h : ls.cnt jc.id + π.count jc.id ≤ jc.ops.length) :
    (π.foldl (lsStep inst) ls).cnt jc.id = ls.cnt jc.id + π.count jc.id := by
  induction π generalizing ls with
  | nil => rfl
  | cons i π ih =>
    have hs := cnt_step w hjc ls i
    rw [List.count_cons] at h ⊢
    rw [List.foldl_cons]
    by_cases e : i = jc.id
    · rw [beq_iff_eq.mpr e, if_pos rfl] at h ⊢
      have hc : ls.cnt jc.id + 1 + π.count jc.id = ls.cnt jc.id + (π.count jc.id + 1) := Nat.add_right_comm _ 1 _
      rw [if_pos ⟨e, Nat.lt_of_lt_of_le (Nat.lt_succ_of_le (Nat.le_add_right _ _)) h⟩] at hs
      rw [ih _ (by rw [hs, hc]; exact h), hs, hc]
    · rw [beq_false_of_ne e] at h ⊢
      rw [if_neg fun h => e h.1] at hs
      rw [ih _ (by rw [hs]; exact h), hs]
      rfl

theorem cnt_run (w : WF inst) {jc : JobCfg} (hjc : jc ∈ inst.jobs) {π : List Nat} (h : π.count jc.id ≤ jc.ops.length) :
    (lsRun inst π).cnt jc.id = π.count jc.id :=
  (cnt_foldl w hjc π LS.init (Nat.le_trans (Nat.le_of_eq (Nat.zero_add _)) h)).trans (Nat.zero_add _)

theorem placed_of_full {ls : LS} (hfull : ∀ jc ∈ inst.jobs, ls.cnt jc.id = jc.ops.length) {oc : OpCfg}
    (h : oc ∈ allOps inst) : Placed inst ls oc := by
  obtain ⟨jc, hjc, hoc⟩ := List.mem_flatMap.mp h
  obtain ⟨k, hk⟩ := List.getElem?_of_mem hoc
  exact ⟨jc, hjc, k, hfull jc hjc ▸ (List.getElem?_eq_some_iff.mp hk).1, hk⟩

theorem full_of_valid (w : WF inst) {π : List Nat} (hπ : ValidOrder inst π) :
    ∀ jc ∈ inst.jobs, (lsRun inst π).cnt jc.id = jc.ops.length :=
  fun jc hjc => (cnt_run w hjc (Nat.le_of_eq (hπ jc hjc))).trans (hπ jc hjc)

theorem LInv.targetOK {ls : LS} (hI : LInv inst ls) (hfull : ∀ jc ∈ inst.jobs, ls.cnt jc.id = jc.ops.length) :
    TargetOK inst ls.st := by
  have hall : ∀ oc ∈ allOps inst, Placed inst ls oc := fun oc h => placed_of_full hfull h
  refine ⟨?_, ?_, ?_, ?_⟩
  · intro oc hoc; exact hI.nonneg oc (hall oc hoc)
  · intro jc hjc l1 a b l2 e
    have ha : jc.ops[l1.length]? = some a := by
      rw [e, List.getElem?_append_right (Nat.le_refl _), Nat.sub_self]
      rfl
    have hb : jc.ops[l1.length + 1]? = some b := by
      rw [e, List.getElem?_append_right (Nat.le_add_right _ 1), Nat.add_sub_cancel_left]
      rfl
    have hlen := (List.getElem?_eq_some_iff.mp hb).1
    exact hI.chain jc hjc l1.length a b (by rw [hfull jc hjc]; exact hlen) ha hb
  · intro a ha b hb hm hne
    exact hI.excl a b (hall a ha) (hall b hb) hm hne
  · intro oc hoc
    rcases hI.aligned oc (hall oc hoc) with h | ⟨oc', h', e⟩
    · exact Or.inl h
    · exact Or.inr ⟨oc', h'.mem, e⟩

/-- **Theorem A**: the list schedule of a valid order is a feasible, event-aligned target schedule.
(Only non-negative durations are used.) -/
theorem listStarts_targetOK_of_nonneg (w : WF inst) (hnn : ∀ oc ∈ allOps inst, 0 ≤ oc.d) {π : List Nat}
    (hπ : ValidOrder inst π) : TargetOK inst (listStarts inst π) :=
  (LInv.run w hnn π).targetOK (full_of_valid w hπ)

theorem listStarts_targetOK (w : WF inst) (hpos : ∀ oc ∈ allOps inst, ∃ d, oc.dur = .det d ∧ 0 < d) {π : List Nat}
    (hπ : ValidOrder inst π) : TargetOK inst (listStarts inst π) :=
  listStarts_targetOK_of_nonneg w (d_nonneg_of_det hpos) hπ

theorem chain_before {S : Nat → Nat → Int} {ops : List OpCfg} (hnn : ∀ oc ∈ ops, 0 ≤ oc.d)
    (hc : ∀ l1 a b l2, ops = l1 ++ a :: b :: l2 → S a.job a.idx + a.d ≤ S b.job b.idx)
    (l2 l1 : List OpCfg) (a b : OpCfg) (e : ops = l1 ++ a :: l2) (hb : b ∈ l2) :
    S a.job a.idx + a.d ≤ S b.job b.idx := by
  induction l2 generalizing l1 a with
  | nil => cases hb
  | cons c l2 ih =>
    have h1 := hc l1 a c l2 e
    rcases List.mem_cons.mp hb with rfl | hb'
    · exact h1
    · have h2 := ih (l1 ++ [a]) c (by rw [List.append_assoc]; exact e) hb'
      have : 0 ≤ c.d := hnn c (by rw [e]; simp)
      omega

theorem TargetOK.before {S : Nat → Nat → Int} (h : TargetOK inst S) (hnn : ∀ oc ∈ allOps inst, 0 ≤ oc.d)
    {jc : JobCfg} (hjc : jc ∈ inst.jobs) {l1 l2 : List OpCfg} {a b : OpCfg} (e : jc.ops = l1 ++ a :: l2)
    (hb : b ∈ l2) : S a.job a.idx + a.d ≤ S b.job b.idx :=
  chain_before (fun oc hoc => hnn oc (mem_allOps hjc hoc)) (h.chain jc hjc) l2 l1 a b e hb

/-- the feasibility part of `TargetOK` (no alignment) -/
structure FeasT (inst : Instance) (S : Nat → Nat → Int) : Prop where
  nonneg : ∀ oc ∈ allOps inst, 0 ≤ S oc.job oc.idx
  chain : ∀ jc ∈ inst.jobs, ∀ l1 a b l2, jc.ops = l1 ++ a :: b :: l2 → S a.job a.idx + a.d ≤ S b.job b.idx
  excl : ∀ a ∈ allOps inst, ∀ b ∈ allOps inst, a.machine = b.machine → (a.job, a.idx) ≠ (b.job, b.idx) →
    S a.job a.idx + a.d ≤ S b.job b.idx ∨ S b.job b.idx + b.d ≤ S a.job a.idx

theorem TargetOK.feasT {S : Nat → Nat → Int} (h : TargetOK inst S) : FeasT inst S := ⟨h.nonneg, h.chain, h.excl⟩

theorem FeasT.before {S : Nat → Nat → Int} (h : FeasT inst S) (hnn : ∀ oc ∈ allOps inst, 0 ≤ oc.d)
    {jc : JobCfg} (hjc : jc ∈ inst.jobs) {l1 l2 : List OpCfg} {a b : OpCfg} (e : jc.ops = l1 ++ a :: l2)
    (hb : b ∈ l2) : S a.job a.idx + a.d ≤ S b.job b.idx :=
  chain_before (fun oc hoc => hnn oc (mem_allOps hjc hoc)) (h.chain jc hjc) l2 l1 a b e hb

theorem FeasT.before_pos {S : Nat → Nat → Int} (h : FeasT inst S) (hnn : ∀ oc ∈ allOps inst, 0 ≤ oc.d)
    {jc : JobCfg} (hjc : jc ∈ inst.jobs) {k k' : Nat} {a b : OpCfg} (ha : jc.ops[k]? = some a)
    (hb : jc.ops[k']? = some b) (hlt : k < k') : S a.job a.idx + a.d ≤ S b.job b.idx := by
  have e : jc.ops = jc.ops.take k ++ a :: jc.ops.drop (k + 1) := by
    obtain ⟨hk, rfl⟩ := List.getElem?_eq_some_iff.mp ha
    rw [List.getElem_cons_drop, List.take_append_drop]
  refine h.before hnn hjc e (List.mem_of_getElem? (i := k' - (k + 1)) ?_)
  rw [List.getElem?_drop, Nat.add_sub_of_le hlt, hb]

end JSL
