import JSL.Inv.Defs

/-! Frame lemmas: how `allBufStates` and the component lists change under the four
replace-by-id operations of the handlers. -/

namespace JSL

theorem mem_allBufs (s : State) (b : BufState) :
    b ∈ allBufStates s ↔
      b ∈ s.buffers ∨ (∃ x ∈ s.machines, b = x.pre ∨ b = x.buffer ∨ b = x.post) ∨
      (∃ t ∈ s.transports, b = t.buffer) := by
  simp [allBufStates, List.mem_flatMap, or_assoc, eq_comm]

@[simp] theorem allBufs_replaceJob (s : State) (j : JobState) :
    allBufStates (s.replaceJob j) = allBufStates s := rfl

@[simp] theorem replaceJob_machines (s : State) (j : JobState) : (s.replaceJob j).machines = s.machines := rfl
@[simp] theorem replaceJob_transports (s : State) (j : JobState) : (s.replaceJob j).transports = s.transports := rfl
@[simp] theorem replaceJob_buffers (s : State) (j : JobState) : (s.replaceJob j).buffers = s.buffers := rfl
@[simp] theorem replaceJob_time (s : State) (j : JobState) : (s.replaceJob j).time = s.time := rfl
@[simp] theorem replaceMachine_jobs (s : State) (m : MachineState) : (s.replaceMachine m).jobs = s.jobs := rfl
@[simp] theorem replaceMachine_transports (s : State) (m : MachineState) : (s.replaceMachine m).transports = s.transports := rfl
@[simp] theorem replaceMachine_buffers (s : State) (m : MachineState) : (s.replaceMachine m).buffers = s.buffers := rfl
@[simp] theorem replaceMachine_time (s : State) (m : MachineState) : (s.replaceMachine m).time = s.time := rfl
@[simp] theorem replaceTransport_jobs (s : State) (t : TransportState) : (s.replaceTransport t).jobs = s.jobs := rfl
@[simp] theorem replaceTransport_machines (s : State) (t : TransportState) : (s.replaceTransport t).machines = s.machines := rfl
@[simp] theorem replaceTransport_buffers (s : State) (t : TransportState) : (s.replaceTransport t).buffers = s.buffers := rfl
@[simp] theorem replaceTransport_time (s : State) (t : TransportState) : (s.replaceTransport t).time = s.time := rfl
@[simp] theorem replaceBuffer_jobs (s : State) (b : BufState) : (s.replaceBuffer b).jobs = s.jobs := rfl
@[simp] theorem replaceBuffer_machines (s : State) (b : BufState) : (s.replaceBuffer b).machines = s.machines := rfl
@[simp] theorem replaceBuffer_transports (s : State) (b : BufState) : (s.replaceBuffer b).transports = s.transports := rfl
@[simp] theorem replaceBuffer_time (s : State) (b : BufState) : (s.replaceBuffer b).time = s.time := rfl

theorem mem_replaceJob {s : State} (hnd : (s.jobs.map (·.id)).Nodup) {j j' : JobState} (hj : j ∈ s.jobs)
    (hid : j'.id = j.id) (x : JobState) :
    x ∈ (s.replaceJob j').jobs ↔ (x = j' ∨ (x ∈ s.jobs ∧ x.id ≠ j.id)) :=
  mem_replace (key := fun (y : JobState) => y.id) hj hid x

theorem mem_replaceMachine {s : State} (hnd : (s.machines.map (·.id)).Nodup) {m m' : MachineState}
    (hm : m ∈ s.machines) (hid : m'.id = m.id) (x : MachineState) :
    x ∈ (s.replaceMachine m').machines ↔ (x = m' ∨ (x ∈ s.machines ∧ x.id ≠ m.id)) :=
  mem_replace (key := fun (y : MachineState) => y.id) hm hid x

theorem mem_replaceTransport {s : State} (hnd : (s.transports.map (·.id)).Nodup) {t t' : TransportState}
    (ht : t ∈ s.transports) (hid : t'.id = t.id) (x : TransportState) :
    x ∈ (s.replaceTransport t').transports ↔ (x = t' ∨ (x ∈ s.transports ∧ x.id ≠ t.id)) :=
  mem_replace (key := fun (y : TransportState) => y.id) ht hid x

theorem mem_replaceBuffer {s : State} (hnd : (s.buffers.map (·.id)).Nodup) {b b' : BufState}
    (hb : b ∈ s.buffers) (hid : b'.id = b.id) (x : BufState) :
    x ∈ (s.replaceBuffer b').buffers ↔ (x = b' ∨ (x ∈ s.buffers ∧ x.id ≠ b.id)) :=
  mem_replace (key := fun (y : BufState) => y.id) hb hid x

theorem replaceJob_mem {s : State} {j j' : JobState} (hj : j ∈ s.jobs) (hid : j'.id = j.id) :
    j' ∈ (s.replaceJob j').jobs :=
  mem_replace_self (key := fun (y : JobState) => y.id) hj hid

theorem replaceMachine_mem {s : State} {m m' : MachineState} (hm : m ∈ s.machines) (hid : m'.id = m.id) :
    m' ∈ (s.replaceMachine m').machines :=
  mem_replace_self (key := fun (y : MachineState) => y.id) hm hid

theorem replaceTransport_mem {s : State} {t t' : TransportState} (ht : t ∈ s.transports) (hid : t'.id = t.id) :
    t' ∈ (s.replaceTransport t').transports :=
  mem_replace_self (key := fun (y : TransportState) => y.id) ht hid

theorem replaceBuffer_mem {s : State} {b b' : BufState} (hb : b ∈ s.buffers) (hid : b'.id = b.id) :
    b' ∈ (s.replaceBuffer b').buffers :=
  mem_replace_self (key := fun (y : BufState) => y.id) hb hid

theorem allBufs_inj {inst : Instance} {s : State} (hs : Shape inst s) (w : WF inst) {a b : BufState}
    (ha : a ∈ allBufStates s) (hb : b ∈ allBufStates s) (h : a.id = b.id) : a = b :=
  eq_of_mem_of_key_eq (key := fun (y : BufState) => y.id) (hs.bufNodup w) ha hb h

end JSL
