import JSL.Inv.TotalPass
import JSL.Inv.TotalApply
import JSL.Inv.TotalQueryA
import JSL.Inv.TotalQueryB

/-!
# `process_state_transitions`, the timed loop and `state.step` do not raise

For an instance of the class (`TotClassP`), from a state with the invariants (`StructInv`, `SchedInv`,
`TotP`) and a batch that meets the guards (`Safe`, `Fresh`, `TotGS`) – together `(TotPass …).Mid s L`:

* `process_totalT` – the batch is worked off without an exception, and no transition fails validation;
* `loop_totalT`    – the `while timed_transitions` loop returns (never "failed"), or runs out of fuel
                    (the model of a loop that does not end);
* `smStep_totalT`  – `state.step` with an admissible action returns a *successful* result, or runs
                    out of fuel.
-/

namespace JSL

variable {orc : Oracle} {inst : Instance}

theorem process_totalT (w : WF inst) (nn : NonNeg orc inst) (C : TotClassP inst) (cfg : SMConfig) :
    ∀ (L : List Transition) (s : State) (r : Rng), (TotPass orc inst cfg w nn C).Mid s L →
      ∃ o, processTransitions orc inst L s r = .ok o ∧ o.nerr = 0 := by
  intro L
  induction L with
  | nil => intro s r _; exact ⟨⟨s, r, 0, []⟩, rfl, rfl⟩
  | cons tr L ih =>
    intro s r hM
    have hV := hM.inv.inv hM.batch.struct hM.batch.sched
    have haim := hM.gs.aim tr (by simp)
    have hv := valid_true w hV haim (hM.gs.mvalid tr (by simp))
    obtain ⟨s1, r1, ha⟩ := applies_total w C hV haim (fun hn x hx => hM.gs.full.claim.free tr (by simp) hn x hx) hv orc r
    have hP1 := (TotPass orc inst cfg w nn C).step hM.batch.struct hM.batch.sched hM.inv hv hM.batch.safe hM.batch.fresh
      hM.gs ha
    obtain ⟨o1, ho1, hn1⟩ := ih s1 r1 ⟨hM.batch.step w nn hv ha, hP1.1, hP1.2⟩
    refine ⟨{ o1 with micro := s1 :: o1.micro }, ?_, hn1⟩
    rw [processTransitions_cons_valid hv ha, ho1]
    rfl

theorem jumpToEvent_totalT (w : WF inst) (C : TotClassP inst) {s : State} (hV : TotInv inst s) (cfg : SMConfig) :
    ∃ t, jumpToEvent inst cfg s = .ok t := by
  obtain ⟨n, hn⟩ := numPossibleEvents_totalT w C hV cfg
  unfold jumpToEvent
  simp only [hn, except_bind_ok]
  split
  · exact ⟨_, rfl⟩
  · exact forceJump_total hV.sched hV.shape.occSet

theorem runTimeMachine_total (w : WF inst) (C : TotClassP inst) {s : State} (hV : TotInv inst s) (cfg : SMConfig)
    (tm : TimeMachine) : ∃ t, runTimeMachine inst cfg s tm = .ok t := by
  cases tm with
  | jumpByOne => exact ⟨_, rfl⟩
  | jumpToEvent => exact jumpToEvent_totalT w C hV cfg
  | forceJump => exact forceJump_total hV.sched hV.shape.occSet

theorem next_round (w : WF inst) (nn : NonNeg orc inst) (C : TotClassP inst) {cfg : SMConfig} {s : State}
    (hA : (TotPass orc inst cfg w nn C).All s) :
    ∃ t tt, jumpToEvent inst cfg s = .ok t ∧ timedTransitions inst { s with time := t } = .ok tt ∧
      (TotPass orc inst cfg w nn C).Mid { s with time := t } tt := by
  let ps := TotPass orc inst cfg w nn C
  obtain ⟨t, ht⟩ := jumpToEvent_totalT w C (hA.2.2.inv hA.1 hA.2.1) cfg
  have hadv := jumpToEvent_spec hA.2.1 ht
  have hI' := hA.1.time t
  have hS' := hA.2.1.advance hadv.1 hadv.2
  have hP' := ps.advance hA.1 hA.2.1 hA.2.2 hadv.1 hadv.2
  obtain ⟨tt, htt⟩ := timedTransitions_totalT w (TotP.inv hP' hI' hS')
  exact ⟨t, tt, ht, htt, BatchInv.round w hA.1 hA.2.1 ht htt, hP', ps.timedOnly hI' hS' hP' htt⟩

/-- **the `while timed_transitions` loop returns** (never "failed"), or runs out of fuel.  `R n s tt` stands for
"`n` rounds suffice for the loop started in `s` with the batch `tt`": it fails for an empty tank and a batch to
work off, and is handed on from round to round; so the loop does not run out of fuel where `R` holds. -/
theorem loop_totalT (w : WF inst) (nn : NonNeg orc inst) (C : TotClassP inst) (cfg : SMConfig)
    {R : Nat → State → List Transition → Prop} (hR0 : ∀ {s a as}, ¬ R 0 s (a :: as))
    (hR : ∀ {n s a as r o t tt'}, (TotPass orc inst cfg w nn C).Mid s (a :: as) → R (n + 1) s (a :: as) →
      processTransitions orc inst (a :: as) s r = .ok o → jumpToEvent inst cfg o.state = .ok t →
      timedTransitions inst { o.state with time := t } = .ok tt' → R n { o.state with time := t } tt') :
    ∀ (fuel : Nat) (tt : List Transition) (s : State) (r : Rng) (subs mic : List State),
      (TotPass orc inst cfg w nn C).Mid s tt →
      (∃ out, timedLoop orc inst cfg fuel tt s r subs mic = .ok out ∧ out.failed = false ∧
        (TotPass orc inst cfg w nn C).All out.state) ∨
      (timedLoop orc inst cfg fuel tt s r subs mic = .error .outOfFuel ∧ ¬ R fuel s tt) := by
  intro fuel
  induction fuel with
  | zero =>
    intro tt s r subs mic hM
    cases tt with
    | nil => exact Or.inl ⟨_, rfl, rfl, hM.all⟩
    | cons a as => exact Or.inr ⟨rfl, hR0⟩
  | succ n ih =>
    intro tt s r subs mic hM
    cases tt with
    | nil => exact Or.inl ⟨_, rfl, rfl, hM.all⟩
    | cons a as =>
      obtain ⟨o, ho, hn⟩ := process_totalT w nn C cfg (a :: as) s r hM
      obtain ⟨t, tt', ht, htt', hM'⟩ := next_round w nn C (((TotPass orc inst cfg w nn C).batch w nn hM ho).1.all)
      have e : timedLoop orc inst cfg (n + 1) (a :: as) s r subs mic =
          timedLoop orc inst cfg n tt' { o.state with time := t } o.rng (subs ++ [{ o.state with time := t }])
            (mic ++ o.micro) := by
        simp only [timedLoop, ho, except_bind_ok, hn, ht, htt']
        simp
      rw [e]
      exact (ih tt' _ o.rng _ _ hM').imp id (fun ⟨herr, hnR⟩ => ⟨herr, fun h => hnR (hR hM h ho ht htt')⟩)

/-- **`state.step` does not raise** (and does not fail) for an instance of the class: it returns a successful
result, or runs out of fuel – not where the fuel suffices (`R`, see `loop_totalT`) -/
theorem smStep_totalT (w : WF inst) (nn : NonNeg orc inst) (C : TotClassP inst) {cfg : SMConfig}
    {R : Nat → State → List Transition → Prop} (hR0 : ∀ {s a as}, ¬ R 0 s (a :: as))
    (hR : ∀ {n s a as r o t tt'}, (TotPass orc inst cfg w nn C).Mid s (a :: as) → R (n + 1) s (a :: as) →
      processTransitions orc inst (a :: as) s r = .ok o → jumpToEvent inst cfg o.state = .ok t →
      timedTransitions inst { o.state with time := t } = .ok tt' → R n { o.state with time := t } tt')
    {fuel : Nat} {s0 : State} {r : Rng} {a : Action} (hI : StructInv inst s0) (hS : SchedInv s0) (hP : TotP inst s0)
    (ha : Admissible a) (hadm : AdmOffer inst cfg s0 a) :
    (∃ res r' mic, smStep orc inst cfg fuel s0 r a = .ok (res, r', mic) ∧ res.success = true) ∨
      (smStep orc inst cfg fuel s0 r a = .error .outOfFuel ∧ ∃ s tt, ¬ R fuel s tt) := by
  let ps := TotPass orc inst cfg w nn C
  have hM0 : ps.Mid s0 (sortedByTransport a.transitions) := ⟨ha.batch hI hS, hP, ps.action hI hS hP hadm⟩
  obtain ⟨p, hp, hn⟩ := process_totalT w nn C cfg _ s0 r hM0
  have hp' := (ps.batch w nn hM0 hp).1
  obtain ⟨t, ht⟩ := runTimeMachine_total w C (hp'.inv.inv hp'.batch.struct hp'.batch.sched) cfg a.tm
  have hadv := runTimeMachine_spec hp'.batch.sched ha.tm ht
  have hV1 : TotInv inst { p.state with time := t } :=
    TotP.inv (ps.advance hp'.batch.struct hp'.batch.sched hp'.inv hadv.1 hadv.2) (hp'.batch.struct.time t)
      (hp'.batch.sched.advance hadv.1 hadv.2)
  obtain ⟨timed, htimed⟩ := timedTransitions_totalT w hV1
  obtain ⟨poss, hposs⟩ := possibleTransitions_totalT w C hV1 cfg
  obtain ⟨tele, htele⟩ := filterTeleport_totalT w C hV1 hposs orc p.rng
  have hM1 := Pass.Mid.advance w hp'.all hadv htimed (filterTeleport_shape hposs htele)
    (fun hA => ps.timed hA.1 hA.2.1 hA.2.2 htimed hposs htele)
  unfold smStep
  simp only [hp, except_bind_ok, hn, ht, htimed, hposs, htele]
  rcases loop_totalT w nn C cfg hR0 hR fuel (timed ++ tele) { p.state with time := t } p.rng [p.state] p.micro hM1 with
    ⟨out, hout, hnf, hIo, hSo, hPo⟩ | ⟨herr, hnR⟩
  · left
    simp only [hout, except_bind_ok, hnf]
    by_cases hd : isDone inst out.state = true
    · obtain ⟨e, he⟩ := lastDoneEnd_total hSo
      simp [hd, he]
    · obtain ⟨poss', hposs'⟩ := possibleTransitions_totalT w C (TotP.inv hPo hIo hSo) cfg
      simp [hd, hposs']
  · right
    exact ⟨by simp [herr], _, _, hnR⟩

end JSL
