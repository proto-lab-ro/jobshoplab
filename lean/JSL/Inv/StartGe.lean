import JSL.Inv.Dur

/-!
# Nothing starts before the episode does
-/

namespace JSL

variable {orc : Oracle} {inst : Instance}

structure StartGe (t0 : Int) (s : State) : Prop where
  clock : t0 ≤ s.time
  starts : ∀ j ∈ s.jobs, ∀ o ∈ j.ops, o.st ≠ .idle → ∀ a, o.start = some a → t0 ≤ a

theorem starts_effect (w : WF inst) {s s' : State} {r r' : Rng} {tr : Transition} (hI : StructInv inst s)
    (h : applyTransition orc inst s r tr = .ok (s', r')) :
    ∀ j' ∈ s'.jobs, ∀ o' ∈ j'.ops, o'.st ≠ .idle → ∀ a, o'.start = some a →
      a = s.time ∨ ∃ j ∈ s.jobs, ∃ o ∈ j.ops, o.job = o'.job ∧ o.idx = o'.idx ∧ o.st ≠ .idle ∧ o.start = some a := by
  have hjn := hI.shape.jobsNodup w
  -- a job replaced by one whose records are those of `j.replaceOp rec`
  have key : ∀ (j J' : JobState) (rec : OpState), j ∈ s.jobs → J'.id = j.id → J'.ops = (j.replaceOp rec).ops →
      (∀ a, rec.start = some a → a = s.time ∨ ∃ o ∈ j.ops, o.job = rec.job ∧ o.idx = rec.idx ∧ o.st ≠ .idle ∧ o.start = some a) →
      s'.jobs = (s.replaceJob J').jobs →
      ∀ j' ∈ s'.jobs, ∀ o' ∈ j'.ops, o'.st ≠ .idle → ∀ a, o'.start = some a →
        a = s.time ∨ ∃ j ∈ s.jobs, ∃ o ∈ j.ops, o.job = o'.job ∧ o.idx = o'.idx ∧ o.st ≠ .idle ∧ o.start = some a := by
    intro j J' rec hj hid hops hrec hjobs j' hj' o' ho' hni a ha
    rw [hjobs] at hj'
    rcases (mem_replaceJob hjn hj hid j').mp hj' with rfl | ⟨hj0, _⟩
    · rw [hops] at ho'
      rcases mem_replaceOp.mp ho' with ⟨rfl, _⟩ | ⟨ho0, _⟩
      · rcases hrec a ha with e | ⟨o, ho, e⟩
        · exact Or.inl e
        · exact Or.inr ⟨j, hj, o, ho, e⟩
      · exact Or.inr ⟨j, hj, o', ho0, rfl, rfl, hni, ha⟩
    · exact Or.inr ⟨j', hj0, o', ho', rfl, rfl, hni, ha⟩
  cases applyTransition_ran h with
  | t t0 hc _ _ _ _ _ _ =>
    obtain ⟨_, hj⟩ := agv_effect w hI hc h
    intro j' hj' o' ho' hni a ha
    obtain ⟨j, hj0, _, e⟩ := hj j' hj'
    exact Or.inr ⟨j, hj0, o', by rw [e]; exact ho', rfl, rfl, hni, ha⟩
  | m m _ _ hd _ _ _ h =>
    cases hd with
    | idleToSetup =>
      obtain ⟨j, op, oc, mc, sd, b1, b2, hj, _, _, _, _, _, _, _, _, _, _, rfl⟩ := idleToSetup_spec h
      exact key j ((j.replaceOp (opRec oc s.time (s.time + sd) m.id)).at m.buffer.id) (opRec oc s.time (s.time + sd) m.id) hj rfl rfl
        (fun a ha => Or.inl (by simpa [opRec] using ha.symm)) rfl
    | setupToWorking =>
      obtain ⟨j, op, oc, d, hj, _, _, _, _, _, _, _, rfl⟩ := setupToWorking_spec h
      exact key j (j.replaceOp (opRec oc s.time (s.time + d) m.id)) (opRec oc s.time (s.time + d) m.id) hj rfl rfl
        (fun a ha => Or.inl (by simpa [opRec] using ha.symm)) rfl
    | workingToOutage =>
      obtain ⟨mc, outs, j, op, _, _, _, hj, _, hp, rfl⟩ := workingToOutage_spec h
      obtain ⟨_, _, hl, _, hpr⟩ := processing?_split' hp
      exact key j (j.replaceOp { op with stop := some (s.time + occupiedFor outs) }) { op with stop := some (s.time + occupiedFor outs) } hj rfl rfl
        (fun a ha => Or.inr ⟨op, by rw [hl]; simp, rfl, rfl, by rw [hpr]; simp, ha⟩) rfl
    | outageToIdle =>
      obtain ⟨j, op, mc, rest, b1, b2, _, hj, hp, _, _, _, _, rfl⟩ := outageToIdle_spec h
      obtain ⟨_, _, hl, _, hpr⟩ := processing?_split' hp
      exact key j ((j.replaceOp { op with stop := some s.time, st := .done }).at m.post.id) { op with stop := some s.time, st := .done } hj rfl rfl
        (fun a ha => Or.inr ⟨op, by rw [hl]; simp, rfl, rfl, by rw [hpr]; simp, ha⟩) rfl

/-- the records selected by `K` (job, index) that have left `IDLE` started at `t0` or later; with a
selection the invariant can be established at a state in the middle of an episode -/
structure StartsGe (K : Nat → Nat → Prop) (t0 : Int) (s : State) : Prop where
  clock : t0 ≤ s.time
  starts : ∀ j ∈ s.jobs, ∀ o ∈ j.ops, K o.job o.idx → o.st ≠ .idle → ∀ a, o.start = some a → t0 ≤ a

def StartsPass (orc : Oracle) (inst : Instance) (cfg : SMConfig) (w : WF inst) (K : Nat → Nat → Prop) (t0 : Int) :
    Pass orc inst cfg where
  P := StartsGe K t0
  GS := fun _ _ => True
  Adm := fun _ _ => True
  tail := fun _ => trivial
  step := fun {s s' r r' tr R} hI _ hP _ _ _ _ ha => by
    refine ⟨⟨by rw [applyTransition_time ha]; exact hP.clock, ?_⟩, trivial⟩
    intro j' hj' o' ho' hK hni a hs
    rcases starts_effect w hI ha j' hj' o' ho' hni a hs with e | ⟨j, hj, o, ho, k1, k2, hn, e⟩
    · rw [e]; exact hP.clock
    · exact hP.starts j hj o ho (by rw [k1, k2]; exact hK) hn a e
  advance := fun _ _ hP hle _ => ⟨Int.le_trans hP.clock hle, hP.starts⟩
  timed := fun _ _ _ _ _ _ => trivial
  timedOnly := fun _ _ _ _ => trivial
  action := fun _ _ _ _ => trivial

def StartPass (orc : Oracle) (inst : Instance) (cfg : SMConfig) (w : WF inst) (t0 : Int) : Pass orc inst cfg :=
  (StartsPass orc inst cfg w (fun _ _ => True) t0).map (StartGe t0)
    (fun h => ⟨h.clock, fun j hj o ho _ => h.starts j hj o ho⟩) (fun h => ⟨h.clock, fun j hj o ho => h.starts j hj o ho trivial⟩)

theorem StartGe.of_rest {s : State} (h : restB s = true) : StartGe s.time s := by
  simp only [restB, Bool.and_eq_true, List.all_eq_true, beq_iff_eq] at h
  obtain ⟨⟨_, hj⟩, _⟩ := h
  exact ⟨Int.le_refl _, fun j hj' o ho hni => absurd (hj j hj' o ho) hni⟩

end JSL
