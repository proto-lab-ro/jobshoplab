import JSL.Inv.Spec

/-! Handler specifications for the AGV handlers. -/

namespace JSL

variable {orc : Oracle} {inst : Instance}

def TransportState.toTransit (t : TransportState) (occ : Int) (j : Nat) (b : BSS) : TransportState :=
  { t with st := .transit, occ := .at occ, buffer := t.buffer.withBack j b }
def TransportState.toOutage (t : TransportState) (j : Nat) (b : BSS) (outs : List OutageState) (occ : Int)
    (drop : Loc) : TransportState :=
  { t with buffer := t.buffer.without j b, st := .outage, outages := outs, occ := .at occ, loc := .at drop,
           job := none }
def TransportState.toPickup (t : TransportState) (cur : Loc) (pick : Nat) (drop : Loc) (occ : Int) (j : Nat) :
    TransportState :=
  { t with loc := .route cur pick drop, st := .pickup, occ := .at occ, job := some j }
def TransportState.toWaiting (t : TransportState) (occ : Occ) : TransportState :=
  { t with st := .waitingpickup, occ := occ }
def TransportState.toIdle (t : TransportState) : TransportState :=
  { t with st := .idle, outages := t.outages.map releaseOutage }
def MachineState.withPre (m : MachineState) (j : Nat) (b : BSS) : MachineState :=
  { m with pre := m.pre.withBack j b }

/-- where a job goes next: the output buffer when no operation is idle, else the machine of the
operation `pick` selects -/
def dropOK (inst : Instance) (j : JobState) (pick : JobState → Option OpState) (dst : Loc) : Prop :=
  (j.noOpIdle = true ∧ ∃ o, firstOutput inst = .ok o ∧ dst = .b o) ∨
  (j.noOpIdle = false ∧ ∃ op, pick j = some op ∧ dst = .m op.machine)

theorem dropLoc_ok {j : JobState} {dst : Loc} {pickE : JobState → Except Err OpState}
    {pick : JobState → Option OpState} (hpick : ∀ o, pickE j = .ok o → pick j = some o)
    (h : dropLoc inst j pickE = .ok dst) : dropOK inst j pick dst := by
  unfold dropLoc at h
  unfold dropOK
  by_cases hn : j.noOpIdle = true
  · left
    simp only [hn, if_true] at h
    cases ho : firstOutput inst with
    | error e => simp [ho] at h
    | ok o => simp [ho] at h; exact ⟨hn, o, rfl, h.symm⟩
  · right
    simp only [hn] at h
    cases ho : pickE j with
    | error e => simp [ho] at h
    | ok o => simp [ho] at h; exact ⟨by simpa using hn, o, hpick o ho, h.symm⟩

theorem dropLoc_nextNotDone {j : JobState} {dst : Loc} (h : dropLoc inst j JobState.nextNotDone = .ok dst) :
    dropOK inst j JobState.nextNotDone? dst :=
  dropLoc_ok (fun _ => nextNotDone_ok) h

theorem dropLoc_nextIdle {j : JobState} {dst : Loc} (h : dropLoc inst j JobState.nextIdleE = .ok dst) :
    dropOK inst j JobState.nextIdle? dst := by
  refine dropLoc_ok (fun o ho => ?_) h
  unfold JobState.nextIdleE at ho
  cases hi : j.nextIdle? with
  | none => rw [hi] at ho; cases ho
  | some o' => rw [hi] at ho; cases ho; rfl

theorem bufOfMachine_ok {m : MachineState} {i : Nat} {b : BufState} (h : bufOfMachine m i = .ok b) :
    b.id = i ∧ (b = m.pre ∨ b = m.buffer ∨ b = m.post) := by
  unfold bufOfMachine at h
  split at h
  · rename_i h1; simp at h h1; subst h; exact ⟨h1.symm, Or.inl rfl⟩
  · split at h
    · rename_i h1; simp at h h1; subst h; exact ⟨h1.symm, Or.inr (Or.inl rfl)⟩
    · split at h
      · rename_i h1; simp at h h1; subst h; exact ⟨h1.symm, Or.inr (Or.inr rfl)⟩
      · simp at h

/-- `replace_buffer_state_in_machine` puts `b` in the place of the buffer of `m` that has its id -/
theorem replaceBufInMachine_ok {m m' : MachineState} {b : BufState} (h : replaceBufInMachine m b = .ok m') :
    (b.id = m.pre.id ∧ m' = { m with pre := b }) ∨ (b.id = m.buffer.id ∧ m' = { m with buffer := b }) ∨
      (b.id = m.post.id ∧ m' = { m with post := b }) := by
  unfold replaceBufInMachine at h
  split at h
  · rename_i e; exact Or.inl ⟨by simpa using e, (Except.ok.inj h).symm⟩
  · split at h
    · rename_i e; exact Or.inr (Or.inl ⟨by simpa using e, (Except.ok.inj h).symm⟩)
    · split at h
      · rename_i e; exact Or.inr (Or.inr ⟨by simpa using e, (Except.ok.inj h).symm⟩)
      · cases h

theorem replaceBufInMachine_same {m m' : MachineState} {b : BufState} (h : replaceBufInMachine m b = .ok m') :
    mKey m' = mKey m ∧ m'.id = m.id ∧ m'.st = m.st ∧ m'.occ = m.occ ∧
      (b.id ≠ m.buffer.id → m'.buffer = m.buffer) := by
  rcases replaceBufInMachine_ok h with ⟨e, rfl⟩ | ⟨e, rfl⟩ | ⟨e, rfl⟩
  · exact ⟨by simp [mKey, e], rfl, rfl, rfl, fun _ => rfl⟩
  · exact ⟨by simp [mKey, e], rfl, rfl, rfl, fun hne => absurd e hne⟩
  · exact ⟨by simp [mKey, e], rfl, rfl, rfl, fun _ => rfl⟩

theorem optE_ok {α} {o : Option α} {e : Err} {a : α} (h : optE o e = .ok a) : o = some a := by
  cases o with
  | none => cases h
  | some x => exact congrArg some (Except.ok.inj h)

/-- `_get_travel_time_from_spec`: the entry of the travel matrix, updated and then read -/
theorem travelTimeFromSpec_ok {r r' : Rng} {src dst : Loc} {tt : Int}
    (h : travelTimeFromSpec orc inst r src dst = .ok (tt, r')) :
    ∃ c, travelCfg inst src dst = some c ∧ (tt, r') = c.updRead orc r := by
  unfold travelTimeFromSpec at h
  split at h
  · cases h
  · cases hc : travelCfg inst src dst with
    | none => rw [hc] at h; cases h
    | some c => rw [hc] at h; exact ⟨c, rfl, (Except.ok.inj h).symm⟩

/-- `handle_agv_transport_pickup_to_transit_transition` -/
theorem pickupToTransit_spec {s s' : State} {r r' : Rng} {tr : Transition} {t : TransportState}
    (h : handleAgvPickupToTransit orc inst s r tr t = .ok (s', r')) :
    ∃ (j : JobState) (src dst : Loc) (tt : Int) (bss1 bss2 : BSS),
      j ∈ s.jobs ∧ tr.job = some j.id ∧ dropOK inst j JobState.nextNotDone? dst ∧
      travelTimeFromSpec orc inst r src dst = .ok (tt, r') ∧
      (∃ c ∈ allBufCfgs inst, c.id = t.buffer.id ∧ (t.buffer.store.length : Int) < c.cap) ∧
      ((∃ fb, src = .b j.loc ∧ machineIdOfBuffer inst.machines j.loc = none ∧ fb ∈ s.buffers ∧ fb.id = j.loc ∧
          j.id ∈ fb.store ∧
          s' = ((s.replaceBuffer (fb.without j.id bss1)).replaceJob (j.at t.buffer.id)).replaceTransport
                 (t.toTransit (s.time + tt) j.id bss2)) ∨
       (∃ mid ms bs ms', src = .m mid ∧ machineIdOfBuffer inst.machines j.loc = some mid ∧ ms ∈ s.machines ∧
          ms.id = mid ∧ bufOfMachine ms j.loc = .ok bs ∧ j.id ∈ bs.store ∧
          replaceBufInMachine ms (bs.without j.id bss1) = .ok ms' ∧
          s' = ((s.replaceMachine ms').replaceJob (j.at t.buffer.id)).replaceTransport
                 (t.toTransit (s.time + tt) j.id bss2))) := by
  unfold handleAgvPickupToTransit at h
  cases htj : tr.job with
  | none => rw [htj] at h; cases h
  | some jid =>
    simp only [htj, except_pure, except_bind_ok] at h
    obtain ⟨j, hj, h⟩ := except_bind_eq_ok h
    have hj' := getJob_ok hj
    obtain ⟨dst, hdst, h⟩ := except_bind_eq_ok h
    obtain ⟨⟨tt, r1⟩, htt, h⟩ := except_bind_eq_ok h
    simp only at h
    have hdrop := dropLoc_nextNotDone hdst
    cases hsrc : machineIdOfBuffer inst.machines j.loc with
    | none =>
      simp only [hsrc] at h htt
      obtain ⟨fb, hfb, h⟩ := except_bind_eq_ok h
      obtain ⟨⟨fb', tbuf, j2⟩, hsw, h⟩ := except_bind_eq_ok h
      simp at h
      obtain ⟨rfl, rfl⟩ := h
      have hfb' := getBufState_ok hfb
      obtain ⟨hin, hcap, bss1, bss2, rfl, rfl, rfl⟩ := switchBuffer_spec hsw
      exact ⟨j, .b j.loc, dst, tt, bss1, bss2, hj'.1, by rw [hj'.2], hdrop, htt, hcap,
        Or.inl ⟨fb, rfl, hsrc, hfb'.1, hfb'.2, hin, rfl⟩⟩
    | some mid =>
      simp only [hsrc] at h htt
      obtain ⟨ms, hms, h⟩ := except_bind_eq_ok h
      obtain ⟨bs, hbs, h⟩ := except_bind_eq_ok h
      obtain ⟨⟨fb', tbuf, j2⟩, hsw, h⟩ := except_bind_eq_ok h
      simp only at h
      obtain ⟨ms', hms', h⟩ := except_bind_eq_ok h
      simp at h
      obtain ⟨rfl, rfl⟩ := h
      have hms0 := getMachine_ok hms
      obtain ⟨hin, hcap, bss1, bss2, rfl, rfl, rfl⟩ := switchBuffer_spec hsw
      exact ⟨j, .m mid, dst, tt, bss1, bss2, hj'.1, by rw [hj'.2], hdrop, htt, hcap,
        Or.inr ⟨mid, ms, bs, ms', rfl, hsrc, hms0.1, hms0.2, hbs, hin, hms', rfl⟩⟩

/-- `handle_agv_transport_transit_to_outage_transition` -/
theorem transitToOutage_spec {s s' : State} {r r' : Rng} {tr : Transition} {t : TransportState}
    (h : handleAgvTransitToOutage orc inst s r tr t = .ok (s', r')) :
    ∃ (j : JobState) (cur : Loc) (pick : Nat) (drop : Loc) (tc : TransportCfg) (outs : List OutageState)
      (bss1 bss2 : BSS),
      j ∈ s.jobs ∧ tr.job = some j.id ∧ t.loc = .route cur pick drop ∧ j.id ∈ t.buffer.store ∧
      tc ∈ inst.transports ∧ tc.id = t.id ∧
      newOutageStates orc s.time t.outages tc.outages r = .ok (outs, r') ∧
      ((∃ mid ms, drop = .m mid ∧ ms ∈ s.machines ∧ ms.id = mid ∧
          (∃ c ∈ allBufCfgs inst, c.id = ms.pre.id ∧ (ms.pre.store.length : Int) < c.cap) ∧
          s' = (((s.replaceJob (j.at ms.pre.id)).replaceTransport
                  (t.toOutage j.id bss1 outs (s.time + occupiedFor outs) drop)).replaceMachine
                  (ms.withPre j.id bss2))) ∨
       (∃ bid b, drop = .b bid ∧ b ∈ s.buffers ∧ b.id = bid ∧
          (∃ c ∈ allBufCfgs inst, c.id = b.id ∧ (b.store.length : Int) < c.cap) ∧
          s' = (((s.replaceJob (j.at b.id)).replaceTransport
                  (t.toOutage j.id bss1 outs (s.time + occupiedFor outs) drop)).replaceBuffer
                  (b.withBack j.id bss2)))) := by
  unfold handleAgvTransitToOutage at h
  cases htj : tr.job with
  | none => rw [htj] at h; cases h
  | some jid =>
    simp only [htj, except_pure, except_bind_ok] at h
    obtain ⟨j, hj, h⟩ := except_bind_eq_ok h
    have hj' := getJob_ok hj
    cases hloc : t.loc with
    | «at» l => rw [hloc] at h; cases h
    | route cur pick drop =>
      simp only [hloc, except_bind_ok] at h
      obtain ⟨target, htg, h⟩ := except_bind_eq_ok h
      obtain ⟨⟨j1, t1, target1, r1⟩, hct, h⟩ := except_bind_eq_ok h
      simp only at h
      unfold completeTransportTask at hct
      simp only [except_pure] at hct
      obtain ⟨⟨tbuf, filled, j2⟩, hsw, hct⟩ := except_bind_eq_ok hct
      simp only at hct
      obtain ⟨tc, htc, hct⟩ := except_bind_eq_ok hct
      obtain ⟨⟨outs, r2⟩, hout, hct⟩ := except_bind_eq_ok hct
      simp at hct
      obtain ⟨rfl, rfl, rfl, rfl⟩ := hct
      have htc' := getTransportCfg_ok htc
      obtain ⟨hin, hcap, bss1, bss2, rfl, rfl, rfl⟩ := switchBuffer_spec hsw
      -- the looked-up target is a machine exactly when the drop location is one
      cases drop with
      | m mid =>
        simp only [getCompByLoc] at htg
        obtain ⟨ms0, hgm, htg⟩ := except_bind_eq_ok htg
        cases htg
        have hms := getMachine_ok hgm
        cases h
        exact ⟨j, cur, pick, .m mid, tc, outs, bss1, bss2, hj'.1, by rw [hj'.2], rfl, hin, htc'.1, htc'.2, hout,
          Or.inl ⟨mid, ms0, rfl, hms.1, hms.2, hcap, rfl⟩⟩
      | b bid =>
        simp only [getCompByLoc] at htg
        obtain ⟨b0, hgb, htg⟩ := except_bind_eq_ok htg
        cases htg
        have hb := getBufState_ok hgb
        cases h
        exact ⟨j, cur, pick, .b bid, tc, outs, bss1, bss2, hj'.1, by rw [hj'.2], rfl, hin, htc'.1, htc'.2, hout,
          Or.inr ⟨bid, b0, rfl, hb.1, hb.2, hcap, rfl⟩⟩

/-- `handle_agv_transport_idle_to_working_transition` -/
theorem idleToWorking_spec {s s' : State} {r r' : Rng} {tr : Transition} {t : TransportState}
    (h : handleAgvIdleToWorking orc inst s r tr t = .ok (s', r')) :
    ∃ (j : JobState) (cur target src : Loc) (bc : BufCfg) (c : TimeCfg),
      j ∈ s.jobs ∧ tr.job = some j.id ∧ t.loc = .at cur ∧ dropOK inst j JobState.nextIdle? target ∧
      bc ∈ allBufCfgs inst ∧ bc.id = j.loc ∧
      (bc.parent = none ∧ src = .b j.loc ∨ ∃ mid, bc.parent = some (.m mid) ∧ src = .m mid) ∧
      travelCfg inst cur src = some c ∧ r' = r ∧
      s' = s.replaceTransport (t.toPickup cur bc.id target (s.time + c.cur orc r) j.id) := by
  unfold handleAgvIdleToWorking at h
  cases htj : tr.job with
  | none => rw [htj] at h; cases h
  | some jid =>
    simp only [htj, except_pure, except_bind_ok] at h
    cases hloc : t.loc with
    | route a b c => rw [hloc] at h; cases h
    | «at» cur =>
      simp only [hloc, except_bind_ok] at h
      obtain ⟨j, hj, h⟩ := except_bind_eq_ok h
      have hj' := getJob_ok hj
      obtain ⟨target, htg, h⟩ := except_bind_eq_ok h
      obtain ⟨bc, hbc, h⟩ := except_bind_eq_ok h
      have hbc' := getBufCfg_ok hbc
      obtain ⟨src, hsrc, h⟩ := except_bind_eq_ok h
      obtain ⟨ttp, http, h⟩ := except_bind_eq_ok h
      simp at h
      obtain ⟨rfl, rfl⟩ := h
      unfold travelNoUpdate at http
      cases hc : travelCfg inst cur src with
      | none => simp [hc] at http
      | some c =>
        simp [hc] at http
        subst http
        refine ⟨j, cur, target, src, bc, c, hj'.1, by simp [hj'.2], rfl, dropLoc_nextIdle htg, hbc'.1, hbc'.2, ?_, hc,
          rfl, by simp [TransportState.toPickup]⟩
        unfold pickupSource at hsrc
        cases hp : bc.parent with
        | none => simp [hp] at hsrc; exact Or.inl ⟨rfl, hsrc.symm⟩
        | some p =>
          cases p with
          | m mid => simp [hp] at hsrc; exact Or.inr ⟨mid, rfl, hsrc.symm⟩
          | t n => simp [hp] at hsrc
          | b n => simp [hp] at hsrc

theorem pickupToWaiting_spec {s s' : State} {r r' : Rng} {tr : Transition} {t : TransportState}
    (h : handleAgvPickupToWaiting inst s r tr t = .ok (s', r')) :
    ∃ occ, getWaitingTime inst s tr = .ok occ ∧ r' = r ∧ tr.job.isSome = true ∧
      s' = s.replaceTransport (t.toWaiting occ) := by
  unfold handleAgvPickupToWaiting at h
  split at h
  · simp at h
  · rename_i hj
    obtain ⟨occ, ho, h⟩ := except_bind_eq_ok h
    simp at h
    obtain ⟨rfl, rfl⟩ := h
    exact ⟨occ, ho, rfl, by cases hh : tr.job <;> simp_all, rfl⟩

theorem waitingToWaiting_spec {s s' : State} {r r' : Rng} {tr : Transition} {t : TransportState}
    (h : handleAgvWaitingToWaiting inst s r tr t = .ok (s', r')) :
    ∃ occ, getWaitingTime inst s tr = .ok occ ∧ r' = r ∧ s' = s.replaceTransport (t.toWaiting occ) := by
  unfold handleAgvWaitingToWaiting at h
  obtain ⟨occ, ho, h⟩ := except_bind_eq_ok h
  simp at h
  obtain ⟨rfl, rfl⟩ := h
  exact ⟨occ, ho, rfl, rfl⟩

theorem agvOutageToIdle_spec {s s' : State} {r r' : Rng} {t : TransportState}
    (h : handleAgvOutageToIdle s r t = .ok (s', r')) : r' = r ∧ s' = s.replaceTransport t.toIdle := by
  unfold handleAgvOutageToIdle at h
  simp at h
  exact ⟨h.2.symm, h.1.symm⟩

/-- `_get_waiting_time`: now; or, for a job lying in the output buffer of a machine that is not ready for
pickup, the occupation of the AGV that claimed the job `nxt` in front of it – if there is none, the
transition is parked on `nxt`; or, for a job still on the machine, the end of its running operation -/
theorem getWaitingTime_spec {s : State} {tr : Transition} {occ : Occ} (h : getWaitingTime inst s tr = .ok occ) :
    ∃ j, getJobOpt s.jobs tr.job = .ok j ∧
      (occ = .at s.time ∨
       ∃ bc mid ms, getBufCfg (allBufCfgs inst) j.loc = .ok bc ∧ bc.parent = some (.m mid) ∧
         getMachine s.machines mid = .ok ms ∧
         ((j.id ∈ ms.post.store ∧ readyForPickup inst s j = .ok false ∧
            ∃ nxt, nextJobFromBuffer ms.post bc = some nxt ∧
              ((transportByJob s nxt = none ∧ occ = .dep j.loc nxt tr) ∨
               ∃ t2, transportByJob s nxt = some t2 ∧ occ = t2.occ)) ∨
          (j.id ∉ ms.post.store ∧ ∃ op, j.processing? = some op ∧
            occ = match op.stop with | some e => .at e | none => .none))) := by
  unfold getWaitingTime at h
  obtain ⟨j, hj, h⟩ := except_bind_eq_ok h
  obtain ⟨bc, hbc, h⟩ := except_bind_eq_ok h
  refine ⟨j, hj, ?_⟩
  cases hp : bc.parent with
  | none => simp [hp] at h; exact Or.inl h.symm
  | some p =>
    cases p with
    | t n => simp [hp] at h
    | b n => simp [hp] at h
    | m mid =>
      simp only [hp] at h
      obtain ⟨ms, hms, h⟩ := except_bind_eq_ok h
      split at h
      · rename_i hc
        obtain ⟨rdy, hrdy, h⟩ := except_bind_eq_ok h
        split at h
        · exact Or.inl (Except.ok.inj h).symm
        · rename_i hr
          unfold waitBehind at h
          obtain ⟨nxt, hnxt, h⟩ := except_bind_eq_ok h
          obtain ⟨nj, _, h⟩ := except_bind_eq_ok h
          split at h
          · exact Or.inl (Except.ok.inj h).symm
          · have hnxt' : nextJobFromBuffer ms.post bc = some nxt := optE_ok hnxt
            refine Or.inr ⟨bc, mid, ms, hbc, hp, hms, Or.inl ⟨List.contains_iff_mem.mp hc, ?_, nxt, hnxt', ?_⟩⟩
            · rw [hrdy]; simpa using hr
            · cases htb : transportByJob s nxt with
              | none => simp [htb] at h; exact Or.inl ⟨rfl, h.symm⟩
              | some t2 => simp [htb] at h; exact Or.inr ⟨t2, rfl, h.symm⟩
      · rename_i hc
        unfold waitProcessing at h
        cases hpr : j.processing? with
        | none => simp [hpr] at h
        | some op =>
          simp only [hpr, except_pure, Except.ok.injEq] at h
          exact Or.inr ⟨bc, mid, ms, hbc, hp, hms, Or.inr ⟨fun hin => hc (List.contains_iff_mem.mpr hin), op, rfl, h.symm⟩⟩

end JSL
