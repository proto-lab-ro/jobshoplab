import JSL.Inv.SchedSmStep

/-!
# The clock along `state.step`

Applying transitions never touches the clock; only the time machines do, and they only move it
forward, to the earliest pending event.  When the loop of timed transitions ends, nothing is due.
-/

namespace JSL

variable {orc : Oracle} {inst : Instance}

theorem applyTransition_time {s s' : State} {r r' : Rng} {tr : Transition}
    (h : applyTransition orc inst s r tr = .ok (s', r')) : s'.time = s.time := by
  cases applyTransition_cases h with
  | idleToSetup m hm hc hst hn run =>
    obtain ⟨_, _, _, _, _, _, _, _, _, _, _, _, _, _, _, _, _, _, rfl⟩ := idleToSetup_spec run; rfl
  | setupToWorking m hm hc hst hn run =>
    obtain ⟨_, _, _, _, _, _, _, _, _, _, _, _, rfl⟩ := setupToWorking_spec run; rfl
  | workingToOutage m hm hc hst hn run =>
    obtain ⟨_, _, _, _, _, _, _, _, _, _, rfl⟩ := workingToOutage_spec run; rfl
  | outageToIdle m hm hc hst hn run =>
    obtain ⟨_, _, _, _, _, _, _, _, _, _, _, _, _, rfl⟩ := outageToIdle_spec run; rfl
  | idleToWorking t ht hc hst hn run =>
    obtain ⟨_, _, _, _, _, _, _, _, _, _, _, _, _, _, _, rfl⟩ := idleToWorking_spec run; rfl
  | pickupToWaiting t ht hc hst hn run => obtain ⟨_, _, _, _, rfl⟩ := pickupToWaiting_spec run; rfl
  | waitingToWaiting t ht hc hst hn run => obtain ⟨_, _, _, rfl⟩ := waitingToWaiting_spec run; rfl
  | agvOutageToIdle t ht hc hst hn run => obtain ⟨_, rfl⟩ := agvOutageToIdle_spec run; rfl
  | pickupToTransit t ht hc hst hn run =>
    obtain ⟨j, src, dst, tt, bss1, bss2, _, _, _, _, _, hcase⟩ := pickupToTransit_spec run
    rcases hcase with ⟨fb, _, _, _, _, _, rfl⟩ | ⟨mid, ms, bs, ms', _, _, _, _, _, _, _, rfl⟩ <;> rfl
  | transitToOutage t ht hc hst hn run =>
    obtain ⟨j, cur, pick, drop, tc, outs, bss1, bss2, _, _, _, _, _, _, _, hcase⟩ := transitToOutage_spec run
    rcases hcase with ⟨mid, ms, _, _, _, _, rfl⟩ | ⟨bid, b, _, _, _, _, rfl⟩ <;> rfl

theorem processTransitions_time {L : List Transition} {s : State} {r : Rng} {o : ProcOut}
    (h : processTransitions orc inst L s r = .ok o) : o.state.time = s.time ∧ ∀ σ ∈ o.micro, σ.time = s.time := by
  have := processTransitions_ind (Q := fun σ _ => σ.time = s.time) (fun hQ _ => hQ)
    (fun hQ _ ha => (applyTransition_time ha).trans hQ) rfl h
  exact ⟨this.1, fun σ hσ => (this.2 σ hσ).elim fun _ hQ => hQ⟩

/-- nothing is due: `create_timed_transitions` yields no transition -/
def Quiet (inst : Instance) (s : State) : Prop := timedTransitions inst s = .ok []

theorem Quiet.parts {s : State} (h : Quiet inst s) :
    (∀ m ∈ s.machines, timedMachine inst s.time m = .ok none) ∧
    (∀ t ∈ s.transports, timedTransport inst s t = .ok none) := by
  obtain ⟨ra, rb, hra, hrb, e⟩ := timedTransitions_ok h
  have e' := List.append_eq_nil_iff.mp e.symm
  exact ⟨mapM_filterMap_nil hra e'.1, mapM_filterMap_nil hrb e'.2⟩

theorem Quiet.machine {s : State} (h : Quiet inst s) {m : MachineState} (hm : m ∈ s.machines)
    (hb : m.st ≠ .idle) (hne : m.buffer.store ≠ []) : dueAt m.occ s.time = false := by
  rcases timedMachine_none (h.parts.1 m hm) with ⟨_, hd⟩ | ⟨hidle, _⟩
  · exact hd
  · exact absurd hidle hb

theorem Quiet.transport {s : State} (h : Quiet inst s) {t : TransportState} (ht : t ∈ s.transports)
    (hb : t.st ≠ .idle) {o : Int} (ho : t.occ = .at o) : s.time < o := by
  have := h.parts.2 t ht
  unfold timedTransport at this
  rw [ho] at this
  simp only at this
  by_cases hle : o ≤ s.time
  · exfalso
    simp only [hle, if_true] at this
    cases hst : t.st with
    | idle => exact hb hst
    | working => simp [hst, agvTimedCreator] at this
    | outage => simp [hst, agvTimedCreator] at this
    | transit =>
      simp only [hst, agvTimedCreator] at this
      split at this
      · obtain ⟨js, _, this⟩ := except_bind_eq_ok this; simp at this
      · simp at this
    | pickup | waitingpickup =>
      simp only [hst, agvTimedCreator] at this
      unfold agvIdleToPickTransition at this
      obtain ⟨jid, _, this⟩ := except_bind_eq_ok this
      obtain ⟨j, _, this⟩ := except_bind_eq_ok this
      obtain ⟨ready, _, this⟩ := except_bind_eq_ok this
      cases ready <;> simp [hst, idleToPickNext] at this
  · omega

/-- when the loop of timed transitions ends without failure nothing is due: it ends when
`create_timed_transitions` returns nothing -/
theorem timedLoop_quiet {cfg : SMConfig} {fuel : Nat} {tt : List Transition} {s : State} {r : Rng}
    {subs mic : List State} {out : LoopOut} (hq : tt = [] → Quiet inst s)
    (h : timedLoop orc inst cfg fuel tt s r subs mic = .ok out) (hf : out.failed = false) : Quiet inst out.state :=
  (timedLoop_ind (Q := fun s tt => tt = [] → Quiet inst s) (P := fun _ => True) (fun _ => trivial)
    (fun _ _ => ⟨trivial, fun _ _ => trivial⟩) (fun _ _ _ _ htt e => by subst e; exact htt) hq h).2.1 hf rfl

theorem timedLoop_clock (w : WF inst) (nn : NonNeg orc inst) {cfg : SMConfig} {fuel : Nat} {tt : List Transition}
    {s : State} {r : Rng} {subs mic : List State} {out : LoopOut} (hB : BatchInv inst s tt)
    (h : timedLoop orc inst cfg fuel tt s r subs mic = .ok out) :
    s.time ≤ out.state.time ∧ (∀ σ ∈ out.subs, σ ∈ subs ∨ s.time ≤ σ.time) ∧
      (∀ σ ∈ out.micro, σ ∈ mic ∨ s.time ≤ σ.time) := by
  have := timedLoop_ind (Q := fun σ tt => BatchInv inst σ tt ∧ s.time ≤ σ.time) (P := fun σ => s.time ≤ σ.time)
    (fun hQ => hQ.2)
    (fun hQ ho => by
      have hpt := processTransitions_time ho
      exact ⟨hpt.1 ▸ hQ.2, fun σ hσ => hpt.2 σ hσ ▸ hQ.2⟩)
    (fun hQ ho _ ht htt => by
      have hp := processTransitions_batch w nn hQ.1 ho
      refine ⟨BatchInv.round w hp.1.struct hp.1.sched ht htt, Int.le_trans hQ.2 ?_⟩
      rw [← (processTransitions_time ho).1]
      exact (jumpToEvent_spec hp.1.sched ht).1)
    ⟨hB, Int.le_refl _⟩ h
  exact ⟨this.1, this.2.2⟩

/-- **The clock along one `state.step`** with an admissible action from a state satisfying the
invariants: it never goes back – in the returned state (unless the shop is done, when it is
stamped with the makespan), in every sub-state and in the post-state of every applied
transition – and when the step succeeds without finishing the shop, nothing is due. -/
theorem smStep_clock (w : WF inst) (nn : NonNeg orc inst) {cfg : SMConfig} {fuel : Nat} {s0 : State} {r : Rng}
    {a : Action} {res : SMResult} {r' : Rng} {mic : List State} (hI : StructInv inst s0) (hS : SchedInv s0)
    (ha : Admissible a) (h : smStep orc inst cfg fuel s0 r a = .ok (res, r', mic)) :
    (∀ σ ∈ mic, s0.time ≤ σ.time) ∧ (∀ σ ∈ res.subStates, s0.time ≤ σ.time) ∧
      (res.done = false → s0.time ≤ res.state.time) ∧
      (res.success = true → res.done = false → Quiet inst res.state) ∧
      (res.success = true → res.done = false → ∃ p t,
        processTransitions orc inst (sortedByTransport a.transitions) s0 r = .ok p ∧
        runTimeMachine inst cfg p.state a.tm = .ok t ∧ t ≤ res.state.time) := by
  obtain ⟨p, hp, hcase⟩ := smStep_cases h
  have hp' := processTransitions_batch w nn (ha.batch hI hS) hp
  have hpt := processTransitions_time hp
  have hmic0 : ∀ σ ∈ p.micro, s0.time ≤ σ.time := fun σ hσ => by rw [hpt.2 σ hσ]; exact Int.le_refl _
  rcases hcase with ⟨_, _, rfl, rfl⟩ | ⟨_, t, timed, poss, tele, out, ht, htimed, hposs, htele, hout, _, rfl, hcase⟩
  · exact ⟨hmic0, by simp [hpt.1], fun _ => Int.le_refl _, fun hs => (nomatch hs), fun hs => (nomatch hs)⟩
  · have hadv := runTimeMachine_spec hp'.1.sched ha.tm ht
    have hle : s0.time ≤ t := by rw [← hpt.1]; exact hadv.1
    have hl := timedLoop_clock w nn (BatchInv.advance w hp'.1.struct hp'.1.sched hadv htimed
      (filterTeleport_shape hposs htele)) hout
    have hsubs : ∀ σ ∈ out.subs, s0.time ≤ σ.time := fun σ hσ =>
      (hl.2.1 σ hσ).elim (fun h1 => by rw [List.mem_singleton.mp h1, hpt.1]; exact Int.le_refl _) (Int.le_trans hle)
    have hmics : ∀ σ ∈ out.micro, s0.time ≤ σ.time := fun σ hσ => (hl.2.2 σ hσ).elim (hmic0 σ) (Int.le_trans hle)
    have hdrop : ∀ σ ∈ out.subs.dropLast, s0.time ≤ σ.time := fun σ hσ =>
      hsubs σ ((List.dropLast_sublist _).subset hσ)
    rcases hcase with ⟨_, rfl⟩ | ⟨_, _, e, _, rfl⟩ | ⟨hnf, _, poss', _, rfl⟩
    · exact ⟨hmics, hsubs, fun _ => Int.le_refl _, fun hs => (nomatch hs), fun hs => (nomatch hs)⟩
    · exact ⟨hmics, hdrop, fun hd => (nomatch hd), fun _ hd => (nomatch hd), fun _ hd => (nomatch hd)⟩
    · have hq : timed ++ tele = [] → Quiet inst { p.state with time := t } := fun e => by
        rw [(List.append_eq_nil_iff.mp e).1] at htimed
        exact htimed
      exact ⟨hmics, hdrop, fun _ => Int.le_trans hle hl.1, fun _ _ => timedLoop_quiet hq hout hnf,
        fun _ _ => ⟨p, t, hp, ht, hl.1⟩⟩

end JSL
