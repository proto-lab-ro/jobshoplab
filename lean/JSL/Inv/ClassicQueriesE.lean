import JSL.Inv.ClassicQueries

/-!
# States without offers when AGVs may be waiting for running jobs

`no_dispatch_at_pre`, `dead_point_busy` of `JSL/Inv/ClassicQueries.lean` with, instead of "every AGV is idle",
the assumption that there are at least as many AGVs as jobs and that every busy AGV claims a RUNNING job.
Then a job that is not running is claimed by nobody and some AGV is idle (pigeonhole), so at a pickup place a
dispatch for it is on offer — for any value of `cfg.allowEarly`.
-/

namespace JSL

variable {orc : Oracle} {inst : Instance}

theorem nodup_map_of_nodup_map_E {α : Type} {f g : α → Nat} {l : List α} (hg : (l.map g).Nodup)
    (hinj : ∀ a ∈ l, ∀ b ∈ l, f a = f b → g a = g b) : (l.map f).Nodup := by
  unfold List.Nodup at hg ⊢
  rw [List.pairwise_map] at hg ⊢
  exact List.Pairwise.imp_of_mem (fun {a b} ha hb hne e => hne (hinj a ha b hb e)) hg

theorem unclaimed_of_not_running_E (w : WF inst) {s : State} (hI : StructInv inst s) (hS : SchedInv s)
    (hbusy : ∀ t ∈ s.transports, t.st ≠ .idle → ∃ j ∈ s.jobs, t.job = some j.id ∧ j.running = true)
    {j : JobState} (hj : j ∈ s.jobs) (hrun : j.running = false) : ∀ t ∈ s.transports, t.job ≠ some j.id := by
  intro t ht htj
  by_cases hi : t.st = .idle
  · have := hS.freeNoClaim t ht (Or.inl hi)
    rw [this] at htj; cases htj
  · obtain ⟨j', hj', hc, hr⟩ := hbusy t ht hi
    rw [hc] at htj
    have hid : j'.id = j.id := by injection htj
    have : j' = j := eq_of_mem_of_key_eq (key := fun (y : JobState) => y.id) (hI.shape.jobsNodup w) hj' hj hid
    subst this
    rw [hrun] at hr; cases hr

theorem exists_idle_agv (w : WF inst) {s : State} (hI : StructInv inst s) (hA : AgvFull inst s)
    (hcount : inst.jobs.length ≤ inst.transports.length)
    (hbusy : ∀ t ∈ s.transports, t.st ≠ .idle → ∃ j ∈ s.jobs, t.job = some j.id ∧ j.running = true)
    {j0 : JobState} (hj0 : j0 ∈ s.jobs) (hnr : j0.running = false) : ∃ t ∈ s.transports, t.st = .idle := by
  apply Classical.byContradiction
  intro hno
  have hall : ∀ t ∈ s.transports, t.st ≠ .idle := fun t ht e => hno ⟨t, ht, e⟩
  have hs := hI.shape
  have hjn := hs.jobsNodup w
  have hcl : ∀ t ∈ s.transports, ∃ j ∈ s.jobs, t.job = some j.id ∧ j.running = true ∧ t.job.getD 0 = j.id := by
    intro t ht
    obtain ⟨j, hj, hc, hr⟩ := hbusy t ht (hall t ht)
    exact ⟨j, hj, hc, hr, by rw [hc]; rfl⟩
  have hnd : (s.transports.map (fun t => t.job.getD 0)).Nodup := by
    apply nodup_map_of_nodup_map_E (g := fun (t : TransportState) => t.id) (hs.trNodup w)
    intro a ha b hb e
    obtain ⟨ja, _, hca, _, ea⟩ := hcl a ha
    obtain ⟨jb, _, hcb, _, eb⟩ := hcl b hb
    rw [ea, eb] at e
    exact hA.agv.unique a ha b hb ja.id hca (by rw [hcb, e])
  have hnot : j0.id ∉ s.transports.map (fun t => t.job.getD 0) := by
    intro hmem
    obtain ⟨t, ht, e⟩ := List.mem_map.mp hmem
    obtain ⟨j, hj, _, hr, ej⟩ := hcl t ht
    rw [ej] at e
    have : j = j0 := eq_of_mem_of_key_eq (key := fun (y : JobState) => y.id) hjn hj hj0 e
    subst this
    rw [hnr] at hr; cases hr
  have hsub : ∀ a ∈ j0.id :: s.transports.map (fun t => t.job.getD 0), a ∈ s.jobs.map (·.id) := by
    intro a ha
    rcases List.mem_cons.mp ha with rfl | ha
    · exact List.mem_map.mpr ⟨j0, hj0, rfl⟩
    · obtain ⟨t, ht, e⟩ := List.mem_map.mp ha
      obtain ⟨j, hj, _, _, ej⟩ := hcl t ht
      exact List.mem_map.mpr ⟨j, hj, by rw [← e, ej]⟩
  have hlen := List.Nodup.length_le_of_subset (List.nodup_cons.mpr ⟨hnot, hnd⟩) hsub
  have hjl : (s.jobs.map (·.id)).length = inst.jobs.length := by rw [hs.jobIds]; simp
  have htl : s.transports.length = inst.transports.length := by
    have := congrArg List.length hs.transports
    simpa using this
  simp only [List.length_cons, List.length_map] at hlen hjl
  omega

theorem no_dispatch_at_pre_early (w : WF inst) (hC : Classic inst) {s : State} (hI : StructInv inst s) (hS : SchedInv s)
    (hA : AgvFull inst s) {cfg : SMConfig} (hcount : inst.jobs.length ≤ inst.transports.length)
    (hbusy : ∀ t ∈ s.transports, t.st ≠ .idle → ∃ j ∈ s.jobs, t.job = some j.id ∧ j.running = true)
    {pt : List Transition} (hpt : possibleTransportTransitions inst cfg s = .ok pt) (hnil : pt = []) :
    ∀ j ∈ s.jobs, j.running = false → ∀ o, j.nextIdle? = some o →
      ∃ m ∈ s.machines, m.id = o.machine ∧ m.pre.id = j.loc ∧ j.id ∈ m.pre.store := by
  intro j hj hrun o hn
  subst hnil
  obtain ⟨t0, ht0, hidle0⟩ := exists_idle_agv w hI hA hcount hbusy hj hrun
  exact at_pre_of_no_dispatch w hC hI hS hA hpt ht0 hidle0 hj hrun (unclaimed_of_not_running_E w hI hS hbusy hj hrun) hn

theorem dead_point_busy_early (w : WF inst) (hC : Classic inst) {s : State} (hI : StructInv inst s) (hS : SchedInv s)
    (hA : AgvFull inst s) {cfg : SMConfig} (hcount : inst.jobs.length ≤ inst.transports.length)
    (hbusy : ∀ t ∈ s.transports, t.st ≠ .idle → ∃ j ∈ s.jobs, t.job = some j.id ∧ j.running = true)
    (h0 : numPossibleEvents inst cfg s = .ok 0) :
    ∀ j ∈ s.jobs, j.running = false → ∀ o, j.nextIdle? = some o → ∀ m ∈ s.machines, m.id = o.machine → m.st ≠ .idle := by
  intro j hj hrun o hn m hm hmid
  obtain ⟨hpt, hpj⟩ := no_offers_of_zero h0
  obtain ⟨m', hm', hid', _, hin⟩ := no_dispatch_at_pre_early w hC hI hS hA hcount hbusy hpt rfl j hj hrun o hn
  exact busy_of_no_start w hI hS hA.route hpj hj hm' hin m hm (by rw [hid', hmid])

end JSL
