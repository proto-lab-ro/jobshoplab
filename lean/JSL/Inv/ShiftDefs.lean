import JSL.Model.Env
import JSL.Lib.Except
import JSL.Lib.Lists
import JSL.Lib.ExceptCongr

/-!
# Translation of simulated time: definitions and lookup lemmas

`shiftState δ s` adds `δ` to every timestamp of `s` (clock, operation start/stop, machine and
transport `occupied_till`) and leaves everything else – in particular the outage records – as it is.
-/

namespace JSL

theorem ite_push {α β} (f : α → β) (c : Prop) [Decidable c] (a b : α) :
    (if c then f a else f b) = f (if c then a else b) := by
  split <;> rfl

def shiftOp (δ : Int) (o : OpState) : OpState :=
  { o with start := o.start.map (· + δ), stop := o.stop.map (· + δ) }

def shiftJob (δ : Int) (j : JobState) : JobState :=
  { j with ops := j.ops.map (shiftOp δ) }

def shiftMachine (δ : Int) (m : MachineState) : MachineState :=
  { m with occ := m.occ.map (· + δ) }

def shiftOcc (δ : Int) : Occ → Occ
  | .none => .none
  | .at t => .at (t + δ)
  | .dep b j tr => .dep b j tr

def shiftTransport (δ : Int) (t : TransportState) : TransportState :=
  { t with occ := shiftOcc δ t.occ }

def shiftState (δ : Int) (s : State) : State :=
  { jobs := s.jobs.map (shiftJob δ), time := s.time + δ, machines := s.machines.map (shiftMachine δ),
    transports := s.transports.map (shiftTransport δ), buffers := s.buffers }

def shiftTarget (δ : Int) : Target → Target
  | .machine m => .machine (shiftMachine δ m)
  | .buffer b => .buffer b

def shiftResult (δ : Int) (res : SMResult) : SMResult :=
  { res with state := shiftState δ res.state, subStates := res.subStates.map (shiftState δ) }

def NoOutages (inst : Instance) : Prop :=
  (∀ m ∈ inst.machines, m.outages = []) ∧ (∀ t ∈ inst.transports, t.outages = [])

variable (δ : Int)

@[simp] theorem shiftOp_job (o : OpState) : (shiftOp δ o).job = o.job := rfl
@[simp] theorem shiftOp_idx (o : OpState) : (shiftOp δ o).idx = o.idx := rfl
@[simp] theorem shiftOp_machine (o : OpState) : (shiftOp δ o).machine = o.machine := rfl
@[simp] theorem shiftOp_st (o : OpState) : (shiftOp δ o).st = o.st := rfl
@[simp] theorem shiftOp_start (o : OpState) : (shiftOp δ o).start = o.start.map (· + δ) := rfl
@[simp] theorem shiftOp_stop (o : OpState) : (shiftOp δ o).stop = o.stop.map (· + δ) := rfl

@[simp] theorem shiftJob_id (j : JobState) : (shiftJob δ j).id = j.id := rfl
@[simp] theorem shiftJob_loc (j : JobState) : (shiftJob δ j).loc = j.loc := rfl
@[simp] theorem shiftJob_ops (j : JobState) : (shiftJob δ j).ops = j.ops.map (shiftOp δ) := rfl

@[simp] theorem shiftMachine_id (m : MachineState) : (shiftMachine δ m).id = m.id := rfl
@[simp] theorem shiftMachine_buffer (m : MachineState) : (shiftMachine δ m).buffer = m.buffer := rfl
@[simp] theorem shiftMachine_pre (m : MachineState) : (shiftMachine δ m).pre = m.pre := rfl
@[simp] theorem shiftMachine_post (m : MachineState) : (shiftMachine δ m).post = m.post := rfl
@[simp] theorem shiftMachine_st (m : MachineState) : (shiftMachine δ m).st = m.st := rfl
@[simp] theorem shiftMachine_tool (m : MachineState) : (shiftMachine δ m).tool = m.tool := rfl
@[simp] theorem shiftMachine_outages (m : MachineState) : (shiftMachine δ m).outages = m.outages := rfl
@[simp] theorem shiftMachine_occ (m : MachineState) : (shiftMachine δ m).occ = m.occ.map (· + δ) := rfl

@[simp] theorem shiftTransport_id (t : TransportState) : (shiftTransport δ t).id = t.id := rfl
@[simp] theorem shiftTransport_st (t : TransportState) : (shiftTransport δ t).st = t.st := rfl
@[simp] theorem shiftTransport_buffer (t : TransportState) : (shiftTransport δ t).buffer = t.buffer := rfl
@[simp] theorem shiftTransport_loc (t : TransportState) : (shiftTransport δ t).loc = t.loc := rfl
@[simp] theorem shiftTransport_outages (t : TransportState) : (shiftTransport δ t).outages = t.outages := rfl
@[simp] theorem shiftTransport_job (t : TransportState) : (shiftTransport δ t).job = t.job := rfl
@[simp] theorem shiftTransport_occ (t : TransportState) : (shiftTransport δ t).occ = shiftOcc δ t.occ := rfl

@[simp] theorem shiftState_jobs (s : State) : (shiftState δ s).jobs = s.jobs.map (shiftJob δ) := rfl
@[simp] theorem shiftState_time (s : State) : (shiftState δ s).time = s.time + δ := rfl
@[simp] theorem shiftState_machines (s : State) : (shiftState δ s).machines = s.machines.map (shiftMachine δ) := rfl
@[simp] theorem shiftState_transports (s : State) :
    (shiftState δ s).transports = s.transports.map (shiftTransport δ) := rfl
@[simp] theorem shiftState_buffers (s : State) : (shiftState δ s).buffers = s.buffers := rfl

theorem shiftState_setTime (s : State) (t : Int) :
    { shiftState δ s with time := t + δ } = shiftState δ { s with time := t } := rfl

theorem findE_map {α} (f : α → α) (p : α → Bool) (hp : ∀ x, p (f x) = p x) (l : List α) (e : Err) :
    findE p (l.map f) e = (findE p l e).map f := by
  unfold findE
  rw [List.find?_map]
  have : (p ∘ f) = p := funext hp
  rw [this]
  cases l.find? p <;> rfl

theorem findOpt_map_inv {α} (f : α → α) (p : α → Bool) (hp : ∀ x, p (f x) = p x) (l : List α) :
    (l.map f).find? p = (l.find? p).map f := by
  rw [List.find?_map]
  have : (p ∘ f) = p := funext hp
  rw [this]

theorem any_map_inv {α} (f : α → α) (p : α → Bool) (hp : ∀ x, p (f x) = p x) (l : List α) :
    (l.map f).any p = l.any p := by
  rw [List.any_map]
  have : (p ∘ f) = p := funext hp
  rw [this]

theorem all_map_inv {α} (f : α → α) (p : α → Bool) (hp : ∀ x, p (f x) = p x) (l : List α) :
    (l.map f).all p = l.all p := by
  rw [List.all_map]
  have : (p ∘ f) = p := funext hp
  rw [this]

theorem filter_map_inv {α} (f : α → α) (p : α → Bool) (hp : ∀ x, p (f x) = p x) (l : List α) :
    (l.map f).filter p = (l.filter p).map f := by
  rw [List.filter_map]
  have : (p ∘ f) = p := funext hp
  rw [this]

theorem map_replace_comm {α} (f : α → α) (c : α → α → Bool) (hc : ∀ x a, c (f x) (f a) = c x a) (a : α) (l : List α) :
    (l.map f).map (fun x => if c x (f a) then f a else x) = (l.map fun x => if c x a then a else x).map f := by
  rw [List.map_map, List.map_map]
  exact List.map_congr_left fun x _ => (congrArg (fun b => if b = true then f a else f x) (hc x a)).trans (ite_push f _ _ _)

theorem filterE_map {α} (f : α → α) (p q : α → Except Err Bool) (hp : ∀ x, p (f x) = q x) :
    ∀ l : List α, filterE p (l.map f) = (filterE q l).map (List.map f)
  | [] => rfl
  | a :: as => by
    simp only [List.map_cons, filterE]
    rw [hp a]
    refine bind_peel _ _ _ _ fun b => bind_map_peel (filterE_map f p q hp as) fun r => ?_
    cases b <;> rfl

theorem filterE_congr {α} (p q : α → Except Err Bool) (hp : ∀ x, p x = q x) (l : List α) :
    filterE p l = filterE q l := by
  have : p = q := funext hp
  rw [this]

theorem mapM_map_inv {α β} (f : α → α) (g h : α → Except Err β) (hg : ∀ x, g (f x) = h x) :
    ∀ l : List α, (l.map f).mapM g = l.mapM h
  | [] => rfl
  | a :: as => by
    simp only [List.map_cons, List.mapM_cons]
    rw [hg a, mapM_map_inv f g h hg as]

theorem mapM_map_equiv {α β} (f : α → α) (k : β → β) (g h : α → Except Err β)
    (hg : ∀ x, g (f x) = (h x).map k) :
    ∀ l : List α, (l.map f).mapM g = (l.mapM h).map (List.map k)
  | [] => rfl
  | a :: as => by
    simp only [List.map_cons, List.mapM_cons]
    exact bind_map_peel (hg a) fun b => bind_map_peel (mapM_map_equiv f k g h hg as) fun r => rfl

theorem getJob_shift (l : List JobState) (i : Nat) :
    getJob (l.map (shiftJob δ)) i = (getJob l i).map (shiftJob δ) :=
  findE_map (shiftJob δ) _ (fun _ => rfl) l _

theorem getJobOpt_shift (l : List JobState) (i : Option Nat) :
    getJobOpt (l.map (shiftJob δ)) i = (getJobOpt l i).map (shiftJob δ) := by
  cases i with
  | none => rfl
  | some i => exact getJob_shift δ l i

@[simp] theorem shiftJob_running (j : JobState) : (shiftJob δ j).running = j.running :=
  any_map_inv (shiftOp δ) _ (fun _ => rfl) _
@[simp] theorem shiftJob_noOpIdle (j : JobState) : (shiftJob δ j).noOpIdle = j.noOpIdle :=
  all_map_inv (shiftOp δ) _ (fun _ => rfl) _
@[simp] theorem shiftJob_allDone (j : JobState) : (shiftJob δ j).allDone = j.allDone :=
  all_map_inv (shiftOp δ) _ (fun _ => rfl) _
theorem shiftJob_nextNotDoneOpt (j : JobState) : (shiftJob δ j).nextNotDone? = j.nextNotDone?.map (shiftOp δ) :=
  findOpt_map_inv (shiftOp δ) _ (fun _ => rfl) _
theorem shiftJob_nextIdleOpt (j : JobState) : (shiftJob δ j).nextIdle? = j.nextIdle?.map (shiftOp δ) :=
  findOpt_map_inv (shiftOp δ) _ (fun _ => rfl) _
theorem shiftJob_processingOpt (j : JobState) : (shiftJob δ j).processing? = j.processing?.map (shiftOp δ) :=
  findOpt_map_inv (shiftOp δ) _ (fun _ => rfl) _

theorem shiftJob_nextNotDone (j : JobState) : (shiftJob δ j).nextNotDone = j.nextNotDone.map (shiftOp δ) := by
  unfold JobState.nextNotDone
  rw [shiftJob_nextNotDoneOpt]
  cases j.nextNotDone? <;> rfl

theorem shiftJob_nextIdleE (j : JobState) : (shiftJob δ j).nextIdleE = j.nextIdleE.map (shiftOp δ) := by
  unfold JobState.nextIdleE
  rw [shiftJob_nextIdleOpt]
  cases j.nextIdle? <;> rfl

@[simp] theorem shiftJob_nextOpFree (j : JobState) : (shiftJob δ j).nextOpFree = j.nextOpFree := by
  unfold JobState.nextOpFree
  rw [shiftJob_running, shiftJob_ops, any_map_inv (shiftOp δ) _ (fun _ => rfl)]

theorem shiftJob_replaceOp (j : JobState) (o : OpState) :
    (shiftJob δ j).replaceOp (shiftOp δ o) = shiftJob δ (j.replaceOp o) :=
  congrArg (fun ops => ({ j with ops := ops } : JobState))
    (map_replace_comm (shiftOp δ) (fun x o => x.job == o.job && x.idx == o.idx) (fun _ _ => rfl) o j.ops)

@[simp] theorem jobDone_shift (inst : Instance) (j : JobState) : jobDone inst (shiftJob δ j) = jobDone inst j := by
  unfold jobDone
  rw [shiftJob_allDone, shiftJob_loc]

theorem getMachine_shift (l : List MachineState) (i : Nat) :
    getMachine (l.map (shiftMachine δ)) i = (getMachine l i).map (shiftMachine δ) :=
  findE_map (shiftMachine δ) _ (fun _ => rfl) l _

theorem getTransport_shift (l : List TransportState) (i : Nat) :
    getTransport (l.map (shiftTransport δ)) i = (getTransport l i).map (shiftTransport δ) :=
  findE_map (shiftTransport δ) _ (fun _ => rfl) l _

@[simp] theorem bufOfMachine_shift (m : MachineState) (bid : Nat) :
    bufOfMachine (shiftMachine δ m) bid = bufOfMachine m bid := rfl

theorem replaceBufInMachine_shift (m : MachineState) (b : BufState) :
    replaceBufInMachine (shiftMachine δ m) b = (replaceBufInMachine m b).map (shiftMachine δ) := by
  unfold replaceBufInMachine
  exact ite_peel rfl (ite_peel rfl (ite_peel rfl rfl))

theorem transportByJob_shift (s : State) (j : Nat) :
    transportByJob (shiftState δ s) j = (transportByJob s j).map (shiftTransport δ) :=
  findOpt_map_inv (shiftTransport δ) _ (fun _ => rfl) _

@[simp] theorem allBufStates_shift (s : State) : allBufStates (shiftState δ s) = allBufStates s := by
  unfold allBufStates
  simp only [shiftState_buffers, shiftState_machines, shiftState_transports, List.map_map, List.flatMap_map]
  rfl

theorem replaceJob_shift (s : State) (j : JobState) :
    (shiftState δ s).replaceJob (shiftJob δ j) = shiftState δ (s.replaceJob j) :=
  congrArg (fun js => ({ shiftState δ s with jobs := js } : State))
    (map_replace_comm (shiftJob δ) (fun x j => x.id == j.id) (fun _ _ => rfl) j s.jobs)

theorem replaceMachine_shift (s : State) (m : MachineState) :
    (shiftState δ s).replaceMachine (shiftMachine δ m) = shiftState δ (s.replaceMachine m) :=
  congrArg (fun ms => ({ shiftState δ s with machines := ms } : State))
    (map_replace_comm (shiftMachine δ) (fun x m => x.id == m.id) (fun _ _ => rfl) m s.machines)

theorem replaceTransport_shift (s : State) (t : TransportState) :
    (shiftState δ s).replaceTransport (shiftTransport δ t) = shiftState δ (s.replaceTransport t) :=
  congrArg (fun ts => ({ shiftState δ s with transports := ts } : State))
    (map_replace_comm (shiftTransport δ) (fun x t => x.id == t.id) (fun _ _ => rfl) t s.transports)

theorem replaceBuffer_shift (s : State) (b : BufState) :
    (shiftState δ s).replaceBuffer b = shiftState δ (s.replaceBuffer b) := rfl

@[simp] theorem isDone_shift (inst : Instance) (s : State) : isDone inst (shiftState δ s) = isDone inst s := by
  unfold isDone
  exact all_map_inv (shiftJob δ) _ (fun _ => rfl) _

theorem putInBuffer_shift (b : BufState) (c : BufCfg) (j : JobState) :
    putInBuffer b c (shiftJob δ j) = (putInBuffer b c j).map (fun p => (p.1, shiftJob δ p.2)) := by
  unfold putInBuffer
  exact ite_peel rfl rfl

theorem switchBuffer_shift (inst : Instance) (f t : BufState) (j : JobState) :
    switchBuffer inst f t (shiftJob δ j) =
      (switchBuffer inst f t j).map (fun p => (p.1, p.2.1, shiftJob δ p.2.2)) := by
  unfold switchBuffer
  refine ite_peel rfl (bind_peel _ _ _ _ fun f2 => bind_peel _ _ _ _ fun c => ?_)
  exact bind_map_peel (putInBuffer_shift δ t c j) fun q => rfl

theorem readyForPickup_shift (inst : Instance) (s : State) (j : JobState) :
    readyForPickup inst (shiftState δ s) (shiftJob δ j) = readyForPickup inst s j := by
  unfold readyForPickup
  simp only [allBufStates_shift, shiftJob_loc, shiftJob_id]

end JSL
