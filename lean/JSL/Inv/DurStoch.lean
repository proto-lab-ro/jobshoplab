import JSL.Inv.EnvPass

/-!
# Durations along episodes

The duration invariant of `Dur.lean`, for any family of configurations, in every state an episode of
the environment exposes.
-/

namespace JSL

variable {orc : Oracle} {inst : Instance} {ι : Type} {f : ι → TimeCfg}

theorem exposed_durG {ec : EnvCfg} {st : RewardStatic} {s0 σ : State} (hst : Start orc inst s0)
    (h : Exposed orc inst ec st s0 σ) : DurInvG orc inst f σ := by
  obtain ⟨w, _⟩ := initOKB_sound hst.init
  have nn := nonnegB_sound hst.samples hst.nonneg
  obtain ⟨t, ht⟩ := exposed_pass (DurPassG orc inst ec.sm w nn f) hst (DurInvG.of_rest hst.rest) (fun _ _ ha => ha.shaped) h
  exact ht.of_time

/-- In every state an episode exposes, a completed operation has a recorded interval of at least
`c.at orc k` for some `k ≥ 1`, a value its configured duration `c` has after an `update()` (the
handler of `SETUP → WORKING` calls `update()` before it reads), and of exactly that value when its
machine has no outage configured; an operation in progress on a WORKING / OUTAGE machine is
scheduled to end accordingly.  The statement does not say which `k`. -/
theorem exposed_duration {ec : EnvCfg} {st : RewardStatic} {s0 σ : State} (hst : Start orc inst s0)
    (h : Exposed orc inst ec st s0 σ) {j : JobState} (hj : j ∈ σ.jobs) {o : OpState} (ho : o ∈ j.ops)
    (hrun : o.st = .done ∨ (o.st = .processing ∧ ∃ m ∈ σ.machines, m.id = o.machine ∧ (m.st = .working ∨ m.st = .outage)))
    {oc : OpCfg} (hoc : oc ∈ inst.jobs.flatMap (·.ops)) (hk : oc.job = o.job ∧ oc.idx = o.idx) :
    ∃ a b k, 1 ≤ k ∧ o.start = some a ∧ o.stop = some b ∧ a + oc.dur.at orc k ≤ b ∧
      (noOutages inst o.machine → b = a + oc.dur.at orc k) := by
  have hD := exposed_durG (f := id) hst h
  rcases hrun with hdone | ⟨hp, m, hm, hid, hms⟩
  · exact hD.done j hj o ho hdone oc.dur ⟨oc, hoc, hk.1, hk.2, rfl⟩
  · exact hD.running j hj o ho hp m hm hid hms oc.dur ⟨oc, hoc, hk.1, hk.2, rfl⟩

end JSL
