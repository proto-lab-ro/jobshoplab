import JSL.Inv.SchedMachine

/-! The schedule invariant under the AGV handlers and under time advance. -/

namespace JSL

variable {orc : Oracle} {inst : Instance}

/-- Frame principle: the jobs keep their operation records, the machines their phase, `occ` and
internal buffer content, and one AGV `t` becomes `t'`. -/
theorem SchedInv.frame {s s' : State} (hS : SchedInv s) (htime : s'.time = s.time)
    (hjf : ∀ x' ∈ s'.jobs, ∃ x ∈ s.jobs, x.id = x'.id ∧ x.ops = x'.ops)
    (hjb : ∀ x ∈ s.jobs, ∃ x' ∈ s'.jobs, x.id = x'.id ∧ x.ops = x'.ops)
    (hmf : ∀ y' ∈ s'.machines, ∃ y ∈ s.machines, y.id = y'.id ∧ y.st = y'.st ∧ y.occ = y'.occ ∧
        y.buffer.store = y'.buffer.store)
    (hmb : ∀ y ∈ s.machines, ∃ y' ∈ s'.machines, y.id = y'.id ∧ y.st = y'.st ∧ y.occ = y'.occ ∧
        y.buffer.store = y'.buffer.store)
    {t t' : TransportState} (hT : ∀ x ∈ s'.transports, x = t' ∨ (x ∈ s.transports ∧ x.id ≠ t.id))
    (hocc : t'.st ≠ .idle → ∀ o, t'.occ = .at o → s.time ≤ o)
    (hfree : t'.st = .idle ∨ t'.st = .outage → t'.job = none)
    (hdep : ∀ b j tr, t'.occ = .dep b j tr → tr.new = .t .waitingpickup) : SchedInv s' where
  idleEmpty y' hy' hst := by
    obtain ⟨y, hy, _, e2, _, e4⟩ := hmf y' hy'
    rw [← e4]; exact hS.idleEmpty y hy (by rw [e2]; exact hst)
  busyHolds y' hy' hst := by
    obtain ⟨y, hy, e1, e2, e3, e4⟩ := hmf y' hy'
    obtain ⟨j, hj, h1, op, h2, h3, h4, h5⟩ := hS.busyHolds y hy (by rw [e2]; exact hst)
    obtain ⟨j', hj', f1, f2⟩ := hjb j hj
    refine ⟨j', hj', by rw [← e4, h1, f1], op, ?_, by rw [h3, e1], by rw [h4, e3], by rw [← e3]; exact h5⟩
    unfold JobState.processing? at h2 ⊢; rw [← f2]; exact h2
  procOnBusy x' hx' o ho hp := by
    obtain ⟨x, hx, f1, f2⟩ := hjf x' hx'
    obtain ⟨y, hy, h1, h2, h3⟩ := hS.procOnBusy x hx o (by rw [f2]; exact ho) hp
    obtain ⟨y', hy', e1, e2, _, e4⟩ := hmb y hy
    exact ⟨y', hy', by rw [← e1, h1], by rw [← e2]; exact h2, by rw [← e4, h3, f1]⟩
  ops x' hx' := by
    obtain ⟨x, hx, _, f2⟩ := hjf x' hx'
    rw [htime, ← f2]; exact hS.ops x hx
  doneBeforeProc j₁ hj₁ o₁ ho₁ j₂ hj₂ o₂ ho₂ := by
    obtain ⟨x1, hx1, _, f1⟩ := hjf j₁ hj₁
    obtain ⟨x2, hx2, _, f2⟩ := hjf j₂ hj₂
    exact hS.doneBeforeProc x1 hx1 o₁ (by rw [f1]; exact ho₁) x2 hx2 o₂ (by rw [f2]; exact ho₂)
  doneDisjoint j₁ hj₁ o₁ ho₁ j₂ hj₂ o₂ ho₂ := by
    obtain ⟨x1, hx1, _, f1⟩ := hjf j₁ hj₁
    obtain ⟨x2, hx2, _, f2⟩ := hjf j₂ hj₂
    exact hS.doneDisjoint x1 hx1 o₁ (by rw [f1]; exact ho₁) x2 hx2 o₂ (by rw [f2]; exact ho₂)
  agvPending x hx hst o ho := by
    rw [htime]
    rcases hT x hx with rfl | ⟨hx0, _⟩
    · exact hocc hst o ho
    · exact hS.agvPending x hx0 hst o ho
  freeNoClaim x hx hst := by
    rcases hT x hx with rfl | ⟨hx0, _⟩
    · exact hfree hst
    · exact hS.freeNoClaim x hx0 hst
  depWaiting x hx b j tr ho := by
    rcases hT x hx with rfl | ⟨hx0, _⟩
    · exact hdep b j tr ho
    · exact hS.depWaiting x hx0 b j tr ho

theorem SchedInv.replaceTransport (w : WF inst) {s : State} (hI : StructInv inst s) (hS : SchedInv s)
    {t t' : TransportState} (ht : t ∈ s.transports) (hid : t'.id = t.id)
    (hocc : t'.st ≠ .idle → ∀ o, t'.occ = .at o → s.time ≤ o)
    (hfree : t'.st = .idle ∨ t'.st = .outage → t'.job = none)
    (hdep : ∀ b j tr, t'.occ = .dep b j tr → tr.new = .t .waitingpickup) : SchedInv (s.replaceTransport t') :=
  hS.frame (s' := s.replaceTransport t') rfl (fun x hx => ⟨x, hx, rfl, rfl⟩) (fun x hx => ⟨x, hx, rfl, rfl⟩)
    (fun y hy => ⟨y, hy, rfl, rfl, rfl, rfl⟩) (fun y hy => ⟨y, hy, rfl, rfl, rfl, rfl⟩)
    (fun x hx => (mem_replaceTransport (hI.shape.trNodup w) ht hid x).mp hx) hocc hfree hdep

theorem idleToWorking_sched (w : WF inst) (nn : NonNeg orc inst) {s s' : State} {r r' : Rng} {tr : Transition}
    {t : TransportState} (hI : StructInv inst s) (hS : SchedInv s) (ht : t ∈ s.transports)
    (h : handleAgvIdleToWorking orc inst s r tr t = .ok (s', r')) : SchedInv s' := by
  obtain ⟨j, cur, target, src, bc, c, _, _, _, _, _, _, _, hc, _, rfl⟩ := idleToWorking_spec h
  apply hS.replaceTransport w hI ht (by simp [TransportState.toPickup])
  · intro _ o ho
    simp [TransportState.toPickup] at ho; subst ho
    have := TimeCfg.cur_nonneg nn.orc r c (nn.travel _ (lookup_mem (by simpa [travelCfg] using hc)))
    omega
  · simp [TransportState.toPickup]
  · intro b j tr ho; simp [TransportState.toPickup] at ho

/-- a time dependency returned by `_get_waiting_time` parks a "keep waiting" transition: the one
being handled, or the one another waiting AGV has parked -/
theorem getWaitingTime_dep {s : State} (hS : SchedInv s) {tr : Transition} (hnew : tr.new = .t .waitingpickup)
    {b j : Nat} {tr' : Transition} (h : getWaitingTime inst s tr = .ok (.dep b j tr')) :
    tr'.new = .t .waitingpickup := by
  obtain ⟨j0, _, h | ⟨bc, mid, ms, _, _, _, ⟨_, _, nxt, _, ⟨_, h⟩ | ⟨t2, htb, h⟩⟩ | ⟨_, op, _, h⟩⟩⟩ := getWaitingTime_spec h
  · cases h
  · cases h; exact hnew
  · exact hS.depWaiting t2 (List.mem_of_find?_eq_some htb) b j tr' h.symm
  · cases hs : op.stop with
    | none => rw [hs] at h; cases h
    | some e => rw [hs] at h; cases h

theorem getWaitingTime_pending {s : State} (hS : SchedInv s) {tr : Transition} {occ : Occ}
    (h : getWaitingTime inst s tr = .ok occ) : ∀ o, occ = .at o → s.time ≤ o := by
  intro o ho
  obtain ⟨j, hj, h | ⟨bc, mid, ms, _, _, _, ⟨_, _, nxt, _, ⟨_, h⟩ | ⟨t2, htb, h⟩⟩ | ⟨_, op, hpr, h⟩⟩⟩ := getWaitingTime_spec h
  · rw [h] at ho; cases ho; exact Int.le_refl _
  · rw [h] at ho; cases ho
  · have hm := List.mem_of_find?_eq_some htb
    have hjb : t2.job = some nxt := by simpa using List.find?_some htb
    have hni : t2.st ≠ .idle := fun e => by rw [hS.freeNoClaim t2 hm (Or.inl e)] at hjb; cases hjb
    exact hS.agvPending t2 hm hni o (h ▸ ho)
  · obtain ⟨_, _, hl, _, hst⟩ := processing?_split' hpr
    obtain ⟨a, b, _, hb, _, _, hle⟩ := (OpsOK_mem _ _ (hS.ops j (getJobOpt_ok hj).1) op (by rw [hl]; simp)).2.1 hst
    rw [h, hb] at ho
    cases ho
    exact hle
theorem toWaiting_sched (w : WF inst) {s : State} {tr : Transition} {t : TransportState} (hI : StructInv inst s)
    (hS : SchedInv s) (ht : t ∈ s.transports) (hnew : tr.new = .t .waitingpickup) {occ : Occ}
    (hocc : getWaitingTime inst s tr = .ok occ) : SchedInv (s.replaceTransport (t.toWaiting occ)) := by
  apply hS.replaceTransport w hI ht (by simp [TransportState.toWaiting])
  · intro _ o ho; exact getWaitingTime_pending hS hocc o (by simpa [TransportState.toWaiting] using ho)
  · simp [TransportState.toWaiting]
  · intro b j tr' ho
    simp only [TransportState.toWaiting] at ho
    exact getWaitingTime_dep hS hnew (ho ▸ hocc)

theorem pickupToWaiting_sched (w : WF inst) {s s' : State} {r r' : Rng} {tr : Transition}
    {t : TransportState} (hI : StructInv inst s) (hS : SchedInv s) (ht : t ∈ s.transports)
    (hnew : tr.new = .t .waitingpickup)
    (h : handleAgvPickupToWaiting inst s r tr t = .ok (s', r')) : SchedInv s' := by
  obtain ⟨occ, hocc, _, _, rfl⟩ := pickupToWaiting_spec h
  exact toWaiting_sched w hI hS ht hnew hocc

theorem waitingToWaiting_sched (w : WF inst) {s s' : State} {r r' : Rng} {tr : Transition}
    {t : TransportState} (hI : StructInv inst s) (hS : SchedInv s) (ht : t ∈ s.transports)
    (hnew : tr.new = .t .waitingpickup)
    (h : handleAgvWaitingToWaiting inst s r tr t = .ok (s', r')) : SchedInv s' := by
  obtain ⟨occ, hocc, _, rfl⟩ := waitingToWaiting_spec h
  exact toWaiting_sched w hI hS ht hnew hocc

theorem agvOutageToIdle_sched (w : WF inst) {s s' : State} {r r' : Rng}
    {t : TransportState} (hI : StructInv inst s) (hS : SchedInv s) (ht : t ∈ s.transports) (hst : t.st = .outage)
    (h : handleAgvOutageToIdle s r t = .ok (s', r')) : SchedInv s' := by
  obtain ⟨_, rfl⟩ := agvOutageToIdle_spec h
  apply hS.replaceTransport w hI ht (by simp [TransportState.toIdle])
  · intro hne; simp [TransportState.toIdle] at hne
  · intro _; simp only [TransportState.toIdle]; exact hS.freeNoClaim t ht (Or.inr hst)
  · intro b j tr ho; simp only [TransportState.toIdle] at ho; exact hS.depWaiting t ht b j tr ho

theorem jobs_frame_at {s : State} (hjn : (s.jobs.map (·.id)).Nodup) {j : JobState} (hj : j ∈ s.jobs) (l : Nat) :
    (∀ x' ∈ (s.replaceJob (j.at l)).jobs, ∃ x ∈ s.jobs, x.id = x'.id ∧ x.ops = x'.ops) ∧
    (∀ x ∈ s.jobs, ∃ x' ∈ (s.replaceJob (j.at l)).jobs, x.id = x'.id ∧ x.ops = x'.ops) := by
  constructor
  · intro x' hx'
    rcases (mem_replaceJob hjn hj (by simp) x').mp hx' with rfl | ⟨hx0, _⟩
    · exact ⟨j, hj, rfl, rfl⟩
    · exact ⟨x', hx0, rfl, rfl⟩
  · intro x hx
    by_cases e : x.id = j.id
    · have : x = j := eq_of_mem_of_key_eq (key := fun (z : JobState) => z.id) hjn hx hj e
      subst this
      exact ⟨x.at l, (mem_replaceJob hjn hj (by simp) _).mpr (Or.inl rfl), rfl, rfl⟩
    · exact ⟨x, (mem_replaceJob hjn hj (by simp) _).mpr (Or.inr ⟨hx, e⟩), rfl, rfl⟩

theorem machines_frame {s : State} (hmn : (s.machines.map (·.id)).Nodup) {m m' : MachineState} (hm : m ∈ s.machines)
    (hid : m'.id = m.id) (hst : m'.st = m.st) (hocc : m'.occ = m.occ) (hb : m'.buffer.store = m.buffer.store) :
    (∀ y' ∈ (s.replaceMachine m').machines, ∃ y ∈ s.machines, y.id = y'.id ∧ y.st = y'.st ∧ y.occ = y'.occ ∧
        y.buffer.store = y'.buffer.store) ∧
    (∀ y ∈ s.machines, ∃ y' ∈ (s.replaceMachine m').machines, y.id = y'.id ∧ y.st = y'.st ∧ y.occ = y'.occ ∧
        y.buffer.store = y'.buffer.store) := by
  constructor
  · intro y' hy'
    rcases (mem_replaceMachine hmn hm hid y').mp hy' with rfl | ⟨hy0, _⟩
    · exact ⟨m, hm, hid.symm, hst.symm, hocc.symm, hb.symm⟩
    · exact ⟨y', hy0, rfl, rfl, rfl, rfl⟩
  · intro y hy
    by_cases e : y.id = m.id
    · have : y = m := eq_of_mem_of_key_eq (key := fun (z : MachineState) => z.id) hmn hy hm e
      subst this
      exact ⟨m', (mem_replaceMachine hmn hm hid _).mpr (Or.inl rfl), hid.symm, hst.symm, hocc.symm, hb.symm⟩
    · exact ⟨y, (mem_replaceMachine hmn hm hid _).mpr (Or.inr ⟨hy, e⟩), rfl, rfl, rfl, rfl⟩

theorem travelTimeFromSpec_nonneg (nn : NonNeg orc inst) {r r' : Rng} {a b : Loc} {tt : Int}
    (h : travelTimeFromSpec orc inst r a b = .ok (tt, r')) : 0 ≤ tt := by
  obtain ⟨c, hc, e⟩ := travelTimeFromSpec_ok h
  have := TimeCfg.updRead_nonneg nn.orc r c (nn.travel _ (lookup_mem hc))
  rw [← e] at this
  exact this

theorem pickupToTransit_sched (w : WF inst) (nn : NonNeg orc inst) {s s' : State} {r r' : Rng} {tr : Transition}
    {t : TransportState} (hI : StructInv inst s) (hS : SchedInv s) (ht : t ∈ s.transports)
    (hnp : ∀ j ∈ s.jobs, tr.job = some j.id → ∀ o ∈ j.ops, o.st ≠ .processing)
    (h : handleAgvPickupToTransit orc inst s r tr t = .ok (s', r')) : SchedInv s' := by
  obtain ⟨j, src, dst, tt, bss1, bss2, hj, htj, _, htt, _, hcase⟩ := pickupToTransit_spec h
  have hs := hI.shape
  have htt0 := travelTimeFromSpec_nonneg nn htt
  have hnoproc := hnp j hj htj
  have hpend : (t.toTransit (s.time + tt) j.id bss2).st ≠ .idle → ∀ o,
      (t.toTransit (s.time + tt) j.id bss2).occ = .at o → s.time ≤ o := by
    intro _ o ho
    cases ho
    omega
  have hfree : (t.toTransit (s.time + tt) j.id bss2).st = .idle ∨ (t.toTransit (s.time + tt) j.id bss2).st = .outage →
      (t.toTransit (s.time + tt) j.id bss2).job = none := by
    intro hst
    simp [TransportState.toTransit] at hst
  have hdep : ∀ b j' tr, (t.toTransit (s.time + tt) j.id bss2).occ = .dep b j' tr → tr.new = .t .waitingpickup :=
    fun b j' tr ho => nomatch ho
  have hT : ∀ x ∈ s.transports.map (fun y => if y.id == t.id then t.toTransit (s.time + tt) j.id bss2 else y),
      x = t.toTransit (s.time + tt) j.id bss2 ∨ (x ∈ s.transports ∧ x.id ≠ t.id) :=
    fun x => (mem_replaceTransport (t' := t.toTransit (s.time + tt) j.id bss2) (hs.trNodup w) ht rfl x).mp
  rcases hcase with ⟨fb, _, _, hfb, _, _, rfl⟩ | ⟨mid, ms, bs, ms', _, _, hms, _, hbs, hin, hms', rfl⟩
  · have hjf := jobs_frame_at (s := s.replaceBuffer (fb.without j.id bss1)) (hs.jobsNodup w) hj t.buffer.id
    exact hS.frame rfl hjf.1 hjf.2 (fun y hy => ⟨y, hy, rfl, rfl, rfl, rfl⟩) (fun y hy => ⟨y, hy, rfl, rfl, rfl, rfl⟩)
      hT hpend hfree hdep
  · obtain ⟨_, hbwhich⟩ := bufOfMachine_ok hbs
    have hne3 := machine_buf_ids_ne hs w hms
    -- the job is not running, so it is not taken from the internal buffer
    have hnotint : bs.id ≠ ms.buffer.id := by
      intro e
      rcases hbwhich with rfl | rfl | rfl
      · exact hne3.1 e
      · obtain ⟨o, ho, hst⟩ := processing_of_internal hI hS w hms hj hin
        exact hnoproc o ho hst
      · exact hne3.2.2 e.symm
    obtain ⟨_, hid, hst, hocc, hbuf⟩ := replaceBufInMachine_same hms'
    have hmf := machines_frame (hs.machNodup w) hms hid hst hocc (congrArg BufState.store (hbuf hnotint))
    have hjf := jobs_frame_at (s := s.replaceMachine ms') (hs.jobsNodup w) hj t.buffer.id
    exact hS.frame rfl hjf.1 hjf.2 hmf.1 hmf.2 hT hpend hfree hdep

theorem transitToOutage_sched (w : WF inst) (nn : NonNeg orc inst) {s s' : State} {r r' : Rng} {tr : Transition}
    {t : TransportState} (hI : StructInv inst s) (hS : SchedInv s) (ht : t ∈ s.transports)
    (h : handleAgvTransitToOutage orc inst s r tr t = .ok (s', r')) : SchedInv s' := by
  obtain ⟨j, cur, pick, drop, tc, outs, bss1, bss2, hj, htj, _, _, htc, _, hout, hcase⟩ := transitToOutage_spec h
  have hs := hI.shape
  have hocc : 0 ≤ occupiedFor outs := occupiedFor_new_nonneg nn.orc (nn.tout tc htc) hout
  have hpend : (t.toOutage j.id bss1 outs (s.time + occupiedFor outs) drop).st ≠ .idle → ∀ o,
      (t.toOutage j.id bss1 outs (s.time + occupiedFor outs) drop).occ = .at o → s.time ≤ o := by
    intro _ o ho
    cases ho
    omega
  have hdep : ∀ b j' tr, (t.toOutage j.id bss1 outs (s.time + occupiedFor outs) drop).occ = .dep b j' tr →
      tr.new = .t .waitingpickup := fun b j' tr ho => nomatch ho
  have hT : ∀ x ∈ s.transports.map (fun y => if y.id == t.id then
      t.toOutage j.id bss1 outs (s.time + occupiedFor outs) drop else y),
      x = t.toOutage j.id bss1 outs (s.time + occupiedFor outs) drop ∨ (x ∈ s.transports ∧ x.id ≠ t.id) :=
    fun x => (mem_replaceTransport (t' := t.toOutage j.id bss1 outs (s.time + occupiedFor outs) drop)
      (hs.trNodup w) ht rfl x).mp
  rcases hcase with ⟨mid, ms, _, hms, _, _, rfl⟩ | ⟨bid, b, _, hb, _, _, rfl⟩
  · have hjf := jobs_frame_at (hs.jobsNodup w) hj ms.pre.id
    have hmf := machines_frame (s := (s.replaceJob (j.at ms.pre.id)).replaceTransport
      (t.toOutage j.id bss1 outs (s.time + occupiedFor outs) drop)) (hs.machNodup w) hms
      (m' := ms.withPre j.id bss2) rfl rfl rfl rfl
    exact hS.frame rfl hjf.1 hjf.2 hmf.1 hmf.2 hT hpend (fun _ => rfl) hdep
  · have hjf := jobs_frame_at (hs.jobsNodup w) hj b.id
    exact hS.frame rfl hjf.1 hjf.2 (fun y hy => ⟨y, hy, rfl, rfl, rfl, rfl⟩) (fun y hy => ⟨y, hy, rfl, rfl, rfl, rfl⟩)
      hT hpend (fun _ => rfl) hdep

/-- `t` is not after any pending end: the stop of a processing operation, the fixed time of a busy AGV -/
def PendingGe (s : State) (t : Int) : Prop :=
  (∀ j ∈ s.jobs, ∀ o ∈ j.ops, o.st = .processing → ∀ b, o.stop = some b → t ≤ b) ∧
  (∀ x ∈ s.transports, x.st ≠ .idle → ∀ o, x.occ = .at o → t ≤ o)

theorem SchedInv.advance {s : State} (hS : SchedInv s) {t : Int} (hle : s.time ≤ t) (hp : PendingGe s t) :
    SchedInv { s with time := t } where
  idleEmpty := hS.idleEmpty
  busyHolds := hS.busyHolds
  procOnBusy := hS.procOnBusy
  ops j hj := OpsOK_time hle j.ops none (hp.1 j hj) (hS.ops j hj)
  doneBeforeProc := hS.doneBeforeProc
  doneDisjoint := hS.doneDisjoint
  agvPending := hp.2
  freeNoClaim := hS.freeNoClaim
  depWaiting := hS.depWaiting

end JSL
