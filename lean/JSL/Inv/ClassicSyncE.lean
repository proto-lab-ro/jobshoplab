import JSL.Inv.ClassicSync
import JSL.Inv.ClassicInvE

/-!
# The state stays in step with a target schedule, under `CInvE`

`rec_step`, `sync_step_core` and `sync_jump_core` of `ClassicSync`, instantiated for `BundleE` / `CInvE`.
(`sync_start` of `ClassicSync` needs no invariant and is used as it is.)
-/

namespace JSL

variable {orc : Oracle} {inst : Instance}

theorem rec_stepE (w : WF inst) (hC : Classic inst) {s s' : State} {r r' : Rng} {a : Transition}
    (hI : StructInv inst s) (hS : SchedInv s) (hB : BundleE inst s) (hE : EnE inst s a) (hns : a.new ≠ .m .setup)
    (h : applyTransition orc inst s r a = .ok (s', r')) :
    ∀ j' ∈ s'.jobs, ∀ o' ∈ j'.ops, ∃ j ∈ s.jobs, j.id = j'.id ∧ ∃ o ∈ j.ops, o.job = o'.job ∧ o.idx = o'.idx ∧
      (o'.st = .idle ↔ o.st = .idle) ∧ (o.st ≠ .idle → o'.start = o.start) :=
  rec_step w hI hS hB.cinv.machDue hB.cinv.setupRec hns h

theorem sync_stepE (w : WF inst) {S : Nat → Nat → Int} {s s' : State} {r r' : Rng} {a : Transition}
    (hI : StructInv inst s) (hS : SchedInv s) (hB : BundleE inst s) (hns : a.new ≠ .m .setup)
    (h : applyTransition orc inst s r a = .ok (s', r')) (hQ : SyncL inst S s) : SyncL inst S s' :=
  sync_step_core w hI hS hB.cinv.machDue hB.cinv.setupRec hns h hQ

theorem sync_jumpE (w : WF inst) (hC : Classic inst) {S : Nat → Nat → Int} (hT : TargetOK inst S) {s : State}
    (hI : StructInv inst s) (hS : SchedInv s) (hD : DurInv inst s) (hP : CInvE inst s) (hQ : SyncL inst S s)
    (havail : ∀ j ∈ s.jobs, j.running = false → ∀ o, j.nextIdle? = some o →
      (∀ m ∈ s.machines, m.id = o.machine → m.st = .idle) → s.time < S o.job o.idx)
    {t : Int} (hf : forceJump s = .ok t) : SyncL inst S { s with time := t } :=
  sync_jump_core w hC hT hI hS hD hP.setupRec hQ havail hf

end JSL
