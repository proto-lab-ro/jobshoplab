import JSL.Inv.AgvSteps

/-!
# Structural invariants along `applyTransition`, `processTransitions`, `timedLoop`, `smStep`
-/

namespace JSL

variable {orc : Oracle} {inst : Instance}

theorem valid_machine_job {s : State} (hnd : (s.jobs.map (·.id)).Nodup) {m : MachineState} {tr : Transition}
    (hv : machineTransitionValid s m tr = .ok true)
    (h1 : ¬(m.st = .outage ∧ tr.new = .m .idle)) (h2 : ¬(m.st = .working ∧ tr.new = .m .outage)) :
    ∀ j ∈ s.jobs, tr.job = some j.id → ∀ op, j.nextNotDone? = some op → op.machine = m.id := by
  intro j hj htj op hop
  unfold machineTransitionValid at hv
  split at hv
  · simp at hv
  · split at hv
    · rename_i h; simp at h; exact absurd h h1
    · split at hv
      · rename_i h; simp at h; exact absurd h h2
      · unfold machineJobCheck at hv
        simp only [htj] at hv
        obtain ⟨j', hj', hv⟩ := except_bind_eq_ok hv
        obtain ⟨op', hop', hv⟩ := except_bind_eq_ok hv
        simp at hv
        have hj'' := getJob_ok hj'
        have : j' = j := eq_of_mem_of_key_eq (key := fun (y : JobState) => y.id) hnd hj''.1 hj hj''.2
        subst this
        have := nextNotDone_ok hop'
        rw [hop] at this
        simp at this; subst this
        exact hv

theorem StructInv.time {s : State} (hI : StructInv inst s) (t : Int) : StructInv inst { s with time := t } :=
  ⟨⟨hI.shape.jobs, hI.shape.machines, hI.shape.transports, hI.shape.buffers⟩,
   ⟨hI.cons.stored, hI.cons.located, hI.cons.nodup⟩, hI.cap⟩

theorem transitionValid_machine {s : State} (hnd : (s.machines.map (·.id)).Nodup) {m : MachineState}
    (hm : m ∈ s.machines) {tr : Transition} (hc : tr.comp = .m m.id) {b : Bool}
    (hv : transitionValid s tr = .ok b) : machineTransitionValid s m tr = .ok b := by
  unfold transitionValid at hv
  simp only [hc] at hv
  obtain ⟨mv, hmv, hv'⟩ := except_bind_eq_ok hv
  have hmem := getMachine_ok hmv
  have : mv = m := eq_of_mem_of_key_eq (key := fun (y : MachineState) => y.id) hnd hmem.1 hm hmem.2
  subst this
  exact hv'

theorem applyTransition_struct (w : WF inst) {s s' : State} {r r' : Rng} {tr : Transition}
    (hI : StructInv inst s) (hv : transitionValid s tr = .ok true)
    (h : applyTransition orc inst s r tr = .ok (s', r')) : StructInv inst s' := by
  have hnd := hI.shape.jobsNodup w
  have hmn := hI.shape.machNodup w
  cases applyTransition_cases h with
  | idleToSetup m hm hc hst hn run =>
    exact idleToSetup_struct w hI hm
      (valid_machine_job hnd (transitionValid_machine hmn hm hc hv) (by simp [hst]) (by simp [hst])) run
  | setupToWorking m hm hc hst hn run =>
    exact setupToWorking_struct w hI hm
      (valid_machine_job hnd (transitionValid_machine hmn hm hc hv) (by simp [hst]) (by simp [hst])) run
  | workingToOutage m hm hc hst hn run => exact workingToOutage_struct w hI hm run
  | outageToIdle m hm hc hst hn run => exact outageToIdle_struct w hI hm run
  | idleToWorking t ht hc hst hn run => exact idleToWorking_struct w hI ht run
  | pickupToWaiting t ht hc hst hn run => exact pickupToWaiting_struct w hI ht run
  | waitingToWaiting t ht hc hst hn run => exact waitingToWaiting_struct w hI ht run
  | pickupToTransit t ht hc hst hn run => exact pickupToTransit_struct w hI ht run
  | transitToOutage t ht hc hst hn run => exact transitToOutage_struct w hI ht run
  | agvOutageToIdle t ht hc hst hn run => exact agvOutageToIdle_struct w hI ht run

theorem processTransitions_struct (w : WF inst) :
    ∀ (trs : List Transition) (s : State) (r : Rng) (o : ProcOut), StructInv inst s →
      processTransitions orc inst trs s r = .ok o →
      StructInv inst o.state ∧ ∀ σ ∈ o.micro, StructInv inst σ := by
  intro trs s r o hI h
  have := processTransitions_ind (Q := fun s _ => StructInv inst s) (fun hI _ => hI)
    (fun hI hv ha => applyTransition_struct w hI hv ha) hI h
  exact ⟨this.1, fun σ hσ => (this.2 σ hσ).elim fun _ hσ => hσ⟩

theorem timedLoop_struct (w : WF inst) {cfg : SMConfig} {fuel : Nat} {tt : List Transition} {s : State} {r : Rng}
    {subs mic : List State} {out : LoopOut} (hI : StructInv inst s)
    (h : timedLoop orc inst cfg fuel tt s r subs mic = .ok out) :
    StructInv inst out.state ∧ (∀ σ ∈ out.subs, σ ∈ subs ∨ StructInv inst σ) ∧
      (∀ σ ∈ out.micro, σ ∈ mic ∨ StructInv inst σ) := by
  have := timedLoop_ind (Q := fun s _ => StructInv inst s) (P := StructInv inst) (fun hI => hI)
    (fun hI ho => processTransitions_struct w _ _ _ _ hI ho)
    (fun hI ho _ _ _ => (processTransitions_struct w _ _ _ _ hI ho).1.time _) hI h
  exact ⟨this.1, this.2.2⟩

/-- **`state.step` keeps the structural invariants** – for every action whatsoever (the transitions
need not be offered ones): the state returned, every intermediate sub-state and the post-state of
every applied transition satisfy them. -/
theorem smStep_struct (w : WF inst) {cfg : SMConfig} {fuel : Nat} {s0 : State} {r : Rng} {a : Action}
    {res : SMResult} {r' : Rng} {mic : List State} (hI : StructInv inst s0)
    (h : smStep orc inst cfg fuel s0 r a = .ok (res, r', mic)) :
    StructInv inst res.state ∧ (∀ σ ∈ res.subStates, StructInv inst σ) ∧ (∀ σ ∈ mic, StructInv inst σ) := by
  obtain ⟨p, hp, hcase⟩ := smStep_cases h
  have hp' := processTransitions_struct w _ _ _ _ hI hp
  rcases hcase with ⟨_, _, rfl, rfl⟩ | ⟨_, t, timed, poss, tele, out, _, _, _, _, hout, _, rfl, hcase⟩
  · exact ⟨hI, by simpa using hp'.1, hp'.2⟩
  · have hl := timedLoop_struct w (hp'.1.time t) hout
    have hsubs : ∀ σ ∈ out.subs, StructInv inst σ := fun σ hσ =>
      (hl.2.1 σ hσ).elim (fun h1 => by rw [List.mem_singleton.mp h1]; exact hp'.1) id
    have hmic : ∀ σ ∈ out.micro, StructInv inst σ := fun σ hσ => (hl.2.2 σ hσ).elim (hp'.2 σ) id
    have hdrop : ∀ σ ∈ out.subs.dropLast, StructInv inst σ := fun σ hσ =>
      hsubs σ ((List.dropLast_sublist _).subset hσ)
    rcases hcase with ⟨_, rfl⟩ | ⟨_, _, e, _, rfl⟩ | ⟨_, _, poss', _, rfl⟩
    · exact ⟨hI, hsubs, hmic⟩
    · refine ⟨?_, hdrop, hmic⟩
      cases e with
      | none => exact hl.1
      | some e => exact hl.1.time e
    · exact ⟨hl.1, hdrop, hmic⟩

end JSL
