import JSL.Inv.ClassicDefs
import JSL.Inv.StartOnly
import JSL.Inv.AcceptBound

/-!
# Classic instances: the start state and the running episode

What the guards `restB` and `classicStartB` say about the start state, and what holds of every episode
of a classic instance whatever pass is used to reason about it: the shop is not finished right after
`reset`, and while the episode runs the shop is not finished and offers are held.
-/

namespace JSL

variable {orc : Oracle} {inst : Instance}

theorem restB_facts {s : State} (h : restB s = true) :
    (∀ m ∈ s.machines, m.st = .idle ∧ m.buffer.store = []) ∧
    (∀ j ∈ s.jobs, ∀ o ∈ j.ops, o.st = .idle) ∧
    (∀ t ∈ s.transports, t.st = .idle ∧ t.job = none ∧ (∀ b j tr, t.occ ≠ .dep b j tr) ∧ t.buffer.store = []) := by
  simp only [restB, Bool.and_eq_true, List.all_eq_true, beq_iff_eq, List.isEmpty_iff, Option.isNone_iff_eq_none] at h
  obtain ⟨⟨hm, hj⟩, ht⟩ := h
  refine ⟨hm, hj, fun t htm => ⟨(ht t htm).1.1.1, (ht t htm).1.1.2, ?_, (ht t htm).2⟩⟩
  intro b j tr e
  have := (ht t htm).1.2
  rw [e] at this; simp at this

theorem classicStartB_facts {s : State} (h : classicStartB inst s = true) :
    readyB inst s = true ∧ (∀ t ∈ s.transports, ∃ l, t.loc = .at l ∧ l ∈ locsOf inst) ∧ s.time = 0 := by
  simp only [classicStartB, Bool.and_eq_true, List.all_eq_true, decide_eq_true_eq] at h
  obtain ⟨⟨h1, h2⟩, h3⟩ := h
  refine ⟨h1, fun t ht => ?_, h3⟩
  have := h2 t ht
  cases hl : t.loc with
  | «at» l => rw [hl] at this; exact ⟨l, rfl, List.contains_iff_mem.mp this⟩
  | route a b c => rw [hl] at this; simp at this

theorem job_has_record (hC : Classic inst) {s : State} (hs : Shape inst s) {j : JobState} (hj : j ∈ s.jobs) :
    j.ops ≠ [] := by
  obtain ⟨jc, hjc, hk⟩ := hs.job_cfg hj
  simp only [jKey, jcKey, Prod.mk.injEq] at hk
  intro e
  have := hk.2
  rw [e] at this
  simp at this
  exact hC.jobsNonempty jc hjc this

theorem nextIdle_of_allIdle {j : JobState} (hne : j.ops ≠ []) (h : ∀ o ∈ j.ops, o.st = .idle) :
    ∃ o, j.nextIdle? = some o := by
  unfold JobState.nextIdle?
  cases hops : j.ops with
  | nil => exact absurd hops hne
  | cons o os =>
    have : o.st = .idle := h o (by rw [hops]; simp)
    exact ⟨o, by simp [List.find?, this]⟩

/-- a state whose records are all idle (and that has a job) is not finished: a job in an output
buffer would have all its records done -/
theorem not_done_of_allIdle (hC : Classic inst) (hjobs : inst.jobs ≠ []) {s : State} (hs : Shape inst s)
    (hroute : RouteInv inst s) (hidle : ∀ j ∈ s.jobs, ∀ o ∈ j.ops, o.st = .idle) : isDone inst s = false := by
  cases hd : isDone inst s with
  | false => rfl
  | true =>
    exfalso
    obtain ⟨jc, hjc⟩ := List.exists_mem_of_ne_nil _ hjobs
    obtain ⟨j, hj, _⟩ := mem_of_map_eq hs.jobs.symm hjc
    obtain ⟨o, ho⟩ := List.exists_mem_of_ne_nil _ (job_has_record hC hs hj)
    have hl : j.loc ∈ outputIds inst := isDone_iff.mp hd j hj
    have h1 := hroute.delivered j hj hl o ho
    rw [hidle j hj o ho] at h1
    cases h1

/-- at a state where nothing is due, a machine whose setup and outage phases are over as soon as they
begin (as with the constant 0 of a classic instance) is idle or working -/
theorem machines_settled {s : State} (hS : SchedInv s) (hq : Quiet inst s)
    (hdue : ∀ m ∈ s.machines, m.st = .setup ∨ m.st = .outage → ∃ c, m.occ = some c ∧ c ≤ s.time) :
    ∀ m ∈ s.machines, m.st = .idle ∨ m.st = .working := by
  intro m hm
  have hno : m.st = .setup ∨ m.st = .outage → False := by
    intro hst
    have hb : m.st ≠ .idle := by rcases hst with h | h <;> rw [h] <;> simp
    obtain ⟨c, hc, hle⟩ := hdue m hm hst
    obtain ⟨j, _, hstore, _⟩ := hS.busyHolds m hm hb
    have := hq.machine hm hb (by rw [hstore]; simp)
    rw [hc] at this
    simp [dueAt] at this
    omega
  cases hst : m.st with
  | idle => exact Or.inl rfl
  | working => exact Or.inr rfl
  | setup => exact (hno (Or.inl hst)).elim
  | outage => exact (hno (Or.inr hst)).elim

variable {ec : EnvCfg} {st : RewardStatic} {s0 : State}

/-- the shop is not finished right after `reset`: the reset step starts nothing, so every record is
still idle -/
theorem reset_not_done (hst : Start orc inst s0) (hC : Classic inst) (hjobs : inst.jobs ≠ []) {r0 : Rng}
    {e0 : EnvState} {mic : List State} (h : envReset orc inst ec s0 r0 = .ok (e0, mic)) :
    isDone inst e0.res.state = false := by
  have hi := (envReset_inv hst h).1
  obtain ⟨w, hI0⟩ := initOKB_sound hst.init
  have hflex : PreFlex inst := by
    intro mc hmc
    apply hC.flex
    simp only [allBufCfgs, List.mem_append, List.mem_flatMap, List.mem_map]
    exact Or.inl (Or.inr ⟨mc, hmc, by simp⟩)
  have hns : NoStartSince s0 e0.res.state := by
    obtain ⟨res, r', h2, rfl⟩ := envReset_ok h
    exact (smStep_starts_nothing w (nonnegB_sound hst.samples hst.nonneg) hflex hI0 (restB_sound hst.rest)
      admissible_noOp (by simp [noOpAction]; exact NoSetup.nil) h2).1
  apply not_done_of_allIdle hC hjobs hi.struct.shape hi.full.route
  intro j hj o ho
  apply Classical.byContradiction
  intro hne
  obtain ⟨j0, hj0, _, o0, ho0, _, _, hn0⟩ := hns j hj o ho hne
  exact hn0 ((restB_facts hst.rest).2.1 j0 hj0 o0 ho0)

theorem envReach_done_flags {e : EnvState} (h : EnvReach orc inst ec st s0 e) :
    e.done = (e.terminated || e.truncated) := by
  cases h with
  | reset h =>
    obtain ⟨_, h2, h3, h4, _⟩ := envReset_flags h
    rw [h2, h3, h4]; rfl
  | step _ h =>
    obtain ⟨_, res', mw, r, mic, rew, cnt, _, _, rfl, _, rfl⟩ := envStep_ok h
    rfl

theorem envReach_running (hst : Start orc inst s0) (hC : Classic inst) (hjobs : inst.jobs ≠ []) {e : EnvState}
    (h : EnvReach orc inst ec st s0 e) (hd : e.done = false) :
    isDone inst e.res.state = false ∧ e.truncated = false := by
  cases h with
  | reset h => exact ⟨reset_not_done hst hC hjobs h, (envReset_flags h).2.1⟩
  | step _ h =>
    obtain ⟨_, res', mw, r, mic, rew, cnt, _, _, rfl, _, rfl⟩ := envStep_ok h
    by_cases hsuc : res'.success = true
    · simp only [hsuc, if_true] at hd ⊢
      simp only [Bool.or_eq_false_iff] at hd
      exact ⟨hd.1, hd.2⟩
    · simp [hsuc] at hd

theorem envReach_offers (hst : Start orc inst s0) (hC : Classic inst) (hjobs : inst.jobs ≠ []) {e : EnvState}
    (h : EnvReach orc inst ec st s0 e) (hd : e.done = false) (hs : e.res.success = true) :
    e.res.possible ≠ [] :=
  (envReach_good hst hC.flex.pick hC.hasAgv h).offers hs (envReach_running hst hC hjobs h hd).1

end JSL
