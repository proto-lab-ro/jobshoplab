import JSL.Inv.ClassicInvE
import JSL.Inv.ClassicAgvTotalA
import JSL.Inv.ClassicAgvTotalB
import JSL.Inv.ClassicMachTotal
import JSL.Inv.ClassicQueries

/-!
# Classic instances: totality of the dispatch and of the wait, also for a running job

The AGV transitions IDLE → WORKING (dispatch), PICKUP → WAITINGPICKUP and the re-wait
WAITINGPICKUP → WAITINGPICKUP validate and apply, with closed forms, for a `Pickable` job: one that lies at a
pickup place (waiting time "now", `getWaitingTime_classic`) or in the internal buffer of a machine
(`internalIds`; waiting time = the end of its processing record).
-/

namespace JSL

variable {orc : Oracle} {inst : Instance}

theorem internal_cfg {l : Nat} (hl : l ∈ internalIds inst) : ∃ mc ∈ inst.machines, mc.buf.id = l := by
  unfold internalIds at hl
  exact List.mem_map.mp hl

theorem internal_machine (w : WF inst) {s : State} (hs : Shape inst s) {l : Nat} (hl : l ∈ internalIds inst) :
    ∃ m ∈ s.machines, m.buffer.id = l := by
  obtain ⟨mc, hmc, rfl⟩ := internal_cfg hl
  obtain ⟨m, hm, hk⟩ := mem_of_map_eq hs.machines.symm hmc
  simp only [mKey, mcKey, Prod.mk.injEq] at hk
  exact ⟨m, hm, hk.2.2.1.symm⟩

theorem internal_not_pickup (w : WF inst) {s : State} (hs : Shape inst s) {l : Nat} (hl : l ∈ internalIds inst) :
    l ∉ pickupPlaces inst := by
  obtain ⟨m, hm, rfl⟩ := internal_machine w hs hl
  exact (cs_machine_not_pickup w hs hm).2

theorem cse_buffer_internal {s : State} (hs : Shape inst s) {m : MachineState} (hm : m ∈ s.machines) :
    m.buffer.id ∈ internalIds inst := by
  obtain ⟨mc, hmc, hk⟩ := mem_of_map_eq hs.machines hm
  simp only [mKey, mcKey, Prod.mk.injEq] at hk
  unfold internalIds
  exact List.mem_map.mpr ⟨mc, hmc, hk.2.2.1.symm⟩

theorem getBufCfg_internal (w : WF inst) (hC : Classic inst) {s : State} (hs : Shape inst s) {l : Nat}
    (hl : l ∈ internalIds inst) :
    ∃ bc mc m, getBufCfg (allBufCfgs inst) l = .ok bc ∧ bc ∈ allBufCfgs inst ∧ bc.id = l ∧ bc ∈ pickupBufs inst ∧
      mc ∈ inst.machines ∧ bc = mc.buf ∧ bc.parent = some (.m mc.id) ∧
      m ∈ s.machines ∧ m.id = mc.id ∧ m.buffer.id = l ∧ getMachine s.machines mc.id = .ok m := by
  obtain ⟨mc, hmc, rfl⟩ := internal_cfg hl
  have hbc := (mem_allBufCfgs_of_machine hmc).2.1
  have hget := findE_of_mem (key := fun (y : BufCfg) => y.id) w.bufNodup hbc .invalidValue
  obtain ⟨m, hm, hk⟩ := mem_of_map_eq hs.machines.symm hmc
  simp only [mKey, mcKey, Prod.mk.injEq] at hk
  refine ⟨mc.buf, mc, m, hget, hbc, rfl, ?_, hmc, rfl, hC.parentBuf mc hmc, hm, hk.1.symm, hk.2.2.1.symm, ?_⟩
  · unfold pickupBufs
    exact List.mem_append.mpr (Or.inr (List.mem_flatMap.mpr ⟨mc, hmc, by simp⟩))
  · rw [hk.1]
    exact getMachine_of_mem (hs.machNodup w) hm

theorem running_facts (w : WF inst) {s : State} (hI : StructInv inst s) (hS : SchedInv s)
    {j : JobState} (hj : j ∈ s.jobs) {m : MachineState} (hm : m ∈ s.machines) (hloc : m.buffer.id = j.loc) :
    m.st ≠ .idle ∧ m.buffer.store = [j.id] ∧ j.id ∉ m.post.store ∧
      ∃ op e, j.processing? = some op ∧ op.stop = some e ∧ m.occ = some e ∧ op.machine = m.id := by
  have hs := hI.shape
  have hbuf := (mem_allBufs_of_machine hm).2.1
  have hin : j.id ∈ m.buffer.store := by
    have h1 := hI.cons.located (j.id, j.loc) (List.mem_map.mpr ⟨j, hj, rfl⟩)
    simp only at h1
    rw [← hloc, storeAt_of_mem (hs.bufNodup w) hbuf] at h1
    exact h1
  have hbusy : m.st ≠ .idle := by
    intro e
    rw [hS.idleEmpty m hm e] at hin
    cases hin
  obtain ⟨j', hj', hst, op, hp, hmach, hstop, hocc⟩ := hS.busyHolds m hm hbusy
  have hid : j'.id = j.id := by
    have h := hin
    rw [hst] at h
    exact (List.mem_singleton.mp h).symm
  have : j' = j := eq_of_mem_of_key_eq (key := fun (y : JobState) => y.id) (hs.jobsNodup w) hj' hj hid
  subst this
  have hnot : j'.id ∉ m.post.store := by
    intro hpost
    have h1 : j'.id ∈ storeAt s m.buffer.id := by
      rw [storeAt_of_mem (hs.bufNodup w) hbuf]; exact hin
    have h2 : j'.id ∈ storeAt s m.post.id := by
      rw [storeAt_of_mem (hs.bufNodup w) (mem_allBufs_of_machine hm).2.2]; exact hpost
    exact (internal_ne_pre_post hs w hm hm).2 (unique_store hI.cons (hs.jobsNodup w) h1 h2)
  cases hocc' : m.occ with
  | none => exact absurd hocc' hocc
  | some e => exact ⟨hbusy, hst, hnot, op, e, hp, by rw [hstop, hocc'], rfl, hmach⟩

theorem getWaitingTime_running (w : WF inst) (hC : Classic inst) {s : State} (hI : StructInv inst s) (hS : SchedInv s)
    {j : JobState} (hj : j ∈ s.jobs) (hloc : j.loc ∈ internalIds inst) (c : Comp) (ns : NewSt) :
    ∃ op e, j.processing? = some op ∧ op.stop = some e ∧ getWaitingTime inst s ⟨c, ns, some j.id⟩ = .ok (.at e) := by
  have hs := hI.shape
  obtain ⟨bc, mc, m, hget, _, _, _, _, _, hpar, hm, _, hmb, hgm⟩ := getBufCfg_internal w hC hs hloc
  have hgj : getJobOpt s.jobs (some j.id) = .ok j := getJob_of_mem (hs.jobsNodup w) hj
  obtain ⟨_, _, hnot, op, e, hp, hstop, _, _⟩ := running_facts w hI hS hj hm hmb
  have hcont : m.post.store.contains j.id = false := by
    cases h : m.post.store.contains j.id with
    | false => rfl
    | true => exact absurd (List.contains_iff_mem.mp h) hnot
  refine ⟨op, e, hp, hstop, ?_⟩
  simp only [getWaitingTime, hgj, except_bind_ok, hget, hpar, hgm, hcont, Bool.false_eq_true, if_false,
    waitProcessing, hp, hstop, except_pure]

theorem getBufCfg_pickable (w : WF inst) (hC : Classic inst) {s : State} (hs : Shape inst s) {j : JobState}
    (hloc : Pickable inst j) :
    ∃ bc src, getBufCfg (allBufCfgs inst) j.loc = .ok bc ∧ bc.id = j.loc ∧ bc ∈ pickupBufs inst ∧
      pickupSource bc j.loc = .ok src ∧ src ∈ locsOf inst := by
  rcases hloc with hloc | hloc
  · obtain ⟨bc, hbc, hmem, hid, hpick, _⟩ := getBufCfg_pickupPlace w hC hloc
    obtain ⟨src, hsrc, hsl⟩ := pickupSource_locs w hC hmem (by rw [hid]; exact hloc)
    rw [hid] at hsrc
    exact ⟨bc, src, hbc, hid, hpick, hsrc, hsl⟩
  · obtain ⟨bc, mc, m, hget, _, hid, hpick, hmc, _, hpar, _⟩ := getBufCfg_internal w hC hs hloc
    refine ⟨bc, .m mc.id, hget, hid, hpick, by simp only [pickupSource, hpar, except_pure], ?_⟩
    unfold locsOf
    exact List.mem_append.mpr (Or.inl (List.mem_map.mpr ⟨mc, hmc, rfl⟩))

theorem dispatch_total_early (w : WF inst) (hC : Classic inst) {s : State} (hI : StructInv inst s)
    (hR : Ready inst s) {t : TransportState} (ht : t ∈ s.transports) (hst : t.st = .idle)
    {j : JobState} (hj : j ∈ s.jobs) (hloc : Pickable inst j) (r : Rng) :
    transitionValid s ⟨.t t.id, .t .working, some j.id⟩ = .ok true ∧
    ∃ s' r', applyTransition orc inst s r ⟨.t t.id, .t .working, some j.id⟩ = .ok (s', r') := by
  have hs := hI.shape
  refine ⟨by rw [transitionValid_agv w hs ht, hst]; rfl, ?_⟩
  obtain ⟨l, hl, hreach⟩ := hR.parked t ht (Or.inl hst)
  obtain ⟨d, hd⟩ := dropLoc_total hC.tables j
  obtain ⟨bc, src, hbc, hid, hpick, hsrc, _⟩ := getBufCfg_pickable w hC hs hloc
  obtain ⟨c, hc⟩ := Option.isSome_iff_exists.mp (hreach bc hpick src (by rw [hid]; exact hsrc))
  rw [applyTransition_classic_agv w hC hs ht hst]
  simp only [agvHandler, handleAgvIdleToWorking, hl, getJob_of_mem (hs.jobsNodup w) hj, hd, hbc, hsrc, travelNoUpdate,
    hc, except_bind_ok, except_pure]
  exact ⟨_, _, rfl⟩

theorem dispatch_result_early (w : WF inst) (hC : Classic inst) {s : State} (hI : StructInv inst s)
    {t : TransportState} (ht : t ∈ s.transports) (hst : t.st = .idle) {l : Loc} (hl : t.loc = .at l)
    (hlo : l ∈ locsOf inst) {j : JobState} (hj : j ∈ s.jobs) (hloc : Pickable inst j) (r : Rng) :
    ∃ d, dropLoc inst j JobState.nextIdleE = .ok d ∧
      applyTransition orc inst s r ⟨.t t.id, .t .working, some j.id⟩ =
        .ok (s.replaceTransport { t with loc := .route l j.loc d, st := .pickup, occ := .at s.time,
                                         job := some j.id }, r) := by
  have hs := hI.shape
  obtain ⟨d, hd⟩ := dropLoc_total hC.tables j
  obtain ⟨bc, src, hbc, hid, _, hsrc, hsl⟩ := getBufCfg_pickable w hC hs hloc
  have htr := travelNoUpdate_classic (orc := orc) hC hlo hsl r
  refine ⟨d, hd, ?_⟩
  rw [applyTransition_classic_agv w hC hs ht hst]
  simp only [agvHandler, handleAgvIdleToWorking, hl, getJob_of_mem (hs.jobsNodup w) hj, hd, hbc, hsrc, htr, hid,
    Int.add_zero, except_bind_ok, except_pure]

theorem getWaitingTime_pickable (w : WF inst) (hC : Classic inst) {s : State} (hI : StructInv inst s) (hS : SchedInv s)
    {j : JobState} (hj : j ∈ s.jobs) (hloc : Pickable inst j) (c : Comp) (ns : NewSt) :
    ∃ e, getWaitingTime inst s ⟨c, ns, some j.id⟩ = .ok (.at e) ∧
      (j.loc ∈ pickupPlaces inst → e = s.time) ∧
      (j.loc ∈ internalIds inst → ∃ op, j.processing? = some op ∧ op.stop = some e) := by
  rcases hloc with hloc | hloc
  · exact ⟨s.time, getWaitingTime_classic w hC hI hj hloc c ns, fun _ => rfl,
      fun h => absurd hloc (internal_not_pickup w hI.shape h)⟩
  · obtain ⟨op, e, hp, hstop, hw⟩ := getWaitingTime_running w hC hI hS hj hloc c ns
    exact ⟨e, hw, fun h => absurd h (internal_not_pickup w hI.shape hloc), fun _ => ⟨op, hp, hstop⟩⟩

theorem wait_result_early (w : WF inst) (hC : Classic inst) {s : State} (hI : StructInv inst s) (hS : SchedInv s)
    {t : TransportState} (ht : t ∈ s.transports) (hst : t.st = .pickup ∨ t.st = .waitingpickup)
    {j : JobState} (hj : j ∈ s.jobs) (hloc : Pickable inst j) (r : Rng) :
    ∃ c, getWaitingTime inst s ⟨.t t.id, .t .waitingpickup, some j.id⟩ = .ok (.at c) ∧
      (j.loc ∈ pickupPlaces inst → c = s.time) ∧
      (j.loc ∈ internalIds inst → ∃ op, j.processing? = some op ∧ op.stop = some c) ∧
      applyTransition orc inst s r ⟨.t t.id, .t .waitingpickup, some j.id⟩ =
        .ok (s.replaceTransport { t with st := .waitingpickup, occ := .at c }, r) := by
  obtain ⟨c, hw, h1, h2⟩ := getWaitingTime_pickable w hC hI hS hj hloc (.t t.id) (.t .waitingpickup)
  refine ⟨c, hw, h1, h2, ?_⟩
  rcases hst with hst | hst
  · rw [applyTransition_classic_agv w hC hI.shape ht hst]
    simp only [agvHandler, handleAgvPickupToWaiting, Option.isNone_some, hw, except_bind_ok, except_pure,
      Bool.false_eq_true, if_false]
  · rw [applyTransition_classic_agv w hC hI.shape ht hst]
    simp only [agvHandler, handleAgvWaitingToWaiting, hw, except_bind_ok, except_pure]

theorem pickupToWaiting_total_early (w : WF inst) (hC : Classic inst) {s : State} (hI : StructInv inst s) (hS : SchedInv s)
    {t : TransportState} (ht : t ∈ s.transports) (hst : t.st = .pickup)
    {j : JobState} (hj : j ∈ s.jobs) (hloc : Pickable inst j) (r : Rng) :
    transitionValid s ⟨.t t.id, .t .waitingpickup, some j.id⟩ = .ok true ∧
    ∃ s' r', applyTransition orc inst s r ⟨.t t.id, .t .waitingpickup, some j.id⟩ = .ok (s', r') := by
  refine ⟨by rw [transitionValid_agv w hI.shape ht, hst]; rfl, ?_⟩
  obtain ⟨c, _, _, _, h⟩ := wait_result_early (orc := orc) w hC hI hS ht (Or.inl hst) hj hloc r
  exact ⟨_, _, h⟩

theorem rewait_total (w : WF inst) (hC : Classic inst) {s : State} (hI : StructInv inst s) (hS : SchedInv s)
    {t : TransportState} (ht : t ∈ s.transports) (hst : t.st = .waitingpickup)
    {j : JobState} (hj : j ∈ s.jobs) (hloc : Pickable inst j) (r : Rng) :
    transitionValid s ⟨.t t.id, .t .waitingpickup, some j.id⟩ = .ok true ∧
    ∃ s' r', applyTransition orc inst s r ⟨.t t.id, .t .waitingpickup, some j.id⟩ = .ok (s', r') := by
  refine ⟨by rw [transitionValid_agv w hI.shape ht, hst]; rfl, ?_⟩
  obtain ⟨c, _, _, _, h⟩ := wait_result_early (orc := orc) w hC hI hS ht (Or.inr hst) hj hloc r
  exact ⟨_, _, h⟩

end JSL
