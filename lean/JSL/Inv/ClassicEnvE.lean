import JSL.Inv.ClassicPassE
import JSL.Inv.ClassicEnv

/-!
# The classic pass, early dispatch allowed, meets the interface of the totality plumbing

`cpassE_total_of`: `CPassE` meets `TotalHypR` with the measure `muE`, the bound `6·#machines + 11·#AGVs` and
the re-waits `RWE`, for any property `Q` kept by the enabled transitions and by the jumps of the clock at dead
points.  The instances: `cpassE_total` (in step with a target schedule; needs at least as many AGVs as jobs)
and `cpassE_total_true` (pure totality, any number of AGVs).
-/

namespace JSL

variable {orc : Oracle} {inst : Instance} {cfg : SMConfig}

theorem cpassE_total_of (w : WF inst) (nn : NonNeg orc inst) (hC : Classic inst)
    (Q : State → Prop)
    (hqs : ∀ {s tr r s' r'}, StructInv inst s → SchedInv s → BundleE inst s ∧ DurInv inst s → EnE inst s tr →
      tr.new ≠ .m .setup → applyTransition orc inst s r tr = .ok (s', r') → Q s → Q s')
    (hqj : ∀ {s t}, StructInv inst s → SchedInv s → BundleE inst s ∧ DurInv inst s → Q s →
      numPossibleEvents inst cfg s = .ok 0 → forceJump s = .ok t → Q { s with time := t }) :
    TotalHypR (CPassE orc inst cfg w nn hC) muE (6 * inst.machines.length + 11 * inst.transports.length) Q RWE where
  apply := fun r hI hS hP hgs hne => enE_applies w hC hI hS hP.1 (hgs.2.2.en _ (by simp)) hne r
  timed := fun hI hS hP => timedTransitions_totalE w hI hS hP.1.full hP.1.cinv
  poss := fun hI hS hP => possibleTransitions_total w hC hI hS cfg
  count := fun hI hS hP => numPossibleEvents_total w hC hI hS cfg
  tele := fun r hI hS hP hp => filterTeleport_total w hC hI hS hP.1.full hp r
  force := fun _ hS hP => forceJump_total hS (fun t ht hb => hP.1.cinv.agvAt t ht hb)
  lastDone := fun hS => lastDoneEnd_total hS
  noStartTimed := fun hI hS htt => timed_noStart w hC hI hS htt
  noStartTele := fun hp hte => tele_noStart hp hte
  noDispatchTimed := fun hS htt => timed_no_dispatch hS htt
  μ_time := fun s t => muE_time s t
  μ_le := fun hI => muE_le hI.shape
  μ_mono := by
    intro s tr R r s' r' hI hS hP hgs hns hnd h
    exact muE_mono w hC hI hS hP.1 (hgs.2.2.en tr (by simp)) hns hnd h
  μ_step := by
    intro s tr R r s' r' hI hS hP hgs hns hnd hrw h
    exact muE_step w hC hI hS hP.1 (hgs.2.2.en tr (by simp)) hns hnd h hrw
  rw_keep := by
    intro s a R r s' r' hI _ _ hgs hrw h
    exact rwE_keep w hI hgs.2.2 hrw h
  rw_timed := fun hI hS hP htt hne => rwE_timed w hC hI hS hP.1 htt hne
  q_step := by
    intro s tr R r s' r' hI hS hP hgs hns h hQ
    exact hqs hI hS hP (hgs.2.2.en tr (by simp)) hns h hQ
  q_jump := fun hI hS hP hQ h0 hf => hqj hI hS hP hQ h0 hf

/-- a busy AGV whose occupation ends after now waits for the end of the processing record of its job:
every other busy AGV is due -/
theorem CInvE.waits_of_ahead {s : State} (hP : CInvE inst s) {x : TransportState} (hx : x ∈ s.transports)
    (hb : x.st ≠ .idle) {c : Int} (hc : x.occ = .at c) (hlt : s.time < c) :
    x.st = .waitingpickup ∧
      ∃ j ∈ s.jobs, x.job = some j.id ∧ j.running = true ∧ ∃ o ∈ j.ops, o.st = .processing ∧ o.stop = some c := by
  have hwait : x.st = .waitingpickup := by
    cases hst : x.st with
    | idle => exact absurd hst hb
    | working => exact absurd hst (hP.noWorking x hx)
    | waitingpickup => rfl
    | pickup => exact absurd (hP.agvDue x hx (Or.inl hst) c hc) (Int.not_le.mpr hlt)
    | transit => exact absurd (hP.agvDue x hx (Or.inr (Or.inl hst)) c hc) (Int.not_le.mpr hlt)
    | outage => exact absurd (hP.agvDue x hx (Or.inr (Or.inr hst)) c hc) (Int.not_le.mpr hlt)
  obtain ⟨j, hj, hjob, _⟩ := hP.claimed x hx (Or.inr hwait)
  rcases hP.waitDue x hx hwait j hj hjob c hc with h1 | ⟨o, ho, hst, hstop⟩
  · exact absurd h1 (Int.not_le.mpr hlt)
  · refine ⟨hwait, j, hj, hjob, ?_, o, ho, hst, hstop⟩
    unfold JobState.running
    exact List.any_eq_true.mpr ⟨o, ho, by simp [hst]⟩

theorem settled_of_quiet {s : State} (hS : SchedInv s) (hB : BundleE inst s) (hq : Quiet inst s) :
    (∀ t ∈ s.transports, (t.st = .idle ∧ t.job = none ∧ t.buffer.store = []) ∨
       (t.st = .waitingpickup ∧ t.buffer.store = [] ∧ ∃ j ∈ s.jobs, t.job = some j.id ∧ j.running = true ∧
          ∃ c, t.occ = .at c ∧ s.time < c ∧ ∃ o ∈ j.ops, o.st = .processing ∧ o.stop = some c)) ∧
    (∀ m ∈ s.machines, m.st = .idle ∨ m.st = .working) := by
  refine ⟨fun t ht => ?_, machines_settled hS hq hB.cinv.machDue⟩
  by_cases hi : t.st = .idle
  · exact Or.inl ⟨hi, hS.freeNoClaim t ht (Or.inl hi), hB.full.agv.empty t ht (by rw [hi]; simp)⟩
  · obtain ⟨c, hc⟩ := hB.cinv.agvAt t ht hi
    have hlt := hq.transport ht hi hc
    obtain ⟨hwait, j, hj, hjob, hrun, hrec⟩ := hB.cinv.waits_of_ahead ht hi hc hlt
    exact Or.inr ⟨hwait, hB.full.agv.empty t ht (by rw [hwait]; simp), j, hj, hjob, hrun, c, hc, hlt, hrec⟩

theorem busy_waits_of_jump {s : State} (hS : SchedInv s) (hP : CInvE inst s) {t : Int} (hf : forceJump s = .ok t)
    (hlt : s.time < t) :
    ∀ x ∈ s.transports, x.st ≠ .idle → ∃ j ∈ s.jobs, x.job = some j.id ∧ j.running = true := by
  intro x hx hb
  obtain ⟨c, hc⟩ := hP.agvAt x hx hb
  obtain ⟨_, _, h3, _⟩ := c12_jump_exact hS hf
  have hct := h3 x hx hb c hc
  obtain ⟨_, j, hj, hjob, hrun, _⟩ := hP.waits_of_ahead hx hb hc (by omega)
  exact ⟨j, hj, hjob, hrun⟩

theorem cpassE_total (w : WF inst) (nn : NonNeg orc inst) (hC : Classic inst)
    (hcount : inst.jobs.length ≤ inst.transports.length) {S : Nat → Nat → Int} (hT : TargetOK inst S) :
    TotalHypR (CPassE orc inst cfg w nn hC) muE (6 * inst.machines.length + 11 * inst.transports.length)
      (SyncL inst S) RWE := by
  apply cpassE_total_of w nn hC (SyncL inst S)
  · intro s tr r s' r' hI hS hP hE hns h hQ
    exact sync_stepE w hI hS hP.1 hns h hQ
  · intro s t hI hS hP hQ h0 hf
    by_cases hlt : s.time < t
    · have hbusy := busy_waits_of_jump hS hP.1.cinv hf hlt
      exact sync_jumpE w hC hT hI hS hP.2 hP.1.cinv hQ
        (fun j hj hnr o ho hm => by
          exfalso
          obtain ⟨m, hm', hid⟩ := op_machine_mem w hI.shape hj (List.mem_of_find?_eq_some ho)
          exact dead_point_busy_early w hC hI hS hP.1.full hcount hbusy h0 j hj hnr o ho m hm' hid (hm m hm' hid)) hf
    · have hge := (c12_jump_exact hS hf).1
      have : t = s.time := by omega
      subst this
      exact hQ

theorem cpassE_total_true (w : WF inst) (nn : NonNeg orc inst) (hC : Classic inst) :
    TotalHypR (CPassE orc inst cfg w nn hC) muE (6 * inst.machines.length + 11 * inst.transports.length)
      (fun _ => True) RWE :=
  cpassE_total_of w nn hC (fun _ => True) (fun _ _ _ _ _ _ _ => trivial) (fun _ _ _ _ _ _ => trivial)

end JSL
