import JSL.Inv.StoreStep
import JSL.Inv.EnvReach

/-!
# Release discipline: the batch guards

`PickGS`  – every pickup (→ TRANSIT) still waiting in the batch is for a job that sits in a
            post-buffer / stand-alone buffer and, when that buffer releases at the front
            (FIFO, DUMMY), is its first element; no two pickups of the batch are for the same job.
`StartGS` – every machine start (→ SETUP) still waiting in the batch is, for an idle machine, for
            the job `get_next_job_from_buffer` names (or the pre-buffer is a FLEX buffer); everything
            in front of it in the batch is a machine transition of another machine.

Both are kept by every applied transition, and hold for the batches the code builds.
-/

namespace JSL

variable {orc : Oracle} {inst : Instance}

/-- some configuration of the buffer with id `i` releases at the front (FIFO or DUMMY) -/
def FrontAt (inst : Instance) (i : Nat) : Prop := ∃ bc ∈ allBufCfgs inst, bc.id = i ∧ releaseSel bc.type = .front

/-- some configuration of the buffer with id `i` releases at the back (LIFO) -/
def BackAt (inst : Instance) (i : Nat) : Prop := ∃ bc ∈ allBufCfgs inst, bc.id = i ∧ releaseSel bc.type = .back

structure PickGS (inst : Instance) (s : State) (L : List Transition) : Prop where
  front : ∀ tr ∈ L, tr.new = .t .transit → ∀ x, tr.job = some x →
    ∃ i, pickupBufferKind inst i = true ∧ x ∈ storeAt s i ∧ (FrontAt inst i → (storeAt s i).head? = some x)
  distinct : L.Pairwise (fun a b => a.new = .t .transit → b.new = .t .transit → ∀ x, a.job = some x → b.job ≠ some x)

structure StartGS (inst : Instance) (s : State) (L : List Transition) : Prop where
  next : ∀ tr ∈ L, tr.new = .m .setup → ∀ m ∈ s.machines, tr.comp = .m m.id → m.st = .idle →
    ∀ x, tr.job = some x → x ∈ m.pre.store → ∀ bc ∈ allBufCfgs inst, bc.id = m.pre.id →
      nextJobFromBuffer m.pre bc = some x ∨ releaseSel bc.type = .none
  order : L.Pairwise (fun a b => b.new = .m .setup → (∃ mid, a.comp = .m mid) ∧ a.comp ≠ b.comp)

theorem PickGS.tail {s : State} {tr : Transition} {R : List Transition} (h : PickGS inst s (tr :: R)) : PickGS inst s R :=
  ⟨fun t ht => h.front t (by simp [ht]), (List.pairwise_cons.mp h.distinct).2⟩

theorem StartGS.tail {s : State} {tr : Transition} {R : List Transition} (h : StartGS inst s (tr :: R)) : StartGS inst s R :=
  ⟨fun t ht => h.next t (by simp [ht]), (List.pairwise_cons.mp h.order).2⟩

theorem PickGS.nil {s : State} : PickGS inst s [] := ⟨fun _ h => (by cases h), List.Pairwise.nil⟩
theorem StartGS.nil {s : State} : StartGS inst s [] := ⟨fun _ h => (by cases h), List.Pairwise.nil⟩

theorem kind_cases {s : State} (hs : Shape inst s) {i : Nat} (h : pickupBufferKind inst i = true) :
    (∃ b ∈ s.buffers, b.id = i) ∨ (∃ m ∈ s.machines, m.post.id = i) := by
  unfold pickupBufferKind at h
  simp only [Bool.or_eq_true, List.contains_iff_mem] at h
  rcases h with hk | hk
  · rw [← hs.buffers] at hk
    obtain ⟨b, hb, e⟩ := List.mem_map.mp hk
    exact Or.inl ⟨b, hb, e⟩
  · rw [← hs.postIds] at hk
    obtain ⟨m, hm, e⟩ := List.mem_map.mp hk
    exact Or.inr ⟨m, hm, e⟩

theorem not_kind_machine (w : WF inst) {s : State} (hs : Shape inst s) {m : MachineState} (hm : m ∈ s.machines) :
    pickupBufferKind inst m.pre.id ≠ true ∧ pickupBufferKind inst m.buffer.id ≠ true := by
  constructor
  · intro h
    rcases kind_cases hs h with ⟨b, hb, e⟩ | ⟨m2, hm2, e⟩
    · exact ((ids_parts hs w).1 b hb m hm).1 e
    · by_cases e2 : m.id = m2.id
      · have : m = m2 := eq_of_mem_of_key_eq (key := fun (y : MachineState) => y.id) (hs.machNodup w) hm hm2 e2
        subst this; exact (machine_buf_ids_ne hs w hm).2.1 e.symm
      · exact machines_bufs_ne hs w hm hm2 e2 _ (by simp) _ (by simp) e.symm
  · intro h
    rcases kind_cases hs h with ⟨b, hb, e⟩ | ⟨m2, hm2, e⟩
    · exact ((ids_parts hs w).1 b hb m hm).2.1 e
    · exact (internal_ne_pre_post hs w hm hm2).2 e.symm

theorem not_kind_transport (w : WF inst) {s : State} (hs : Shape inst s) {t : TransportState} (ht : t ∈ s.transports) :
    pickupBufferKind inst t.buffer.id ≠ true := by
  intro h
  rcases kind_cases hs h with ⟨b, hb, e⟩ | ⟨m2, hm2, e⟩
  · exact (ids_parts hs w).2.1 b hb t ht e
  · exact ((ids_parts hs w).2.2 m2 hm2 t ht).2.2 e

theorem headq_filter_ne {l : List Nat} {x y : Nat} (hne : x ≠ y) (h : l.head? = some x) :
    (l.filter (· != y)).head? = some x := by
  cases l with
  | nil => simp at h
  | cons a as =>
    simp at h; subst h
    simp [hne]

theorem headq_append_keep {l : List Nat} {x y : Nat} (h : l.head? = some x) : (l ++ [y]).head? = some x := by
  cases l with
  | nil => simp at h
  | cons a as => simpa using h

theorem filter_head_nodup {l : List Nat} {x : Nat} (hnd : l.Nodup) (h : l.head? = some x) :
    l = x :: l.filter (· != x) := by
  cases l with
  | nil => simp at h
  | cons a as =>
    simp at h; subst h
    have hnot : a ∉ as := (List.nodup_cons.mp hnd).1
    have : as.filter (· != a) = as := by
      apply List.filter_eq_self.mpr
      intro b hb
      have : b ≠ a := fun e => hnot (e ▸ hb)
      simpa using this
    simp [this]

theorem MovedS.keep {s s' : State} {y a c : Nat} (h : MovedS s s' y a c) {x i : Nat} (hne : x ≠ y)
    (hx : x ∈ storeAt s i) :
    x ∈ storeAt s' i ∧ ((storeAt s i).head? = some x → (storeAt s' i).head? = some x) := by
  by_cases hia : i = a
  · subst hia
    rw [h.storeA]
    exact ⟨by simp [hx, hne], headq_filter_ne hne⟩
  · by_cases hic : i = c
    · subst hic
      rw [h.storeB]
      exact ⟨by simp [hx], headq_append_keep⟩
    · rw [h.storeO i hia hic]
      exact ⟨hx, fun e => e⟩

theorem pick_step (w : WF inst) {s s' : State} {tr0 : Transition} {R : List Transition} (hI : StructInv inst s)
    (he : StoreEff s s' tr0) (hgs : PickGS inst s (tr0 :: R)) : PickGS inst s' R := by
  have hs := hI.shape
  have hjn := hs.jobsNodup w
  refine ⟨?_, (List.pairwise_cons.mp hgs.distinct).2⟩
  intro b hb hn x hx
  obtain ⟨i, hk, hin, hfront⟩ := hgs.front b (by simp [hb]) hn x hx
  have other : ∀ {y a c : Nat}, MovedS s s' y a c → pickupBufferKind inst a ≠ true → x ≠ y := by
    intro y a c hmv hnk e
    subst e
    have : a = i := unique_store hI.cons hjn hmv.was hin
    exact hnk (this ▸ hk)
  have fin : ∀ {y a c : Nat}, MovedS s s' y a c → x ≠ y →
      ∃ i, pickupBufferKind inst i = true ∧ x ∈ storeAt s' i ∧ (FrontAt inst i → (storeAt s' i).head? = some x) := by
    intro y a c hmv hne
    have := hmv.keep hne hin
    exact ⟨i, hk, this.1, fun hf => this.2 (hfront hf)⟩
  cases he with
  | same _ _ hst => exact ⟨i, hk, by rw [hst]; exact hin, fun hf => by rw [hst]; exact hfront hf⟩
  | start m y hm _ _ _ _ _ hmv => exact fin hmv (other hmv (not_kind_machine w hs hm).1)
  | finish m y hm _ _ _ hmv => exact fin hmv (other hmv (not_kind_machine w hs hm).2)
  | deliver t y c ht _ _ _ hmv => exact fin hmv (other hmv (not_kind_transport w hs ht))
  | pickup t y a _ _ hn0 hy hmv =>
    refine fin hmv ?_
    intro e
    subst e
    exact (List.pairwise_cons.mp hgs.distinct).1 b hb hn0 hn x hy hx

theorem start_step {s s' : State} {tr0 : Transition} {R : List Transition}
    (hmach : ∀ mid, tr0.comp = .m mid → ∀ m' ∈ s'.machines, m'.id ≠ mid → m' ∈ s.machines)
    (hgs : StartGS inst s (tr0 :: R)) : StartGS inst s' R := by
  refine ⟨?_, (List.pairwise_cons.mp hgs.order).2⟩
  intro b hb hn m' hm' hc hidle x hx hin bc hbc hid
  obtain ⟨⟨mid, hc0⟩, hne⟩ := (List.pairwise_cons.mp hgs.order).1 b hb hn
  have hm : m' ∈ s.machines := by
    apply hmach mid hc0 m' hm'
    intro e
    apply hne
    rw [hc0, hc, e]
  exact hgs.next b (by simp [hb]) hn m' hm hc hidle x hx hin bc hbc hid

/-- **AGV side.**  A pickup that is applied takes its job out of a post-buffer or stand-alone
buffer; if that buffer is FIFO or DUMMY the job was its first element. -/
theorem pick_rel (w : WF inst) {s s' : State} {tr : Transition} {R : List Transition} (hI : StructInv inst s)
    (he : StoreEff s s' tr) (hgs : PickGS inst s (tr :: R)) (hn : tr.new = .t .transit) :
    ∃ t ∈ s.transports, ∃ x i, tr.comp = .t t.id ∧ tr.job = some x ∧ pickupBufferKind inst i = true ∧
      MovedS s s' x i t.buffer.id ∧ (FrontAt inst i → storeAt s i = x :: storeAt s' i) := by
  have hjn := hI.shape.jobsNodup w
  cases he with
  | same _ h2 _ => exact absurd hn h2
  | start m y _ _ h3 _ _ _ _ => rw [hn] at h3; cases h3
  | finish m y _ _ h3 _ _ => rw [hn] at h3; cases h3
  | deliver t y c _ _ h3 _ _ => rw [hn] at h3; cases h3
  | pickup t y a ht hc _ hy hmv =>
    obtain ⟨i, hk, hin, hfront⟩ := hgs.front tr (by simp) hn y hy
    have : a = i := unique_store hI.cons hjn hmv.was hin
    subst this
    refine ⟨t, ht, y, a, hc, hy, hk, hmv, ?_⟩
    intro hf
    rw [hmv.storeA]
    exact filter_head_nodup (hI.cons.nodup a) (hfront hf)

/-- **Machine side.**  A machine start that is applied takes its job out of the pre-buffer of the
idle machine; the job is the one `get_next_job_from_buffer` names, unless the buffer is FLEX. -/
theorem start_rel {s s' : State} {tr : Transition} {R : List Transition}
    (he : StoreEff s s' tr) (hgs : StartGS inst s (tr :: R)) (hn : tr.new = .m .setup) :
    ∃ m ∈ s.machines, ∃ x, tr.comp = .m m.id ∧ m.st = .idle ∧ tr.job = some x ∧ x ∈ m.pre.store ∧
      MovedS s s' x m.pre.id m.buffer.id ∧
      ∀ bc ∈ allBufCfgs inst, bc.id = m.pre.id → nextJobFromBuffer m.pre bc = some x ∨ releaseSel bc.type = .none := by
  cases he with
  | same h1 _ _ => exact absurd hn h1
  | finish m y _ _ h3 _ _ => rw [hn] at h3; cases h3
  | deliver t y c _ _ h3 _ _ => rw [hn] at h3; cases h3
  | pickup t y a _ _ h3 _ _ => rw [hn] at h3; cases h3
  | start m y hm hc _ hidle hy hin hmv =>
    exact ⟨m, hm, y, hc, hidle, hy, hin, hmv, hgs.next tr (by simp) hn m hm hc hidle y hy hin⟩

theorem ready_front (w : WF inst) {s : State} {j : JobState} (h : readyForPickup inst s j = .ok true) :
    pickupBufferKind inst j.loc = true ∧ j.id ∈ storeAt s j.loc ∧
      (FrontAt inst j.loc → (storeAt s j.loc).head? = some j.id) := by
  obtain ⟨bs, bc, p, hbs, hbc, hidx, hk, hpos⟩ := readyForPickup_ok h
  have hbs' := getBufState_ok hbs
  have hbc' := getBufCfg_ok hbc
  have hst : storeAt s j.loc = bs.store := by
    unfold getBufState findE at hbs
    unfold storeAt
    cases hf : (allBufStates s).find? (fun b => b.id == j.loc) with
    | none => simp [hf] at hbs
    | some b => simp [hf] at hbs; subst hbs; rfl
  rw [hst]
  obtain ⟨hlt, hel, _⟩ := List.idxOf?_eq_some_iff.mp hidx
  refine ⟨by rw [← hbs'.2]; exact hk, by rw [← hel]; exact List.getElem_mem hlt, ?_⟩
  rintro ⟨bc2, hbc2, hid2, hsel⟩
  have : bc2 = bc := eq_of_mem_of_key_eq (key := fun (y : BufCfg) => y.id) w.bufNodup hbc2 hbc'.1 (by rw [hid2, hbc'.2])
  subst this
  have hp0 : p = 0 := by
    unfold posOk at hpos
    split at hpos
    · simp at hpos
    · revert hsel hpos; cases bc2.type <;> simp [releaseSel]
  subst hp0
  cases hl : bs.store with
  | nil => rw [hl] at hlt; simp at hlt
  | cons a as => simp [hl] at hel; simp [hel]

theorem timed_transit_owner {s : State} (hS : SchedInv s) {tt : List Transition}
    (htt : timedTransitions inst s = .ok tt) (tr : Transition) (htr : tr ∈ tt) (hn : tr.new = .t .transit) :
    ∃ t ∈ s.transports, tr.comp = .t t.id ∧ tr.job = t.job ∧
      ∃ j ∈ s.jobs, tr.job = some j.id ∧ readyForPickup inst s j = .ok true := by
  rcases (mem_timedTransitions htt tr).mp htr with ⟨m, hm, e⟩ | ⟨t, ht, e⟩
  · exfalso
    obtain ⟨⟨m', _, _, hcase⟩, _⟩ := timedMachine_spec (inst := inst) (s := s) hm e
    rcases hcase with ⟨ns, _, hn', _⟩ | ⟨_, hn', _⟩ <;> rw [hn] at hn' <;> cases hn'
  · have h2 := (timedTransport_spec hS ht e).2 hn
    rcases timedTransport_shape hS ht e with e' | ⟨hc, hj⟩
    · rw [hn] at e'; cases e'
    · exact ⟨t, ht, hc, hj hn, h2⟩

theorem timed_pick (w : WF inst) {s : State} (hS : SchedInv s) (hA : AgvInv s)
    {tt tele : List Transition} (htt : timedTransitions inst s = .ok tt)
    (htele : ∀ tr ∈ tele, tr.new = .t .working) (hord : RouteGS s (tt ++ tele)) : PickGS inst s (tt ++ tele) := by
  have owner : ∀ tr ∈ tt ++ tele, tr.new = .t .transit → ∃ t ∈ s.transports, tr.comp = .t t.id ∧ tr.job = t.job ∧
      ∃ j ∈ s.jobs, tr.job = some j.id ∧ readyForPickup inst s j = .ok true := by
    intro tr htr hn
    rcases List.mem_append.mp htr with h | h
    · exact timed_transit_owner hS htt tr h hn
    · rw [htele tr h] at hn; cases hn
  constructor
  · intro tr htr hn x hx
    obtain ⟨_, _, _, _, j, _, hj, hrdy⟩ := owner tr htr hn
    have : x = j.id := by rw [hx] at hj; simpa using hj
    subst this
    have := ready_front w hrdy
    exact ⟨j.loc, this.1, this.2.1, this.2.2⟩
  · apply hord.order.imp_of_mem
    intro a b ha hb hab hna hnb x hxa hxb
    obtain ⟨ta, hta, hca, hja, _⟩ := owner a ha hna
    obtain ⟨tb, htb, hcb, hjb, _⟩ := owner b hb hnb
    have hid : ta.id = tb.id := hA.unique ta hta tb htb x (by rw [← hja]; exact hxa) (by rw [← hjb]; exact hxb)
    have := hab hnb (by rw [hca, hcb, hid])
    rw [hna] at this; cases this

/-- what `create_timed_machine_transitions` produces when it starts a machine -/
theorem timedMachine_setup {now : Int} {m : MachineState} {tr : Transition}
    (h : timedMachine inst now m = .ok (some tr)) (hn : tr.new = .m .setup) :
    tr.comp = .m m.id ∧ ∃ pc x, getBufCfg (allBufCfgs inst) m.pre.id = .ok pc ∧
      nextJobFromBuffer m.pre pc = some x ∧ tr.job = some x := by
  obtain ⟨hc, ⟨ns, j, rest, _, hns, _, hnew, _⟩ | ⟨_, _, pc, x, hpc, hnx, hj⟩⟩ := timedMachine_ok h
  · exfalso
    rw [hnew] at hn
    cases hn
    revert hns
    cases m.st <;> simp [machineTimedNext]
  · exact ⟨hc, pc, x, hpc, hnx, hj⟩

theorem timed_start (w : WF inst) {s : State} (hI : StructInv inst s)
    {tt tele : List Transition} (htt : timedTransitions inst s = .ok tt)
    (hS : SchedInv s) (htele : ∀ tr ∈ tele, tr.new = .t .working) : StartGS inst s (tt ++ tele) := by
  have hs := hI.shape
  obtain ⟨ra, rb, hra, hrb, rfl⟩ := timedTransitions_ok htt
  have hA := timedMachines_spec (inst := inst) s.machines (fun m hm => hm) (hs.machNodup w) ra hra
  have hB := timedTransports_spec (inst := inst) hS s.transports (fun t ht => ht) rb hrb
  have hT : ∀ tr ∈ rb.filterMap id ++ tele, tr.new ≠ .m .setup := by
    intro tr htr hn
    rcases List.mem_append.mp htr with h | h
    · obtain ⟨⟨ns, e⟩, _⟩ := hB tr h; rw [e] at hn; cases hn
    · rw [htele tr h] at hn; cases hn
  have hMc : ∀ tr ∈ ra.filterMap id, ∃ mid, tr.comp = .m mid := by
    intro tr htr
    obtain ⟨_, y, _, h2⟩ := hA.1 tr htr
    exact ⟨y.id, h2⟩
  rw [List.append_assoc]
  constructor
  · intro tr htr hn m hm hc _ x hx _ bc hbc hid
    rcases List.mem_append.mp htr with h | h
    · obtain ⟨o, ho, e⟩ := List.mem_filterMap.mp h
      simp at e; subst e
      obtain ⟨m0, hm0, e⟩ := (mapM_ok_mem hra).2 _ ho
      obtain ⟨hc0, pc, x0, hpc, hnx, hj⟩ := timedMachine_setup e hn
      have : m0 = m := by
        apply eq_of_mem_of_key_eq (key := fun (y : MachineState) => y.id) (hs.machNodup w) hm0 hm
        rw [hc0] at hc; simpa using hc
      subst this
      have hpc' := getBufCfg_ok hpc
      have : pc = bc := eq_of_mem_of_key_eq (key := fun (y : BufCfg) => y.id) w.bufNodup hpc'.1 hbc (by rw [hpc'.2, hid])
      subst this
      left
      rw [hnx]
      rw [hx] at hj; simpa using hj.symm
    · exact absurd hn (hT tr h)
  · rw [List.pairwise_append]
    refine ⟨?_, ?_, ?_⟩
    · apply hA.2.imp_of_mem
      intro a b ha _ hne _
      exact ⟨hMc a ha, hne⟩
    · apply List.pairwise_of_forall_mem_list
      intro a _ b hb hn
      exact absurd hn (hT b hb)
    · intro a _ b hb hn
      exact absurd hn (hT b hb)

/-- when nothing is due, the pre-buffer of an idle machine that holds a job releases by no
discipline (it is FLEX): otherwise `create_timed_machine_transitions` would have started the machine -/
theorem quiet_releaseSel_none (w : WF inst) {s : State} (hq : Quiet inst s) {m : MachineState} (hm : m ∈ s.machines)
    (hidle : m.st = .idle) {x : Nat} (hin : x ∈ m.pre.store) {bc : BufCfg} (hbc : bc ∈ allBufCfgs inst)
    (hid : bc.id = m.pre.id) : releaseSel bc.type = .none := by
  rcases timedMachine_none (hq.parts.1 m hm) with ⟨hb, _⟩ | ⟨_, hnil | ⟨pc, hpc, hnx⟩⟩
  · exact absurd hidle hb
  · rw [hnil] at hin; cases hin
  · have hpc' := getBufCfg_ok hpc
    have : pc = bc := eq_of_mem_of_key_eq (key := fun (y : BufCfg) => y.id) w.bufNodup hpc'.1 hbc (by rw [hpc'.2, hid])
    subst this
    unfold nextJobFromBuffer at hnx
    cases hsel : releaseSel pc.type with
    | none => rfl
    | front =>
      exfalso
      simp only [hsel] at hnx
      cases hl : m.pre.store with
      | nil => rw [hl] at hin; cases hin
      | cons a as => rw [hl] at hnx; simp at hnx
    | back =>
      exfalso
      simp only [hsel] at hnx
      cases hl : m.pre.store with
      | nil => rw [hl] at hin; cases hin
      | cons a as => rw [hl] at hnx; simp at hnx

theorem quiet_start (w : WF inst) {s : State} (hq : Quiet inst s) (tr : Transition) : StartGS inst s [tr] :=
  ⟨fun _ _ _ _ hm _ hidle _ _ hin _ hbc hid => Or.inr (quiet_releaseSel_none w hq hm hidle hin hbc hid),
    List.pairwise_singleton _ _⟩

theorem pick_of_no_transit {s : State} {L : List Transition} (h : ∀ tr ∈ L, tr.new ≠ .t .transit) : PickGS inst s L :=
  ⟨fun tr htr hn => absurd hn (h tr htr), List.pairwise_of_forall_mem_list (fun a ha _ _ hna => absurd hna (h a ha))⟩

end JSL
