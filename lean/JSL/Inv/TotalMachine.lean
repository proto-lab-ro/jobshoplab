import JSL.Inv.TotalOut

/-!
# C05 for a class of instances: validation and the four machine handlers never raise

`transitionValid_total`: `is_transition_valid` returns for every transition that is well aimed
(`Aim`) at a state satisfying the invariants `TotInv`.
`machine_applies`: a validated, well-aimed machine transition is applied without an exception in an
instance of the class `TotClassP`.
-/

namespace JSL

variable {inst : Instance}

/- helper lemmas (in a namespace of their own, so that they cannot clash with the helpers of the
sibling files) -/
namespace TotalMachine

theorem job_of_stored {s : State} (c : ConservedV s) {i x : Nat} (h : x ∈ storeAt s i) :
    ∃ j ∈ s.jobs, j.id = x ∧ j.loc = i := by
  obtain ⟨j, hj, e⟩ := List.mem_map.mp (c.stored i x h)
  simp only [Prod.mk.injEq] at e
  exact ⟨j, hj, e.1, e.2⟩

theorem nnd_of_op {j : JobState} {op : OpState} (ho : op ∈ j.ops) (hst : op.st ≠ .done) :
    ∃ o, j.nextNotDone = .ok o := by
  unfold JobState.nextNotDone JobState.nextNotDone?
  cases hf : j.ops.find? (fun o => o.st != .done) with
  | none =>
    have := List.find?_eq_none.mp hf op ho
    simp [hst] at this
  | some o => exact ⟨o, rfl⟩

theorem nnd_of_nextIdle {j : JobState} {op : OpState} (h : j.nextIdle? = some op) :
    ∃ o, j.nextNotDone = .ok o := by
  obtain ⟨ho, hp⟩ := find?_mem_ops h
  apply nnd_of_op ho
  intro e
  simp [e] at hp

theorem nnd_of_processing {j : JobState} {op : OpState} (h : j.processing? = some op) :
    ∃ o, j.nextNotDone = .ok o := by
  obtain ⟨ho, hp⟩ := find?_mem_ops h
  apply nnd_of_op ho
  intro e
  simp [e] at hp

theorem machineJobCheck_total {s : State} (m : MachineState) {x : Nat} {j : JobState}
    (hg : getJob s.jobs x = .ok j) (hn : ∃ o, j.nextNotDone = .ok o) :
    ∃ b, machineJobCheck s m (some x) = .ok b := by
  obtain ⟨o, ho⟩ := hn
  simp only [machineJobCheck, hg, ho, except_bind_ok, except_pure]
  exact ⟨_, rfl⟩

theorem machineJobCheck_true {s : State} {m : MachineState} {x : Nat}
    (h : machineJobCheck s m (some x) = .ok true) :
    ∃ j, getJob s.jobs x = .ok j ∧ ∃ o, j.nextNotDone = .ok o ∧ o.machine = m.id := by
  unfold machineJobCheck at h
  simp only at h
  obtain ⟨j, hj, h⟩ := except_bind_eq_ok h
  obtain ⟨o, ho, h⟩ := except_bind_eq_ok h
  refine ⟨j, hj, o, ho, ?_⟩
  simpa using h

theorem machineTransitionValid_eq (s : State) (m : MachineState) {tr : Transition} {ns : MSt} (hn : tr.new = .m ns) :
    machineTransitionValid s m tr =
      match machineHandler m.st ns with
      | some .idleToSetup => machineJobCheck s m tr.job
      | some .setupToWorking => machineJobCheck s m tr.job
      | some .workingToOutage => .ok true
      | some .outageToIdle => .ok true
      | none => .ok false := by
  unfold machineTransitionValid
  rw [hn]
  cases m.st <;> cases ns <;> rfl

end TotalMachine

open TotalMachine

theorem transitionValid_total (w : WF inst) {s : State} (hV : TotInv inst s) {tr : Transition}
    (ha : Aim inst s tr) : ∃ b, transitionValid s tr = .ok b := by
  have hs := hV.struct.shape
  cases hc : tr.comp with
  | b bid => exact absurd hc (ha.notBuf bid)
  | t tid =>
    obtain ⟨t, ht, hid, _⟩ := ha.agv tid hc
    have hgt := getTransport_of_mem (hs.trNodup w) ht
    rw [hid] at hgt
    unfold transitionValid
    simp only [hc, hgt, except_bind_ok, except_pure]
    exact ⟨_, rfl⟩
  | m mid =>
    obtain ⟨m, hm, hid, ns, x, hnew, hjob, hpre, hbuf⟩ := ha.mach mid hc
    have hgm := getMachine_of_mem (hs.machNodup w) hm
    rw [hid] at hgm
    unfold transitionValid
    simp only [hc, hgm, except_bind_ok]
    rw [machineTransitionValid_eq s m hnew, hjob]
    cases hh : machineHandler m.st ns with
    | none => exact ⟨_, rfl⟩
    | some hd =>
      have hi := machineHandler_inv hh
      cases hd with
      | workingToOutage => exact ⟨_, rfl⟩
      | outageToIdle => exact ⟨_, rfl⟩
      | idleToSetup =>
        -- a start of the setup: the job waits in the pre-buffer for an operation on this machine
        have hx := hpre hi.2
        have hx' : x ∈ storeAt s m.pre.id := by rw [(pre_storeAt w hs hm).1]; exact hx
        obtain ⟨j, hj, hjx, _⟩ := job_of_stored hV.struct.cons hx'
        have hg : getJob s.jobs x = .ok j := by
          rw [← hjx]; exact getJob_of_mem (hs.jobsNodup w) hj
        obtain ⟨op, hop, _⟩ := hV.full.route.preNext m hm x hx j hj hjx
        exact machineJobCheck_total m hg (nnd_of_nextIdle hop)
      | setupToWorking =>
        -- a start of the processing: the machine is busy with the job
        have hx := hbuf (Or.inl hi.2)
        obtain ⟨j, hj, hstore, op, hop, _⟩ := hV.sched.busyHolds m hm (by rw [hi.1]; decide)
        rw [hstore] at hx
        have hjx : x = j.id := by simpa using hx
        have hg : getJob s.jobs x = .ok j := by
          rw [hjx]; exact getJob_of_mem (hs.jobsNodup w) hj
        exact machineJobCheck_total m hg (nnd_of_processing hop)

namespace TotalMachine

theorem idleToSetup_total (w : WF inst) (C : TotClassP inst) {s : State} (hV : TotInv inst s)
    {m : MachineState} (hm : m ∈ s.machines) (hst : m.st = .idle) {tr : Transition} {x : Nat}
    (hjob : tr.job = some x) (hin : x ∈ m.pre.store) (hchk : machineJobCheck s m (some x) = .ok true)
    (orc : Oracle) (r : Rng) : ∃ out, handleMachineIdleToSetup orc inst s r tr m = .ok out := by
  obtain ⟨j, hgj, o, hnn, hom⟩ := machineJobCheck_true hchk
  obtain ⟨hj, hjx⟩ := getJob_ok hgj
  have hin' : j.id ∈ m.pre.store := by rw [hjx]; exact hin
  obtain ⟨⟨j', m', r'⟩, hb⟩ := beginMachineSetup_total w hV.struct hV.sched C.tables hV.ready hj hnn hm hom.symm
    hin' hst orc s.time r
  have hcont : m.pre.store.contains j.id = true := List.contains_iff_mem.mpr hin'
  simp only [handleMachineIdleToSetup, hjob, except_pure, except_bind_ok, hgj, hcont, Bool.not_true,
    Bool.false_eq_true, if_false, hb]
  exact ⟨_, rfl⟩

theorem beginNextJobOnMachine_total (w : WF inst) {s : State} (hs : Shape inst s) {j : JobState}
    (hj : j ∈ s.jobs) {o : OpState} (hnn : j.nextNotDone = .ok o) (m : MachineState)
    (orc : Oracle) (now : Int) (r : Rng) : ∃ out, beginNextJobOnMachine orc inst now r j m = .ok out := by
  have ho : o ∈ j.ops := (find?_mem_ops (nextNotDone_ok hnn)).1
  obtain ⟨oc, hoc, _, _⟩ := getOpCfg_of_mem w hs hj ho
  unfold beginNextJobOnMachine
  simp only [hnn, hoc, except_bind_ok, except_pure]
  exact ⟨_, rfl⟩

theorem setupToWorking_totalT (w : WF inst) {s : State} (hI : StructInv inst s) (hS : SchedInv s)
    {m : MachineState} (hm : m ∈ s.machines) (hst : m.st = .setup) {tr : Transition} {x : Nat}
    (hjob : tr.job = some x) (hin : x ∈ m.buffer.store)
    (orc : Oracle) (r : Rng) : ∃ out, handleMachineSetupToWorking orc inst s r tr m = .ok out := by
  have hs := hI.shape
  obtain ⟨j, hj, hstore, op, hop, _⟩ := hS.busyHolds m hm (by rw [hst]; decide)
  have hjx : x = j.id := by rw [hstore] at hin; simpa using hin
  have hgj : getJob s.jobs x = .ok j := by rw [hjx]; exact getJob_of_mem (hs.jobsNodup w) hj
  obtain ⟨o, hnn⟩ := nnd_of_processing hop
  obtain ⟨⟨j', m', r'⟩, hb⟩ := beginNextJobOnMachine_total w hs hj hnn m orc s.time r
  have hcont : m.buffer.store.contains j.id = true := by rw [hstore]; simp
  simp only [handleMachineSetupToWorking, hjob, except_pure, except_bind_ok, hgj, hcont, Bool.not_true,
    Bool.false_eq_true, if_false, hb]
  exact ⟨_, rfl⟩

theorem workingToOutage_totalT (w : WF inst) {s : State} (hI : StructInv inst s) (hS : SchedInv s)
    {m : MachineState} (hm : m ∈ s.machines) (hst : m.st = .working) {tr : Transition} {x : Nat}
    (hjob : tr.job = some x) (hin : x ∈ m.buffer.store) (orc : Oracle) (r : Rng)
    (hsample : ∀ mc ∈ inst.machines, mc.id = m.id → ∃ o, newOutageStates orc s.time m.outages mc.outages r = .ok o) :
    ∃ out, handleMachineWorkingToOutage orc inst s r tr m = .ok out := by
  have hs := hI.shape
  obtain ⟨mc, hmc, hmcm, hmcid⟩ := getMachineCfg_of_mem w hs hm
  obtain ⟨⟨outs, r1⟩, hout⟩ := hsample mc hmcm hmcid
  obtain ⟨j, hj, hstore, op, hop, _⟩ := hS.busyHolds m hm (by rw [hst]; decide)
  have hjx : x = j.id := by rw [hstore] at hin; simpa using hin
  have hgj : getJob s.jobs x = .ok j := by rw [hjx]; exact getJob_of_mem (hs.jobsNodup w) hj
  simp only [handleMachineWorkingToOutage, hmc, except_bind_ok, hout, hjob, getJobOpt, hgj,
    beginMachineOutage, hop, except_pure]
  exact ⟨_, rfl⟩

theorem completeActiveOperation_total (w : WF inst) (hR : Roomy inst) {s : State} (hI : StructInv inst s)
    (hS : SchedInv s) {m : MachineState} (hm : m ∈ s.machines) (hst : m.st = .outage) :
    ∃ out, completeActiveOperation inst s.time s.jobs m = .ok out := by
  have hs := hI.shape
  obtain ⟨j, hj, hstore, op, hop, _⟩ := hS.busyHolds m hm (by rw [hst]; decide)
  have hgj : getJob s.jobs j.id = .ok j := getJob_of_mem (hs.jobsNodup w) hj
  have hin : j.id ∈ m.buffer.store := by rw [hstore]; simp
  obtain ⟨buf', hbuf⟩ := removeFromBuffer_of_mem (b := m.buffer) (x := j.id) hin
  obtain ⟨mc, hmc, hmcm, hmcid⟩ := getMachineCfg_of_mem w hs hm
  have hloc : j.loc = m.buffer.id := by
    apply job_of_store hI.cons hj ?_ (hs.jobsNodup w)
    rw [(pre_storeAt w hs hm).2]; exact hin
  have hne : j.loc ≠ m.post.id := by
    rw [hloc]; exact (machine_buf_ids_ne hs w hm).2.2
  have hroom : (m.post.store.length : Int) < mc.post.cap := by
    have h1 := room_for w hI hj (mem_allBufs_of_machine hm).2.2 hne
    have h2 := hR.post mc hmcm
    omega
  obtain ⟨post', hpost⟩ := putInBuffer_of_room
    (j.replaceOp { op with stop := some s.time, st := .done }) hroom
  unfold completeActiveOperation
  simp only [hstore, except_pure, except_bind_ok, hgj, hop, replaceOp_id, hbuf, hmc, hpost]
  exact ⟨_, rfl⟩

theorem outageToIdle_totalT (w : WF inst) (hR : Roomy inst) {s : State} (hI : StructInv inst s) (hS : SchedInv s)
    {m : MachineState} (hm : m ∈ s.machines) (hst : m.st = .outage) (r : Rng) :
    ∃ out, handleMachineOutageToIdle inst s r m = .ok out := by
  obtain ⟨⟨j', m'⟩, hb⟩ := completeActiveOperation_total w hR hI hS hm hst
  simp only [handleMachineOutageToIdle, hb, except_bind_ok, except_pure]
  exact ⟨_, rfl⟩

end TotalMachine

theorem machine_applies (w : WF inst) (C : TotClassP inst) {s : State} (hV : TotInv inst s) {tr : Transition}
    (ha : Aim inst s tr) {mid : Nat} (hc : tr.comp = .m mid) (hv : transitionValid s tr = .ok true)
    (orc : Oracle) (r : Rng) : ∃ s' r', applyTransition orc inst s r tr = .ok (s', r') := by
  have hs := hV.struct.shape
  obtain ⟨m, hm, hid, ns, x, hnew, hjob, hpre, hbuf⟩ := ha.mach mid hc
  have hgm := getMachine_of_mem (hs.machNodup w) hm
  rw [hid] at hgm
  have hc' : tr = ⟨.m mid, .m ns, tr.job⟩ := by
    cases tr
    simp only at hc hnew
    rw [hc, hnew]
  have hv' := transitionValid_machine (hs.machNodup w) hm (by rw [hc, hid]) hv
  rw [machineTransitionValid_eq s m hnew] at hv'
  suffices key : ∃ out, applyTransition orc inst s r tr = .ok out by
    obtain ⟨⟨s', r'⟩, h⟩ := key
    exact ⟨s', r', h⟩
  rw [hc', applyTransition_on_machine hgm, ← hc']
  cases hh : machineHandler m.st ns with
  | none => rw [hh] at hv'; cases hv'
  | some hd =>
    rw [hh] at hv'
    have hi := machineHandler_inv hh
    cases hd with
    | idleToSetup => exact idleToSetup_total w C hV hm hi.1 hjob (hpre hi.2) (hjob ▸ hv') orc r
    | setupToWorking =>
      exact setupToWorking_totalT w hV.struct hV.sched hm hi.1 hjob (hbuf (Or.inl hi.2)) orc r
    | workingToOutage =>
      exact workingToOutage_totalT w hV.struct hV.sched hm hi.1 hjob (hbuf (Or.inr hi.2)) orc r fun mc hmc hid =>
        newOutageStates_total orc s.time (hV.out.machIdle m hm (by rw [hi.1]; decide)) mc.outages r
          (hV.outShape.mach m hm mc hmc hid)
    | outageToIdle => exact outageToIdle_totalT w C.roomy hV.struct hV.sched hm hi.1 r

end JSL
