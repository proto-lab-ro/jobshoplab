import JSL.Inv.ShiftDefs

/-!
# Translation of simulated time: `manipulate.py` and the machine handlers
-/

namespace JSL
variable (δ : Int)

theorem shiftOp_mk (job idx : Nat) (a b : Int) (mach : Nat) (st : OSt) :
    ({ job := job, idx := idx, start := some (a + δ), stop := some (b + δ), machine := mach, st := st } : OpState) =
      shiftOp δ { job := job, idx := idx, start := some a, stop := some b, machine := mach, st := st } := rfl

theorem beginMachineSetup_shift (orc : Oracle) (inst : Instance) (now : Int) (r : Rng) (j : JobState) (m : MachineState) :
    beginMachineSetup orc inst (now + δ) r (shiftJob δ j) (shiftMachine δ m) =
      (beginMachineSetup orc inst now r j m).map (fun p => (shiftJob δ p.1, shiftMachine δ p.2.1, p.2.2)) := by
  unfold beginMachineSetup
  refine bind_map_peel (shiftJob_nextNotDone δ j) fun op => bind_peel _ _ _ _ fun oc => bind_peel _ _ _ _ fun mc =>
    bind_peel _ _ _ _ fun p => ?_
  simp only [Int.add_right_comm now δ p.1, shiftOp_mk, shiftJob_replaceOp]
  exact bind_peel _ _ _ _ fun pre => bind_map_peel (putInBuffer_shift δ _ _ _) fun q => rfl

theorem beginNext_shift (orc : Oracle) (inst : Instance) (now : Int) (r : Rng) (j : JobState) (m : MachineState) :
    beginNextJobOnMachine orc inst (now + δ) r (shiftJob δ j) (shiftMachine δ m) =
      (beginNextJobOnMachine orc inst now r j m).map (fun p => (shiftJob δ p.1, shiftMachine δ p.2.1, p.2.2)) := by
  unfold beginNextJobOnMachine
  refine bind_map_peel (shiftJob_nextNotDone δ j) fun op => bind_peel _ _ _ _ fun oc => ?_
  simp only [Int.add_right_comm now δ _, shiftOp_mk, shiftJob_replaceOp]
  rfl

theorem beginMachineOutage_shift (now : Int) (j : JobState) (m : MachineState) (occFor : Int) (outs : List OutageState) :
    beginMachineOutage (now + δ) (shiftJob δ j) (shiftMachine δ m) occFor outs =
      (beginMachineOutage now j m occFor outs).map (fun p => (shiftJob δ p.1, shiftMachine δ p.2)) := by
  unfold beginMachineOutage
  rw [shiftJob_processingOpt]
  cases j.processing? with
  | none => rfl
  | some op =>
    simp only [Option.map_some, except_pure, except_map'_ok, Int.add_right_comm now δ _]
    rw [← shiftJob_replaceOp]
    rfl

theorem completeActiveOperation_shift (inst : Instance) (now : Int) (jobs : List JobState) (m : MachineState) :
    completeActiveOperation inst (now + δ) (jobs.map (shiftJob δ)) (shiftMachine δ m) =
      (completeActiveOperation inst now jobs m).map (fun p => (shiftJob δ p.1, shiftMachine δ p.2)) := by
  unfold completeActiveOperation
  rw [shiftMachine_buffer]
  cases m.buffer.store with
  | nil => rfl
  | cons jid _ =>
    refine bind_peel _ _ _ _ fun jid => bind_map_peel (getJob_shift δ jobs jid) fun j => ?_
    rw [shiftJob_processingOpt]
    cases j.processing? with
    | none => rfl
    | some op =>
      refine bind_map_peel (k := shiftOp δ) rfl fun op => ?_
      dsimp only
      have e : ({ shiftOp δ op with stop := some (now + δ), st := .done } : OpState) =
          shiftOp δ { op with stop := some now, st := .done } := rfl
      rw [e, shiftJob_replaceOp]
      refine bind_peel _ _ _ _ fun buf => bind_peel _ _ _ _ fun mc => ?_
      exact bind_map_peel (putInBuffer_shift δ _ _ _) fun q => rfl

theorem getCompByLoc_shift (s : State) (l : Loc) :
    getCompByLoc (shiftState δ s) l = (getCompByLoc s l).map (shiftTarget δ) := by
  cases l with
  | m n =>
    simp only [getCompByLoc, shiftState_machines, getMachine_shift]
    cases getMachine s.machines n <;> rfl
  | b n =>
    simp only [getCompByLoc, shiftState_buffers]
    cases getBufState s.buffers n <;> rfl

variable {inst : Instance}

theorem completeTransportTask_shift (hno : NoOutages inst) (orc : Oracle) (now : Int) (r : Rng)
    (j : JobState) (t : TransportState) (drop : Loc) (target : Target) :
    completeTransportTask orc inst (now + δ) r (shiftJob δ j) (shiftTransport δ t) drop (shiftTarget δ target) =
      (completeTransportTask orc inst now r j t drop target).map
        (fun p => (shiftJob δ p.1, shiftTransport δ p.2.1, shiftTarget δ p.2.2.1, p.2.2.2)) := by
  unfold completeTransportTask
  have hfill : (match shiftTarget δ target with | .machine m => m.pre | .buffer b => b) =
      (match target with | .machine m => m.pre | .buffer b => b) := by cases target <;> rfl
  refine bind_map_peel ((congrArg (switchBuffer inst _ · _) hfill).trans (switchBuffer_shift δ inst _ _ j))
    fun p => bind_peel_ok _ _ _ _ fun tc h2 => ?_
  rw [hno.2 tc (getTransportCfg_ok h2).1]
  simp only [newOutageStates_nil, except_bind_ok, except_pure, except_map'_ok, Int.add_right_comm now δ _]
  cases target <;> rfl

theorem idleToSetup_shift (orc : Oracle) (s : State) (r : Rng) (tr : Transition) (m : MachineState) :
    handleMachineIdleToSetup orc inst (shiftState δ s) r tr (shiftMachine δ m) =
      (handleMachineIdleToSetup orc inst s r tr m).map (fun p => (shiftState δ p.1, p.2)) := by
  unfold handleMachineIdleToSetup
  cases tr.job with
  | none => rfl
  | some jid =>
    refine bind_peel _ _ _ _ fun jid => bind_map_peel (getJob_shift δ s.jobs jid) fun j => ite_peel rfl ?_
    refine bind_map_peel (beginMachineSetup_shift δ orc inst s.time r j m) fun q => ?_
    simp only [replaceJob_shift, replaceMachine_shift]
    rfl

theorem setupToWorking_shift (orc : Oracle) (s : State) (r : Rng) (tr : Transition) (m : MachineState) :
    handleMachineSetupToWorking orc inst (shiftState δ s) r tr (shiftMachine δ m) =
      (handleMachineSetupToWorking orc inst s r tr m).map (fun p => (shiftState δ p.1, p.2)) := by
  unfold handleMachineSetupToWorking
  cases tr.job with
  | none => rfl
  | some jid =>
    refine bind_peel _ _ _ _ fun jid => bind_map_peel (getJob_shift δ s.jobs jid) fun j => ite_peel rfl ?_
    refine bind_map_peel (beginNext_shift δ orc inst s.time r j m) fun q => ?_
    simp only [replaceJob_shift, replaceMachine_shift]
    rfl

theorem workingToOutage_shift (hno : NoOutages inst) (orc : Oracle) (s : State) (r : Rng) (tr : Transition)
    (m : MachineState) :
    handleMachineWorkingToOutage orc inst (shiftState δ s) r tr (shiftMachine δ m) =
      (handleMachineWorkingToOutage orc inst s r tr m).map (fun p => (shiftState δ p.1, p.2)) := by
  unfold handleMachineWorkingToOutage
  refine bind_peel_ok _ _ _ _ fun mc h1 => ?_
  rw [hno.1 mc (getMachineCfg_ok h1).1]
  refine bind_peel _ _ _ _ fun p => bind_map_peel (getJobOpt_shift δ s.jobs tr.job) fun j => ?_
  refine bind_map_peel (beginMachineOutage_shift δ s.time j m _ _) fun q => ?_
  simp only [replaceJob_shift, replaceMachine_shift]
  rfl

theorem outageToIdle_shift (s : State) (r : Rng) (m : MachineState) :
    handleMachineOutageToIdle inst (shiftState δ s) r (shiftMachine δ m) =
      (handleMachineOutageToIdle inst s r m).map (fun p => (shiftState δ p.1, p.2)) := by
  unfold handleMachineOutageToIdle
  refine bind_map_peel (completeActiveOperation_shift δ inst s.time s.jobs m) fun q => ?_
  simp only [replaceJob_shift, replaceMachine_shift]
  rfl

theorem machineTransition_shift (hno : NoOutages inst) (orc : Oracle) (s : State) (r : Rng) (tr : Transition)
    (mid : Nat) :
    handleMachineTransition orc inst (shiftState δ s) r tr mid =
      (handleMachineTransition orc inst s r tr mid).map (fun p => (shiftState δ p.1, p.2)) := by
  unfold handleMachineTransition
  refine bind_map_peel (getMachine_shift δ s.machines mid) fun m => bind_peel _ _ _ _ fun h => ?_
  cases h with
  | idleToSetup => exact idleToSetup_shift δ orc s r tr m
  | setupToWorking => exact setupToWorking_shift δ orc s r tr m
  | workingToOutage => exact workingToOutage_shift δ hno orc s r tr m
  | outageToIdle => exact outageToIdle_shift δ s r m
end JSL
