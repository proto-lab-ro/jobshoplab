import JSL.Inv.ClassicCases

/-!
# The classic invariant (settledness) and the enabledness of the transitions of a batch

`CInv inst s` – what holds, beyond the structural / schedule / AGV invariants, in every state of
every episode of a classic instance run with `allowEarly = false`:

* AGVs: no time dependency, never in the state `WORKING`; a dispatched AGV (PICKUP /
  WAITINGPICKUP) claims a job that lies at a pickup place; **a busy AGV is due now** (its
  `occupied_till` is a time that has been reached: transport costs nothing); a parked AGV stands
  at a place of the shop;
* jobs: a job lying in a standalone buffer that is not an output buffer still has an idle record;
* machines: **a machine in SETUP or OUTAGE is due now** (no setup time, no outage time) and the
  record of a job being set up has start = end.

`En inst s tr` – transition `tr` is what the timed-transition builders (or the teleport filter)
produce for its component in state `s`; `EnGS` is the batch-level condition (all enabled, different
components, dispatches for different jobs).
-/

namespace JSL

variable {orc : Oracle} {inst : Instance}

structure CInv (inst : Instance) (s : State) : Prop where
  noDep : ∀ t ∈ s.transports, ∀ b j tr, t.occ ≠ .dep b j tr
  noWorking : ∀ t ∈ s.transports, t.st ≠ .working
  claimed : ∀ t ∈ s.transports, t.st = .pickup ∨ t.st = .waitingpickup →
    ∃ j ∈ s.jobs, t.job = some j.id ∧ j.loc ∈ pickupPlaces inst
  agvDue : ∀ t ∈ s.transports, t.st ≠ .idle → ∃ c, t.occ = .at c ∧ c ≤ s.time
  parked : ∀ t ∈ s.transports, t.st = .idle ∨ t.st = .outage → ∃ l, t.loc = .at l ∧ l ∈ locsOf inst
  fresh : ∀ j ∈ s.jobs, j.loc ∈ inst.buffers.map (·.id) → j.loc ∉ outputIds inst → ∃ o, j.nextIdle? = some o
  machDue : ∀ m ∈ s.machines, m.st = .setup ∨ m.st = .outage → ∃ c, m.occ = some c ∧ c ≤ s.time
  setupRec : ∀ m ∈ s.machines, m.st = .setup → ∀ j ∈ s.jobs, ∀ o ∈ j.ops, o.st = .processing →
    o.machine = m.id → o.start = o.stop

theorem CInv.time {s : State} (h : CInv inst s) {t : Int} (hle : s.time ≤ t) : CInv inst { s with time := t } :=
  ⟨h.noDep, h.noWorking, h.claimed,
   fun x hx hb => by obtain ⟨c, h1, h2⟩ := h.agvDue x hx hb; exact ⟨c, h1, Int.le_trans h2 hle⟩,
   h.parked, h.fresh,
   fun m hm hb => by obtain ⟨c, h1, h2⟩ := h.machDue m hm hb; exact ⟨c, h1, Int.le_trans h2 hle⟩,
   h.setupRec⟩

/-- transition `tr` is enabled in `s`: it is the next timed transition of its component, or a
dispatch of an idle AGV to an unclaimed job at a pickup place, or a machine start (about which
nothing is said here: machine starts only occur as the single transition of an action) -/
inductive En (inst : Instance) (s : State) : Transition → Prop
  | start (tr : Transition) : tr.new = .m .setup → En inst s tr
  | mWork (m : MachineState) (x : Nat) : m ∈ s.machines → m.st = .setup → m.buffer.store = [x] →
      En inst s ⟨.m m.id, .m .working, some x⟩
  | mOut (m : MachineState) (x : Nat) : m ∈ s.machines → m.st = .working → m.buffer.store = [x] →
      En inst s ⟨.m m.id, .m .outage, some x⟩
  | mIdle (m : MachineState) (x : Nat) : m ∈ s.machines → m.st = .outage → m.buffer.store = [x] →
      En inst s ⟨.m m.id, .m .idle, some x⟩
  | dispatch (t : TransportState) (j : JobState) : t ∈ s.transports → t.st = .idle → j ∈ s.jobs →
      j.loc ∈ pickupPlaces inst → (∀ t' ∈ s.transports, t'.job ≠ some j.id) →
      En inst s ⟨.t t.id, .t .working, some j.id⟩
  | wait (t : TransportState) (j : JobState) : t ∈ s.transports → t.st = .pickup → j ∈ s.jobs →
      t.job = some j.id → En inst s ⟨.t t.id, .t .waitingpickup, some j.id⟩
  | pick (t : TransportState) (j : JobState) : t ∈ s.transports → t.st = .waitingpickup → j ∈ s.jobs →
      t.job = some j.id → En inst s ⟨.t t.id, .t .transit, some j.id⟩
  | deliver (t : TransportState) (j : JobState) : t ∈ s.transports → t.st = .transit → j ∈ s.jobs →
      t.buffer.store = [j.id] → En inst s ⟨.t t.id, .t .outage, some j.id⟩
  | release (t : TransportState) : t ∈ s.transports → t.st = .outage → En inst s ⟨.t t.id, .t .idle, none⟩

def Apart (a b : Transition) : Prop :=
  a.comp ≠ b.comp ∧ (a.new = .t .working → b.new = .t .working → a.job ≠ b.job)

structure EnGS (inst : Instance) (s : State) (L : List Transition) : Prop where
  en : ∀ tr ∈ L, En inst s tr
  apart : L.Pairwise Apart
  alone : ∀ tr ∈ L, tr.new = .m .setup → L.length ≤ 1

theorem EnGS.tail {s : State} {tr : Transition} {R : List Transition} (h : EnGS inst s (tr :: R)) : EnGS inst s R :=
  ⟨fun t ht => h.en t (by simp [ht]), (List.pairwise_cons.mp h.apart).2,
   fun t ht hn => by have := h.alone t (by simp [ht]) hn; simp at this; subst this; simp⟩

theorem EnGS.nil (s : State) : EnGS inst s [] where
  en := fun _ h => nomatch h
  apart := List.Pairwise.nil
  alone := fun _ h => nomatch h

/-- what one enabled transition (not a machine start) leaves untouched -/
structure EnFrame (s s' : State) (a : Transition) : Prop where
  machines : ∀ m ∈ s.machines, a.comp ≠ .m m.id →
    ∃ m' ∈ s'.machines, m'.id = m.id ∧ m'.st = m.st ∧ m'.buffer.store = m.buffer.store ∧ m'.occ = m.occ
  transports : ∀ t ∈ s.transports, a.comp ≠ .t t.id → t ∈ s'.transports
  jobs : ∀ j ∈ s.jobs, ∃ j' ∈ s'.jobs, j'.id = j.id ∧ (a.job ≠ some j.id → j' = j)
  claims : ∀ t' ∈ s'.transports, ∀ x, t'.job = some x →
    (∃ t ∈ s.transports, t.job = some x) ∨ (a.new = .t .working ∧ a.job = some x)

structure Bundle (inst : Instance) (s : State) : Prop where
  full : AgvFull inst s
  ready : Ready inst s
  cinv : CInv inst s

end JSL
