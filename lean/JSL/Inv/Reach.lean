import JSL.Inv.SchedSmStep
import JSL.Inv.Dur

/-!
# Admissible executions

`OccursA` are the states of executions in which every action is admissible (transitions shaped
like offers: machine → SETUP, AGV → WORKING – in particular everything the environment, the
middleware and the teleport mechanism submit; time machine `jump_to_event` or
`force_jump_to_event`) and stepping continues only from results that are not done (as the
environment does).
-/

namespace JSL

variable {orc : Oracle} {inst : Instance}

theorem restB_sound {s : State} (h : restB s = true) : SchedInv s := by
  simp only [restB, Bool.and_eq_true, List.all_eq_true, beq_iff_eq, List.isEmpty_iff, Option.isNone_iff_eq_none] at h
  obtain ⟨⟨hm, hj⟩, ht⟩ := h
  have noproc : ∀ j ∈ s.jobs, ∀ o ∈ j.ops, o.st ≠ .processing := fun j hj' o ho => by rw [hj j hj' o ho]; simp
  have nodone : ∀ j ∈ s.jobs, ∀ o ∈ j.ops, o.st ≠ .done := fun j hj' o ho => by rw [hj j hj' o ho]; simp
  exact {
    idleEmpty := fun m hm' _ => (hm m hm').2
    busyHolds := fun m hm' hb => absurd (hm m hm').1 hb
    procOnBusy := fun j hj' o ho hp => absurd hp (noproc j hj' o ho)
    ops := fun j hj' => OpsOK_allIdle _ _ _ (hj j hj')
    doneBeforeProc := fun j₁ h₁ o₁ ho₁ _ _ _ _ _ hd => absurd hd (nodone j₁ h₁ o₁ ho₁)
    doneDisjoint := fun j₁ h₁ o₁ ho₁ _ _ _ _ _ hd => absurd hd (nodone j₁ h₁ o₁ ho₁)
    agvPending := fun t ht' hb => absurd (ht t ht').1.1.1 hb
    freeNoClaim := fun t ht' _ => (ht t ht').1.1.2
    depWaiting := fun t ht' b j tr ho => by
      have := (ht t ht').1.2; rw [ho] at this; simp at this }

theorem TimeCfg.nonnegB_sound {c : TimeCfg} (h : c.nonnegB = true) : ∀ t, c = .det t → 0 ≤ t := by
  intro t e; subst e; simpa [TimeCfg.nonnegB] using h

theorem nonnegB_sound (horc : ∀ sid k, 0 ≤ orc sid k) (h : nonnegB inst = true) : NonNeg orc inst := by
  simp only [nonnegB, Bool.and_eq_true, List.all_eq_true] at h
  obtain ⟨⟨⟨h1, h2⟩, h3⟩, h4⟩ := h
  exact {
    orc := horc
    ops := fun j hj o ho => TimeCfg.nonnegB_sound (h1 j hj o ho)
    setup := fun m hm e he => TimeCfg.nonnegB_sound ((h2 m hm).1 e he)
    travel := fun e he => TimeCfg.nonnegB_sound (h3 e he)
    mout := fun m hm o ho => TimeCfg.nonnegB_sound ((h2 m hm).2 o ho)
    tout := fun t ht o ho => TimeCfg.nonnegB_sound (h4 t ht o ho) }

inductive OccursA (orc : Oracle) (inst : Instance) (cfg : SMConfig) (s0 : State) : State → Prop
  | init : OccursA orc inst cfg s0 s0
  | result {s res r a r' mic fuel} : OccursA orc inst cfg s0 s → Admissible a →
      smStep orc inst cfg fuel s r a = .ok (res, r', mic) → res.done = false → OccursA orc inst cfg s0 res.state
  | sub {s res r a r' mic fuel σ} : OccursA orc inst cfg s0 s → Admissible a →
      smStep orc inst cfg fuel s r a = .ok (res, r', mic) → σ ∈ res.subStates → OccursA orc inst cfg s0 σ
  | micro {s res r a r' mic fuel σ} : OccursA orc inst cfg s0 s → Admissible a →
      smStep orc inst cfg fuel s r a = .ok (res, r', mic) → σ ∈ mic → OccursA orc inst cfg s0 σ

/-- the guard of the schedule theorems: well-formed instance, admissible initial state at rest,
non-negative configured times and samples -/
structure Start (orc : Oracle) (inst : Instance) (s0 : State) : Prop where
  init : initOKB inst s0 = true
  rest : restB s0 = true
  placed : placedB inst s0 = true
  nonneg : nonnegB inst = true
  samples : ∀ sid k, 0 ≤ orc sid k

theorem Start.wf {s0 : State} (hst : Start orc inst s0) : WF inst := (initOKB_sound hst.init).1

theorem Start.nn {s0 : State} (hst : Start orc inst s0) : NonNeg orc inst := nonnegB_sound hst.samples hst.nonneg

theorem occursA_inv {cfg : SMConfig} {s0 σ : State} (hst : Start orc inst s0) (h : OccursA orc inst cfg s0 σ) :
    WF inst ∧ StructInv inst σ ∧ SchedInv σ := by
  have w := hst.wf
  have nn := hst.nn
  refine ⟨w, ?_⟩
  induction h with
  | init => exact ⟨(initOKB_sound hst.init).2, restB_sound hst.rest⟩
  | result _ ha hstep hnd ih => exact ⟨(smStep_struct w ih.1 hstep).1, (smStep_sched w nn ih.1 ih.2 ha hstep).2.2.2 hnd⟩
  | sub _ ha hstep hσ ih => exact ⟨(smStep_struct w ih.1 hstep).2.1 _ hσ, (smStep_sched w nn ih.1 ih.2 ha hstep).2.1 _ hσ⟩
  | micro _ ha hstep hσ ih => exact ⟨(smStep_struct w ih.1 hstep).2.2 _ hσ, (smStep_sched w nn ih.1 ih.2 ha hstep).1 _ hσ⟩

/-- the state a step returns when the shop is done: the invariants hold up to the final makespan
stamp of the clock -/
theorem final_inv {cfg : SMConfig} {s0 s : State} (hst : Start orc inst s0) (h : OccursA orc inst cfg s0 s)
    {a : Action} (ha : Admissible a) {fuel : Nat} {r r' : Rng} {res : SMResult} {mic : List State}
    (hstep : smStep orc inst cfg fuel s r a = .ok (res, r', mic)) :
    StructInv inst res.state ∧ ∃ t, SchedInv { res.state with time := t } := by
  obtain ⟨w, hI, hS⟩ := occursA_inv hst h
  exact ⟨(smStep_struct w hI hstep).1, (smStep_sched w hst.nn hI hS ha hstep).2.2.1⟩

theorem occursA_pass {cfg : SMConfig} (ps : Pass orc inst cfg) {s0 σ : State} (hst : Start orc inst s0)
    (h0 : ps.P s0) (hadm : ∀ s a, Admissible a → ps.Adm s a) (h : OccursA orc inst cfg s0 σ) : ps.P σ := by
  induction h with
  | init => exact h0
  | result hprev ha hstep hnd ih =>
    obtain ⟨w, hI, hS⟩ := occursA_inv hst hprev
    exact (ps.smStep w hst.nn hI hS ih ha (hadm _ _ ha) hstep).2.2.2 hnd
  | sub hprev ha hstep hσ ih =>
    obtain ⟨w, hI, hS⟩ := occursA_inv hst hprev
    exact (ps.smStep w hst.nn hI hS ih ha (hadm _ _ ha) hstep).2.1 _ hσ
  | micro hprev ha hstep hσ ih =>
    obtain ⟨w, hI, hS⟩ := occursA_inv hst hprev
    exact (ps.smStep w hst.nn hI hS ih ha (hadm _ _ ha) hstep).1 _ hσ

end JSL
