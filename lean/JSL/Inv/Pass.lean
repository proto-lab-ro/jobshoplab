import JSL.Inv.TimeStep

/-!
# Carrying a further invariant through `state.step`

A `Pass` is a further invariant `P`, on top of `StructInv` and `SchedInv`, together with a
batch-level side condition `GS` (what the remaining transitions of a batch may assume of the
current state).  Given the per-transition lemma and the facts that the batches the
code builds meet `GS`, `P` holds in every state of every execution.  The plumbing through
`process_state_transitions`, the timed loop and `state.step` is done once here.
-/

namespace JSL

variable {orc : Oracle} {inst : Instance}

structure Pass (orc : Oracle) (inst : Instance) (cfg : SMConfig) where
  P : State → Prop
  GS : State → List Transition → Prop
  /-- admissibility of an action in a state, as far as this pass is concerned -/
  Adm : State → Action → Prop
  tail : ∀ {s tr R}, GS s (tr :: R) → GS s R
  step : ∀ {s s' r r' tr R}, StructInv inst s → SchedInv s → P s → transitionValid s tr = .ok true →
    Safe s (tr :: R) → Fresh (tr :: R) → GS s (tr :: R) → applyTransition orc inst s r tr = .ok (s', r') →
    P s' ∧ GS s' R
  advance : ∀ {s t}, StructInv inst s → SchedInv s → P s → s.time ≤ t → PendingGe s t → P { s with time := t }
  timed : ∀ {s tt poss tele r}, StructInv inst s → SchedInv s → P s → timedTransitions inst s = .ok tt →
    possibleTransitions inst cfg s = .ok poss → filterTeleport orc inst r s poss = .ok tele → GS s (tt ++ tele)
  timedOnly : ∀ {s tt}, StructInv inst s → SchedInv s → P s → timedTransitions inst s = .ok tt → GS s tt
  action : ∀ {s a}, StructInv inst s → SchedInv s → P s → Adm s a → GS s (sortedByTransport a.transitions)

def Pass.map {cfg : SMConfig} (ps : Pass orc inst cfg) (Q : State → Prop) (to : ∀ {s}, Q s → ps.P s)
    (of : ∀ {s}, ps.P s → Q s) : Pass orc inst cfg where
  P := Q
  GS := ps.GS
  Adm := ps.Adm
  tail := ps.tail
  step := fun hI hS hP hv hsafe hfresh hgs ha => (ps.step hI hS (to hP) hv hsafe hfresh hgs ha).imp of id
  advance := fun hI hS hP hle hpend => of (ps.advance hI hS (to hP) hle hpend)
  timed := fun hI hS hP => ps.timed hI hS (to hP)
  timedOnly := fun hI hS hP => ps.timedOnly hI hS (to hP)
  action := fun hI hS hP => ps.action hI hS (to hP)

variable {cfg : SMConfig}

structure Pass.Mid (ps : Pass orc inst cfg) (s : State) (R : List Transition) : Prop where
  batch : BatchInv inst s R
  inv : ps.P s
  gs : ps.GS s R

abbrev Pass.All (ps : Pass orc inst cfg) (s : State) : Prop := StructInv inst s ∧ SchedInv s ∧ ps.P s

theorem Pass.Mid.all {ps : Pass orc inst cfg} {s : State} {R : List Transition} (h : ps.Mid s R) : ps.All s :=
  ⟨h.batch.struct, h.batch.sched, h.inv⟩

theorem Pass.batch (ps : Pass orc inst cfg) (w : WF inst) (nn : NonNeg orc inst) {L : List Transition} {s : State}
    {r : Rng} {o : ProcOut} (hM : ps.Mid s L) (h : processTransitions orc inst L s r = .ok o) :
    ps.Mid o.state [] ∧ ∀ σ ∈ o.micro, ps.All σ := by
  have := processTransitions_ind (Q := ps.Mid) (fun hM _ => ⟨hM.batch.skip, hM.inv, ps.tail hM.gs⟩)
    (fun hM hv ha =>
      have hP := ps.step hM.batch.struct hM.batch.sched hM.inv hv hM.batch.safe hM.batch.fresh hM.gs ha
      ⟨hM.batch.step w nn hv ha, hP.1, hP.2⟩) hM h
  exact ⟨this.1, fun σ hσ => (this.2 σ hσ).elim fun _ hM => hM.all⟩

theorem Pass.process (ps : Pass orc inst cfg) (w : WF inst) (nn : NonNeg orc inst) :
    ∀ (L : List Transition) (s : State) (r : Rng) (o : ProcOut), StructInv inst s → SchedInv s → ps.P s →
      Safe s L → Fresh L → ps.GS s L → processTransitions orc inst L s r = .ok o →
      ps.P o.state ∧ ∀ σ ∈ o.micro, ps.P σ := by
  intro L s r o hI hS hP hsafe hfresh hgs h
  have := ps.batch w nn ⟨⟨hI, hS, hsafe, hfresh⟩, hP, hgs⟩ h
  exact ⟨this.1.inv, fun σ hσ => (this.2 σ hσ).2.2⟩

theorem Pass.Mid.advance {ps : Pass orc inst cfg} (w : WF inst) {s : State} (h : ps.All s) {t : Int}
    (hadv : s.time ≤ t ∧ PendingGe s t) {tt tele : List Transition}
    (htt : timedTransitions inst { s with time := t } = .ok tt) (htele : ∀ tr ∈ tele, tr.new = .t .working)
    (hgs : ps.All { s with time := t } → ps.GS { s with time := t } (tt ++ tele)) :
    ps.Mid { s with time := t } (tt ++ tele) :=
  have hB := BatchInv.advance w h.1 h.2.1 hadv htt htele
  have hP := ps.advance h.1 h.2.1 h.2.2 hadv.1 hadv.2
  ⟨hB, hP, hgs ⟨hB.struct, hB.sched, hP⟩⟩

theorem Pass.loop_all (ps : Pass orc inst cfg) (w : WF inst) (nn : NonNeg orc inst) {fuel : Nat}
    {tt : List Transition} {s : State} {r : Rng} {subs mic : List State} {out : LoopOut} (hM : ps.Mid s tt)
    (h : timedLoop orc inst cfg fuel tt s r subs mic = .ok out) :
    ps.All out.state ∧ (∀ σ ∈ out.subs, σ ∈ subs ∨ ps.All σ) ∧ (∀ σ ∈ out.micro, σ ∈ mic ∨ ps.All σ) := by
  have := timedLoop_ind (Q := ps.Mid) (P := ps.All) (fun hM => hM.all)
    (fun hM ho => have hp := ps.batch w nn hM ho; ⟨hp.1.all, hp.2⟩)
    (fun hM ho _ ht htt => by
      have hp := (ps.batch w nn hM ho).1
      have := Pass.Mid.advance w hp.all (jumpToEvent_spec hp.batch.sched ht) htt (tele := []) (fun _ h => nomatch h)
        (fun hA => by rw [List.append_nil]; exact ps.timedOnly hA.1 hA.2.1 hA.2.2 htt)
      rwa [List.append_nil] at this) hM h
  exact ⟨this.1, this.2.2⟩

theorem Pass.loop (ps : Pass orc inst cfg) (w : WF inst) (nn : NonNeg orc inst) :
    ∀ (fuel : Nat) (tt : List Transition) (s : State) (r : Rng) (subs mic : List State) (out : LoopOut),
      StructInv inst s → SchedInv s → ps.P s → Safe s tt → Fresh tt → ps.GS s tt →
      (∀ σ ∈ subs, ps.P σ) → (∀ σ ∈ mic, ps.P σ) →
      timedLoop orc inst cfg fuel tt s r subs mic = .ok out →
      ps.P out.state ∧ (∀ σ ∈ out.subs, ps.P σ) ∧ (∀ σ ∈ out.micro, ps.P σ) := by
  intro fuel tt s r subs mic out hI hS hP hsafe hfresh hgs hsub hmic h
  have := ps.loop_all w nn ⟨⟨hI, hS, hsafe, hfresh⟩, hP, hgs⟩ h
  exact ⟨this.1.2.2, fun σ hσ => (this.2.1 σ hσ).elim (hsub σ) (·.2.2),
    fun σ hσ => (this.2.2 σ hσ).elim (hmic σ) (·.2.2)⟩

/-- **`state.step` keeps the invariant of a pass**: in the post-state of every applied transition,
in every sub-state, and in the state the loop ends in (the returned state up to the final stamp
of the clock; the returned state itself when the shop is not done). -/
theorem Pass.smStep (ps : Pass orc inst cfg) (w : WF inst) (nn : NonNeg orc inst) {fuel : Nat} {s0 : State} {r : Rng}
    {a : Action} {res : SMResult} {r' : Rng} {mic : List State} (hI : StructInv inst s0) (hS : SchedInv s0)
    (hP : ps.P s0) (ha : Admissible a) (hadm : ps.Adm s0 a)
    (h : JSL.smStep orc inst cfg fuel s0 r a = .ok (res, r', mic)) :
    (∀ σ ∈ mic, ps.P σ) ∧ (∀ σ ∈ res.subStates, ps.P σ) ∧
      (∃ t, ps.P { res.state with time := t }) ∧ (res.done = false → ps.P res.state) := by
  obtain ⟨p, hp, hcase⟩ := smStep_cases h
  have hp' := ps.batch w nn ⟨ha.batch hI hS, hP, ps.action hI hS hP hadm⟩ hp
  rcases hcase with ⟨_, _, rfl, rfl⟩ | ⟨_, t, timed, poss, tele, out, ht, htimed, hposs, htele, hout, _, rfl, hcase⟩
  · exact ⟨fun σ hσ => (hp'.2 σ hσ).2.2, by simpa using hp'.1.inv, ⟨s0.time, hP⟩, fun _ => hP⟩
  · have hl := ps.loop_all w nn (Pass.Mid.advance w hp'.1.all (runTimeMachine_spec hp'.1.batch.sched ha.tm ht)
      htimed (filterTeleport_shape hposs htele) (fun hA => ps.timed hA.1 hA.2.1 hA.2.2 htimed hposs htele)) hout
    have hsubs : ∀ σ ∈ out.subs, ps.P σ := fun σ hσ =>
      (hl.2.1 σ hσ).elim (fun h1 => by rw [List.mem_singleton.mp h1]; exact hp'.1.inv) (·.2.2)
    have hmic : ∀ σ ∈ out.micro, ps.P σ := fun σ hσ => (hl.2.2 σ hσ).elim (fun h1 => (hp'.2 σ h1).2.2) (·.2.2)
    have hdrop : ∀ σ ∈ out.subs.dropLast, ps.P σ := fun σ hσ => hsubs σ ((List.dropLast_sublist _).subset hσ)
    rcases hcase with ⟨_, rfl⟩ | ⟨_, _, e, _, rfl⟩ | ⟨_, _, poss', _, rfl⟩
    · exact ⟨hmic, hsubs, ⟨s0.time, hP⟩, fun _ => hP⟩
    · refine ⟨hmic, hdrop, ⟨out.state.time, ?_⟩, fun hd => (nomatch hd)⟩
      cases e <;> exact hl.1.2.2
    · exact ⟨hmic, hdrop, ⟨out.state.time, hl.1.2.2⟩, fun _ => hl.1.2.2⟩

end JSL
