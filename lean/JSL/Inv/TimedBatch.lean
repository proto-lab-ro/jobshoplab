import JSL.Inv.Batch

/-!
# The batch `create_timed_transitions` builds is safe and fresh in the state it is built from
-/

namespace JSL

variable {orc : Oracle} {inst : Instance}

/-- what `create_timed_machine_transitions` produces for one machine -/
def TimedM (s : State) (tr : Transition) : Prop :=
  ∃ m ∈ s.machines, tr.comp = .m m.id ∧
    ((∃ ns, machineTimedNext m.st = some ns ∧ tr.new = .m ns ∧ tr.job = m.buffer.store.head?) ∨
     (m.st = .idle ∧ tr.new = .m .setup ∧ ∃ j, tr.job = some j ∧ j ∈ m.pre.store))

theorem nextJobFromBuffer_mem {b : BufState} {c : BufCfg} {j : Nat} (h : nextJobFromBuffer b c = some j) :
    j ∈ b.store := by
  unfold nextJobFromBuffer at h
  split at h
  · exact List.mem_of_mem_head? h
  · exact List.mem_of_getLast? h
  · cases h

/-- `create_timed_machine_transitions` for one machine: a busy machine whose time has come moves to
its next phase with the job it holds; an idle machine starts the job its input buffer releases -/
theorem timedMachine_ok {now : Int} {m : MachineState} {tr : Transition}
    (h : timedMachine inst now m = .ok (some tr)) : tr.comp = .m m.id ∧
      ((∃ ns j rest, dueAt m.occ now = true ∧ machineTimedNext m.st = some ns ∧ m.buffer.store = j :: rest ∧
          tr.new = .m ns ∧ tr.job = some j) ∨
       (m.st = .idle ∧ tr.new = .m .setup ∧ ∃ pc j, getBufCfg (allBufCfgs inst) m.pre.id = .ok pc ∧
          nextJobFromBuffer m.pre pc = some j ∧ tr.job = some j)) := by
  unfold timedMachine at h
  split at h
  · rename_i ns hns
    have hdue : dueAt m.occ now = true ∧ machineTimedNext m.st = some ns := by
      split at hns
      · rename_i hd; exact ⟨hd, hns⟩
      · cases hns
    cases hst : m.buffer.store with
    | nil => simp [hst] at h
    | cons j rest =>
      simp [hst] at h; subst h
      exact ⟨rfl, Or.inl ⟨ns, j, rest, hdue.1, hdue.2, rfl, rfl, rfl⟩⟩
  · split at h
    · rename_i hidle
      unfold machineSetupTransition at h
      split at h
      · obtain ⟨pc, hpc, h⟩ := except_bind_eq_ok h
        cases hn : nextJobFromBuffer m.pre pc with
        | none => simp [hn] at h
        | some j =>
          simp [hn] at h; subst h
          exact ⟨rfl, Or.inr ⟨by simpa using hidle, rfl, pc, j, hpc, hn, rfl⟩⟩
      · simp at h
    · simp at h

/-- `create_timed_machine_transitions` creates nothing for a machine: a busy machine is not due; the input
buffer of an idle machine is empty or releases no job -/
theorem timedMachine_none {now : Int} {m : MachineState} (h : timedMachine inst now m = .ok none) :
    (m.st ≠ .idle ∧ dueAt m.occ now = false) ∨
    (m.st = .idle ∧ (m.pre.store = [] ∨
      ∃ pc, getBufCfg (allBufCfgs inst) m.pre.id = .ok pc ∧ nextJobFromBuffer m.pre pc = none)) := by
  unfold timedMachine at h
  cases hst : m.st with
  | idle =>
    refine .inr ⟨rfl, ?_⟩
    have hnone : (if dueAt m.occ now = true then machineTimedNext m.st else none) = none := by
      rw [hst]; split <;> rfl
    rw [hnone] at h
    simp only [hst, beq_self_eq_true, if_true] at h
    unfold machineSetupTransition at h
    split at h
    · obtain ⟨pc, hpc, h⟩ := except_bind_eq_ok h
      refine .inr ⟨pc, hpc, ?_⟩
      cases hnx : nextJobFromBuffer m.pre pc with
      | none => rfl
      | some j => simp [hnx] at h
    · rename_i hlen
      exact .inl (List.length_eq_zero_iff.mp (by omega))
  | setup | working | outage =>
    refine .inl ⟨nofun, ?_⟩
    cases hd : dueAt m.occ now with
    | false => rfl
    | true =>
      exfalso
      simp only [hd, if_true, hst, machineTimedNext] at h
      cases hs : m.buffer.store <;> simp [hs] at h

theorem timedMachine_spec {s : State} {m : MachineState} (hm : m ∈ s.machines) {tr : Transition}
    (h : timedMachine inst s.time m = .ok (some tr)) : TimedM s tr ∧ tr.comp = .m m.id := by
  obtain ⟨hc, ⟨ns, j, rest, _, hns, hst, hn, hj⟩ | ⟨hidle, hn, pc, j, _, hnx, hj⟩⟩ := timedMachine_ok h
  · exact ⟨⟨m, hm, hc, Or.inl ⟨ns, hns, hn, by rw [hst]; exact hj⟩⟩, hc⟩
  · exact ⟨⟨m, hm, hc, Or.inr ⟨hidle, hn, j, hj, nextJobFromBuffer_mem hnx⟩⟩, hc⟩
theorem timedMachines_spec {s : State} (ms : List MachineState) (hsub : ∀ m ∈ ms, m ∈ s.machines)
    (hnd : (ms.map (·.id)).Nodup) (r : List (Option Transition)) (h : ms.mapM (timedMachine inst s.time) = .ok r) :
    (∀ tr ∈ r.filterMap id, TimedM s tr ∧ ∃ m ∈ ms, tr.comp = .m m.id) ∧
    (r.filterMap id).Pairwise (fun a b => a.comp ≠ b.comp) := by
  constructor
  · intro tr htr
    obtain ⟨m, hm, e⟩ := (mem_mapM_filterMap h tr).mp htr
    have := timedMachine_spec (hsub m hm) e
    exact ⟨this.1, m, hm, this.2⟩
  · refine mapM_filterMap_pairwise ms r h ((List.pairwise_map.mp hnd).imp ?_)
    intro m m' hne b b' hb hb' e
    rw [(timedMachine_ok hb).1, (timedMachine_ok hb').1] at e
    exact hne (Comp.m.inj e)
def IsT (tr : Transition) : Prop := ∃ ns, tr.new = .t ns

/-- `create_avg_idle_to_pick_transition`: an AGV on its way to a claimed job goes on waiting for it; one that
waits picks the job up once it is ready -/
theorem agvIdleToPick_ok {s : State} {t : TransportState} {tr : Transition}
    (hst : t.st = .pickup ∨ t.st = .waitingpickup) (h : agvIdleToPickTransition inst s t = .ok (some tr)) :
    tr.comp = .t t.id ∧ ∃ j ∈ s.jobs, ∃ rdy, t.job = some j.id ∧ tr.job = some j.id ∧
      readyForPickup inst s j = .ok rdy ∧ ((t.st = .pickup ∧ tr.new = .t .waitingpickup) ∨
        (t.st = .waitingpickup ∧ tr.new = .t (if rdy then .transit else .waitingpickup))) := by
  unfold agvIdleToPickTransition at h
  obtain ⟨jid, hjid, h⟩ := except_bind_eq_ok h
  obtain ⟨j, hj, h⟩ := except_bind_eq_ok h
  obtain ⟨rdy, hrdy, h⟩ := except_bind_eq_ok h
  obtain ⟨hjm, hjj⟩ := getJob_ok hj
  have htj : t.job = some j.id := by rw [optE_ok hjid, hjj]
  rcases hst with hst | hst
  · have : tr = ⟨.t t.id, .t .waitingpickup, some j.id⟩ := by
      cases rdy <;> simpa [hst, idleToPickNext, eq_comm] using h
    subst this
    exact ⟨rfl, j, hjm, rdy, htj, rfl, hrdy, Or.inl ⟨hst, rfl⟩⟩
  · have : tr = ⟨.t t.id, .t (if rdy then .transit else .waitingpickup), some j.id⟩ := by
      cases rdy <;> simpa [hst, idleToPickNext, eq_comm] using h
    subst this
    exact ⟨rfl, j, hjm, rdy, htj, rfl, hrdy, Or.inr ⟨hst, rfl⟩⟩

/-- `create_timed_transport_transitions` for one AGV: the parked transition of a resolved time
dependency, or – for an AGV whose time has come – what its state asks for: go on waiting or pick up
the claimed job, deliver the carried job, become idle again -/
theorem timedTransport_ok {s : State} {t : TransportState} {tr : Transition}
    (h : timedTransport inst s t = .ok (some tr)) :
    (∃ b j, t.occ = .dep b j tr ∧ timeDependencyResolved inst s t b j = .ok true) ∨
    ∃ o, t.occ = .at o ∧ o ≤ s.time ∧ tr.comp = .t t.id ∧
      ((∃ j ∈ s.jobs, ∃ rdy, t.job = some j.id ∧ tr.job = some j.id ∧ readyForPickup inst s j = .ok rdy ∧
          ((t.st = .pickup ∧ tr.new = .t .waitingpickup) ∨
           (t.st = .waitingpickup ∧ tr.new = .t (if rdy then .transit else .waitingpickup)))) ∨
       (t.st = .transit ∧ tr.new = .t .outage ∧ ∃ j ∈ s.jobs, t.buffer.store = [j.id] ∧ tr.job = some j.id) ∨
       (t.st = .outage ∧ tr.new = .t .idle ∧ tr.job = none)) := by
  unfold timedTransport at h
  cases hocc : t.occ with
  | none => simp [hocc] at h
  | dep b j tr' =>
    simp only [hocc] at h
    obtain ⟨res, hres, h⟩ := except_bind_eq_ok h
    cases res with
    | false => simp at h
    | true => simp at h; subst h; exact Or.inl ⟨b, j, rfl, hres⟩
  | «at» o =>
    simp only [hocc] at h
    split at h
    · rename_i hle
      refine Or.inr ⟨o, rfl, hle, ?_⟩
      cases hst : t.st with
      | idle => simp [hst, agvTimedCreator] at h
      | working => simp [hst, agvTimedCreator] at h
      | pickup =>
        obtain ⟨hc, hp⟩ := agvIdleToPick_ok (Or.inl hst) (by simpa [hst, agvTimedCreator] using h)
        exact ⟨hc, Or.inl (hst ▸ hp)⟩
      | waitingpickup =>
        obtain ⟨hc, hp⟩ := agvIdleToPick_ok (Or.inr hst) (by simpa [hst, agvTimedCreator] using h)
        exact ⟨hc, Or.inl (hst ▸ hp)⟩
      | transit =>
        simp only [hst, agvTimedCreator] at h
        split at h
        · rename_i j hstore
          obtain ⟨js, hjs, h⟩ := except_bind_eq_ok h
          obtain ⟨hjm, hjj⟩ := getJob_ok hjs
          simp at h; subst h
          exact ⟨rfl, Or.inr (Or.inl ⟨rfl, rfl, js, hjm, by rw [hstore, hjj], rfl⟩)⟩
        · simp at h
      | outage =>
        simp [hst, agvTimedCreator] at h; subst h
        exact ⟨rfl, Or.inr (Or.inr ⟨rfl, rfl, rfl⟩)⟩
    · simp at h

theorem timedTransport_spec {s : State} (hS : SchedInv s) {t : TransportState} (ht : t ∈ s.transports) {tr : Transition}
    (h : timedTransport inst s t = .ok (some tr)) :
    IsT tr ∧ (tr.new = .t .transit → ∃ j ∈ s.jobs, tr.job = some j.id ∧ readyForPickup inst s j = .ok true) := by
  rcases timedTransport_ok h with ⟨b, j, hocc, _⟩ | ⟨o, _, _, _, ⟨j, hj, rdy, _, htj, hrdy, hcase⟩ | ⟨_, hn, _⟩ | ⟨_, hn, _⟩⟩
  · have := hS.depWaiting t ht b j tr hocc
    exact ⟨⟨_, this⟩, fun e => by rw [this] at e; cases e⟩
  · rcases hcase with ⟨_, hn⟩ | ⟨_, hn⟩
    · exact ⟨⟨_, hn⟩, fun e => by rw [hn] at e; cases e⟩
    · refine ⟨⟨_, hn⟩, fun e => ⟨j, hj, htj, ?_⟩⟩
      cases rdy with
      | true => exact hrdy
      | false => rw [hn] at e; cases e
  · exact ⟨⟨_, hn⟩, fun e => by rw [hn] at e; cases e⟩
  · exact ⟨⟨_, hn⟩, fun e => by rw [hn] at e; cases e⟩
theorem timedTransports_spec {s : State} (hS : SchedInv s) : ∀ (ts : List TransportState), (∀ t ∈ ts, t ∈ s.transports) →
    ∀ r, ts.mapM (timedTransport inst s) = .ok r →
    ∀ tr ∈ r.filterMap id, IsT tr ∧
      (tr.new = .t .transit → ∃ j ∈ s.jobs, tr.job = some j.id ∧ readyForPickup inst s j = .ok true) := by
  intro ts hsub r h tr htr
  obtain ⟨t, ht, e⟩ := (mem_mapM_filterMap h tr).mp htr
  exact timedTransport_spec hS (hsub t ht) e

theorem Shape.postIds {s : State} (hs : Shape inst s) :
    s.machines.map (·.post.id) = inst.machines.map (·.post.id) := by
  have := congrArg (List.map (fun k : Nat × Nat × Nat × Nat => k.2.2.2)) hs.machines
  simpa [List.map_map, Function.comp_def, mKey, mcKey] using this

/-- `is_job_ready_for_pickup_from_postbuffer` says yes: the job lies in the buffer at its location, which is a pickup place,
at a position the buffer's discipline releases -/
theorem readyForPickup_ok {s : State} {j : JobState} (h : readyForPickup inst s j = .ok true) :
    ∃ bs bc p, getBufState (allBufStates s) j.loc = .ok bs ∧ getBufCfg (allBufCfgs inst) j.loc = .ok bc ∧
      bs.store.idxOf? j.id = some p ∧ pickupBufferKind inst bs.id = true ∧
      posOk bc.type p bs.store.length = true := by
  unfold readyForPickup at h
  obtain ⟨bs, hbs, h⟩ := except_bind_eq_ok h
  obtain ⟨bc, hbc, h⟩ := except_bind_eq_ok h
  cases hidx : bs.store.idxOf? j.id with
  | some p =>
    simp [hidx] at h
    exact ⟨bs, bc, p, hbs, hbc, hidx, h.1, h.2⟩
  | none =>
    exfalso
    simp only [hidx] at h
    split at h
    · simp at h
    · cases hpn : posNone bc.type with
      | none => simp [hpn] at h
      | some r =>
        simp [hpn] at h
        have : r = false := by revert hpn; cases bc.type <;> simp [posNone] <;> intro e <;> exact e.symm
        rw [this] at h; simp at h

/-- a job that is ready for pickup sits in a standalone buffer or a post-buffer: not in any
machine's internal buffer or pre-buffer, and it is not being processed -/
theorem ready_facts (w : WF inst) {s : State} (hI : StructInv inst s) (hS : SchedInv s) {j : JobState} (hj : j ∈ s.jobs)
    (h : readyForPickup inst s j = .ok true) :
    (∀ m ∈ s.machines, m.buffer.id ≠ j.loc ∧ m.pre.id ≠ j.loc) ∧ (∀ o ∈ j.ops, o.st ≠ .processing) := by
  have hs := hI.shape
  obtain ⟨bs, _, _, hbs, _, _, hkind, _⟩ := readyForPickup_ok h
  rw [(getBufState_ok hbs).2] at hkind
  have hne : ∀ m ∈ s.machines, m.buffer.id ≠ j.loc ∧ m.pre.id ≠ j.loc := by
    intro m hm
    unfold pickupBufferKind at hkind
    simp only [Bool.or_eq_true, List.contains_iff_mem] at hkind
    rcases hkind with hk | hk
    · rw [← hs.buffers] at hk
      obtain ⟨b, hb, e⟩ := List.mem_map.mp hk
      have := (ids_parts hs w).1 b hb m hm
      rw [← e]; exact ⟨this.2.1.symm, this.1.symm⟩
    · rw [← hs.postIds] at hk
      obtain ⟨m2, hm2, e⟩ := List.mem_map.mp hk
      rw [← e]
      refine ⟨(internal_ne_pre_post hs w hm hm2).2, ?_⟩
      by_cases e2 : m.id = m2.id
      · have : m = m2 := eq_of_mem_of_key_eq (key := fun (y : MachineState) => y.id) (hs.machNodup w) hm hm2 e2
        subst this; exact (machine_buf_ids_ne hs w hm).2.1
      · exact machines_bufs_ne hs w hm hm2 e2 _ (by simp) _ (by simp)
  refine ⟨hne, ?_⟩
  exact not_processing_of_stored hI hS w hj (hI.cons.located (j.id, j.loc) (List.mem_map.mpr ⟨j, hj, rfl⟩))
    (fun m hm => (hne m hm).1)

/-- **The timed batch is safe and fresh.**  The transitions `create_timed_transitions` builds from a
state (followed by any offer-shaped AGV dispatches – the teleports) meet their side conditions in
that state, and applying them one after the other keeps it so. -/
theorem timed_batch_safe (w : WF inst) {s : State} (hI : StructInv inst s) (hS : SchedInv s)
    {tt tele : List Transition} (htt : timedTransitions inst s = .ok tt)
    (htele : ∀ tr ∈ tele, tr.new = .t .working) : Safe s (tt ++ tele) ∧ Fresh (tt ++ tele) := by
  have hs := hI.shape
  obtain ⟨ra, rb, hra, hrb, rfl⟩ := timedTransitions_ok htt
  have hA := timedMachines_spec (inst := inst) s.machines (fun m hm => hm) (hs.machNodup w) ra hra
  have hB := timedTransports_spec (inst := inst) hS s.transports (fun t ht => ht) rb hrb
  -- everything after the machine part has a transport state as its new state
  have hT : ∀ tr ∈ rb.filterMap id ++ tele, IsT tr ∧
      (tr.new = .t .transit → ∃ j ∈ s.jobs, tr.job = some j.id ∧ readyForPickup inst s j = .ok true) := by
    intro tr htr
    rcases List.mem_append.mp htr with h | h
    · exact hB tr h
    · exact ⟨⟨_, htele tr h⟩, by rw [htele tr h]; simp⟩
  have hMnew : ∀ tr ∈ ra.filterMap id, ∃ ns, tr.new = .m ns := by
    intro tr htr
    obtain ⟨⟨m, _, _, h⟩, _⟩ := hA.1 tr htr
    rcases h with ⟨ns, _, h, _⟩ | ⟨_, h, _⟩ <;> exact ⟨_, h⟩
  rw [List.append_assoc]
  constructor
  · constructor
    · intro tr htr mid hc hn m hm hid x hx
      rcases List.mem_append.mp htr with h | h
      · obtain ⟨⟨m', hm', hc', hcase⟩, _⟩ := hA.1 tr h
        have : m' = m := by
          apply eq_of_mem_of_key_eq (key := fun (y : MachineState) => y.id) (hs.machNodup w) hm' hm
          rw [hc] at hc'; simp at hc'; rw [hid]; exact hc'.symm
        subst this
        rcases hcase with ⟨ns, _, _, hjob⟩ | ⟨_, hnew, _⟩
        · rw [hx] at hjob; exact List.mem_of_mem_head? hjob.symm
        · rw [hnew] at hn; simp at hn
      · obtain ⟨⟨ns, e⟩, _⟩ := hT tr h
        rw [e] at hn; simp at hn
    · intro tr htr tid hc hn j hj hx
      rcases List.mem_append.mp htr with h | h
      · obtain ⟨ns, e⟩ := hMnew tr h; rw [e] at hn; simp at hn
      · obtain ⟨j', hj', hx', hrdy⟩ := (hT tr h).2 hn
        have : j' = j := by
          apply eq_of_mem_of_key_eq (key := fun (y : JobState) => y.id) (hs.jobsNodup w) hj' hj
          rw [hx] at hx'; simpa using hx'.symm
        subst this
        exact (ready_facts w hI hS hj' hrdy).2
  · show List.Pairwise FreshRel _
    rw [List.pairwise_append]
    refine ⟨?_, ?_, ?_⟩
    · apply hA.2.imp_of_mem
      intro a b ha hb hne
      refine ⟨?_, ?_⟩
      · intro mid hc _ e; exact hne (by rw [e, hc])
      · intro _ hn
        obtain ⟨ns, e⟩ := hMnew b hb; rw [e] at hn; simp at hn
    · apply List.pairwise_of_forall_mem_list
      intro a ha b hb
      refine ⟨?_, ?_⟩
      · intro mid _ hn
        obtain ⟨⟨ns, e⟩, _⟩ := hT b hb; rw [e] at hn; simp at hn
      · intro hn
        obtain ⟨⟨ns, e⟩, _⟩ := hT a ha; rw [e] at hn; simp at hn
    · intro a ha b hb
      refine ⟨?_, ?_⟩
      · intro mid _ hn
        obtain ⟨⟨ns, e⟩, _⟩ := hT b hb; rw [e] at hn; simp at hn
      · intro hsetup hn x hx hax
        obtain ⟨j, hj, hbj, hrdy⟩ := (hT b hb).2 hn
        obtain ⟨⟨m, hm, _, hcase⟩, _⟩ := hA.1 a ha
        have hjx : x = j.id := by rw [hx] at hbj; simpa using hbj
        subst hjx
        have hinpre : j.id ∈ m.pre.store := by
          rcases hcase with ⟨ns, hnext, hnew, _⟩ | ⟨_, _, j0, hj0, hin⟩
          · rw [hsetup] at hnew; simp at hnew; subst hnew
            exfalso; revert hnext; cases m.st <;> decide
          · rw [hax] at hj0; simp at hj0; subst hj0; exact hin
        have h1 : j.id ∈ storeAt s m.pre.id := by
          rw [storeAt_of_mem (hs.bufNodup w) (mem_allBufs_of_machine hm).1]; exact hinpre
        have h2 : j.id ∈ storeAt s j.loc := hI.cons.located (j.id, j.loc) (List.mem_map.mpr ⟨j, hj, rfl⟩)
        have := unique_store hI.cons (hs.jobsNodup w) h1 h2
        exact ((ready_facts w hI hS hj hrdy).1 m hm).2 this

end JSL
