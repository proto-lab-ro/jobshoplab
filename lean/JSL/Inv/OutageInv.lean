import JSL.Inv.EnvReach
import JSL.Model.Guards
import JSL.Inv.Outage

/-!
# Outage records: an invariant of every state (C10)

`Outage.lean` and `Props/C10.lean` describe what the two striking transitions (WORKING → OUTAGE,
TRANSIT → OUTAGE) and the two releasing ones (OUTAGE → IDLE) do to the outage records of a
component.  Here the same facts are carried as an invariant through every handler, the batches, the
timed loop and `state.step`, and then along the episodes of the environment:

* a component that is not in OUTAGE has only inactive records;
* a component in OUTAGE was struck at some instant `a` that is not in the future: every active
  record starts at `a`, does not end before it starts, and the component is occupied exactly until
  `a + occupiedFor records` – the end of the longest active record, `a` itself when none is active
  (`OutageRec.machLongest`, `OutageRec.agvLongest`); that blocking time is never negative.

The initial state has to have all records inactive (`outRestB`); `Start` does not say so.
-/

namespace JSL

variable {orc : Oracle} {inst : Instance}

def AllInactive (l : List OutageState) : Prop := ∀ o ∈ l, ∃ last, o.st = .inactive last

def StruckAt (l : List OutageState) (a : Int) : Prop :=
  0 ≤ occupiedFor l ∧ ∀ o ∈ l, ∀ x y, o.st = .active x y → x = a ∧ x ≤ y ∧ y ≤ a + occupiedFor l

structure OutageInv (s : State) : Prop where
  machIdle : ∀ m ∈ s.machines, m.st ≠ .outage → AllInactive m.outages
  agvIdle : ∀ t ∈ s.transports, t.st ≠ .outage → AllInactive t.outages
  machOut : ∀ m ∈ s.machines, m.st = .outage →
    ∃ a, m.occ = some (a + occupiedFor m.outages) ∧ a ≤ s.time ∧ StruckAt m.outages a
  agvOut : ∀ t ∈ s.transports, t.st = .outage →
    ∃ a, t.occ = .at (a + occupiedFor t.outages) ∧ a ≤ s.time ∧ StruckAt t.outages a

/-- the outage invariant without the comparison of the strike instant with the clock (for the
state a step returns when the shop is done: its clock is re-stamped with the makespan) -/
structure OutageRec (s : State) : Prop where
  machIdle : ∀ m ∈ s.machines, m.st ≠ .outage → AllInactive m.outages
  agvIdle : ∀ t ∈ s.transports, t.st ≠ .outage → AllInactive t.outages
  machOut : ∀ m ∈ s.machines, m.st = .outage →
    ∃ a, m.occ = some (a + occupiedFor m.outages) ∧ StruckAt m.outages a
  agvOut : ∀ t ∈ s.transports, t.st = .outage →
    ∃ a, t.occ = .at (a + occupiedFor t.outages) ∧ StruckAt t.outages a

theorem OutageRec.of_time {s : State} {t : Int} (h : OutageInv { s with time := t }) : OutageRec s where
  machIdle := h.machIdle
  agvIdle := h.agvIdle
  machOut := fun m hm hs => by obtain ⟨a, h1, _, h3⟩ := h.machOut m hm hs; exact ⟨a, h1, h3⟩
  agvOut := fun t ht hs => by obtain ⟨a, h1, _, h3⟩ := h.agvOut t ht hs; exact ⟨a, h1, h3⟩

theorem struckAt_new {now : Int} {comp : List OutageState} (hn : ∀ sid k, 0 ≤ orc sid k)
    {cfgs : List OutageCfg} {r r' : Rng} {outs : List OutageState}
    (hd : ∀ o ∈ cfgs, ∀ t, o.dur = .det t → 0 ≤ t)
    (h : newOutageStates orc now comp cfgs r = .ok (outs, r')) : StruckAt outs now := by
  refine ⟨occupiedFor_new_nonneg hn hd h, ?_⟩
  intro o ho x y hst
  have hge := occupiedFor_ge outs (y - x) (mem_activeDurations.mpr ⟨o, ho, x, y, hst, rfl⟩)
  rcases (newOutageStates_spec hn cfgs r r' outs hd h).2 o ho with ⟨l, hl, _⟩ | ⟨d, hd0, hact⟩
  · rw [hl] at hst; cases hst
  · rw [hact] at hst
    simp at hst
    obtain ⟨rfl, rfl⟩ := hst
    exact ⟨rfl, by omega, by omega⟩

theorem allInactive_release (l : List OutageState) : AllInactive (l.map releaseOutage) := by
  intro o ho
  obtain ⟨o0, _, rfl⟩ := List.mem_map.mp ho
  unfold releaseOutage
  cases h : o0.st with
  | active a b => exact ⟨some b, rfl⟩
  | inactive l => exact ⟨l, by simp [h]⟩

theorem releaseOutage_remembers {o : OutageState} {a b : Int} (h : o.st = .active a b) :
    (releaseOutage o).st = .inactive (some b) ∧ (releaseOutage o).id = o.id := by
  unfold releaseOutage; simp [h]

theorem occupiedFor_allInactive {l : List OutageState} (h : AllInactive l) : occupiedFor l = 0 := by
  have : activeDurations l = [] := by
    unfold activeDurations
    apply List.filterMap_eq_nil_iff.mpr
    intro o ho
    obtain ⟨x, hx⟩ := h o ho
    simp [hx]
  unfold occupiedFor; rw [this]

theorem StruckAt.longest {l : List OutageState} {a : Int} (h : StruckAt l a) :
    (AllInactive l ∧ occupiedFor l = 0) ∨
    (∃ o ∈ l, ∃ y, o.st = .active a y ∧ a + occupiedFor l = y ∧
      ∀ o' ∈ l, ∀ x' y', o'.st = .active x' y' → x' = a ∧ y' ≤ y) := by
  rcases occupiedFor_attained l with ⟨hnil, h0⟩ | hm
  · left
    refine ⟨?_, h0⟩
    intro o ho
    cases hst : o.st with
    | inactive x => exact ⟨x, rfl⟩
    | active x y =>
      have : y - x ∈ activeDurations l := mem_activeDurations.mpr ⟨o, ho, x, y, hst, rfl⟩
      rw [hnil] at this; cases this
  · right
    obtain ⟨o, ho, x, y, hst, e⟩ := mem_activeDurations.mp hm
    obtain ⟨rfl, _, _⟩ := h.2 o ho x y hst
    refine ⟨o, ho, y, hst, by omega, ?_⟩
    intro o' ho' x' y' hst'
    obtain ⟨e1, _, e3⟩ := h.2 o' ho' x' y' hst'
    exact ⟨e1, by omega⟩

theorem outage_mach_step (w : WF inst) {s s' : State} (hI : StructInv inst s) (hP : OutageInv s)
    {m0 M' : MachineState} (hm0 : m0 ∈ s.machines) (hid : M'.id = m0.id)
    (hmach : s'.machines = (s.replaceMachine M').machines) (htr : s'.transports = s.transports)
    (htime : s'.time = s.time)
    (hidle : M'.st ≠ .outage → AllInactive M'.outages)
    (hout : M'.st = .outage → ∃ a, M'.occ = some (a + occupiedFor M'.outages) ∧ a ≤ s.time ∧ StruckAt M'.outages a) :
    OutageInv s' := by
  have hmn := hI.shape.machNodup w
  constructor
  · intro m hm hs
    rw [hmach] at hm
    rcases (mem_replaceMachine hmn hm0 hid m).mp hm with rfl | ⟨hm', _⟩
    · exact hidle hs
    · exact hP.machIdle m hm' hs
  · intro t ht hs
    rw [htr] at ht
    exact hP.agvIdle t ht hs
  · intro m hm hs
    rw [hmach] at hm
    rw [htime]
    rcases (mem_replaceMachine hmn hm0 hid m).mp hm with rfl | ⟨hm', _⟩
    · exact hout hs
    · exact hP.machOut m hm' hs
  · intro t ht hs
    rw [htr] at ht
    rw [htime]
    exact hP.agvOut t ht hs

theorem outage_agv_step (w : WF inst) {s s' : State} (hI : StructInv inst s) (hP : OutageInv s)
    {t0 T' : TransportState} (ht0 : t0 ∈ s.transports) (hid : T'.id = t0.id)
    (htr : s'.transports = (s.replaceTransport T').transports)
    (hmach : ∀ m' ∈ s'.machines, ∃ m ∈ s.machines, m.st = m'.st ∧ m.occ = m'.occ ∧ m.outages = m'.outages)
    (htime : s'.time = s.time)
    (hidle : T'.st ≠ .outage → AllInactive T'.outages)
    (hout : T'.st = .outage → ∃ a, T'.occ = .at (a + occupiedFor T'.outages) ∧ a ≤ s.time ∧ StruckAt T'.outages a) :
    OutageInv s' := by
  have htn := hI.shape.trNodup w
  constructor
  · intro m' hm' hs
    obtain ⟨m, hm, e1, _, e3⟩ := hmach m' hm'
    rw [← e3]
    exact hP.machIdle m hm (by rw [e1]; exact hs)
  · intro t ht hs
    rw [htr] at ht
    rcases (mem_replaceTransport htn ht0 hid t).mp ht with rfl | ⟨ht', _⟩
    · exact hidle hs
    · exact hP.agvIdle t ht' hs
  · intro m' hm' hs
    obtain ⟨m, hm, e1, e2, e3⟩ := hmach m' hm'
    rw [← e3, ← e2, htime]
    exact hP.machOut m hm (by rw [e1]; exact hs)
  · intro t ht hs
    rw [htr] at ht
    rw [htime]
    rcases (mem_replaceTransport htn ht0 hid t).mp ht with rfl | ⟨ht', _⟩
    · exact hout hs
    · exact hP.agvOut t ht' hs

/-- What one transition does to the outage data of the component it addresses.  `old` / `new` are
the component's records before and after, `wasOut` / `isOut` say whether its phase was / is OUTAGE,
`isRel` / `isStr` that the transition asks for IDLE / OUTAGE, `occAt x` that the component is now occupied until `x`,
`Cfg c` that `c` are the outages configured for the component. -/
inductive OutEffect (orc : Oracle) (now : Int) (Cfg : List OutageCfg → Prop) (wasOut isOut isRel isStr : Prop)
    (occAt : Int → Prop) (old new : List OutageState) : Prop
  /-- any transition that neither leaves nor enters OUTAGE keeps the records -/
  | keep : ¬ wasOut → ¬ isOut → new = old → OutEffect orc now Cfg wasOut isOut isRel isStr occAt old new
  /-- OUTAGE → IDLE releases every record -/
  | release : wasOut → ¬ isOut → isRel → new = old.map releaseOutage →
      OutEffect orc now Cfg wasOut isOut isRel isStr occAt old new
  /-- WORKING → OUTAGE / TRANSIT → OUTAGE samples the configured outages -/
  | strike (cfgs : List OutageCfg) (r r' : Rng) : Cfg cfgs → isOut → isStr →
      newOutageStates orc now old cfgs r = .ok (new, r') → occAt (now + occupiedFor new) →
      OutEffect orc now Cfg wasOut isOut isRel isStr occAt old new

theorem OutEffect.inv {now : Int} {Cfg : List OutageCfg → Prop} {wasOut isOut isRel isStr : Prop} {occAt : Int → Prop}
    {old new : List OutageState} (h : OutEffect orc now Cfg wasOut isOut isRel isStr occAt old new)
    (hn : ∀ sid k, 0 ≤ orc sid k) (hd : ∀ c, Cfg c → ∀ o ∈ c, ∀ t, o.dur = .det t → 0 ≤ t)
    (hold : ¬ wasOut → AllInactive old) :
    (¬ isOut → AllInactive new) ∧ (isOut → ∃ a, occAt (a + occupiedFor new) ∧ a ≤ now ∧ StruckAt new a) := by
  cases h with
  | keep h1 h2 e => subst e; exact ⟨fun _ => hold h1, fun h' => absurd h' h2⟩
  | release h1 h2 _ e => subst e; exact ⟨fun _ => allInactive_release old, fun h' => absurd h' h2⟩
  | strike cfgs r r' hc h1 _ hnew hocc =>
    exact ⟨fun h' => absurd h1 h', fun _ => ⟨now, hocc, Int.le_refl _, struckAt_new hn (hd cfgs hc) hnew⟩⟩

theorem machine_out_effect {s s' : State} {r r' : Rng} {tr : Transition} {mid : Nat}
    (hc : tr.comp = .m mid) (h : applyTransition orc inst s r tr = .ok (s', r')) :
    ∃ m0 ∈ s.machines, ∃ M' : MachineState, m0.id = mid ∧ M'.id = m0.id ∧
      s'.machines = (s.replaceMachine M').machines ∧ s'.transports = s.transports ∧
      OutEffect orc s.time (fun c => ∃ mc ∈ inst.machines, mc.outages = c) (m0.st = .outage) (M'.st = .outage)
        (tr.new = .m .idle) (tr.new = .m .outage) (fun x => M'.occ = some x) m0.outages M'.outages := by
  obtain ⟨m0, hm0, M', hmid, hid, hmach, htr, _, he⟩ := machine_record_effect hc h
  refine ⟨m0, hm0, M', hmid, hid, hmach, htr, ?_⟩
  cases he with
  | setup j op oc b1 b2 occ _ hst _ _ _ _ _ _ e =>
    subst e; exact .keep (by rw [hst]; simp) (by simp [MachineState.toSetup]) rfl
  | work occ _ hst e => subst e; exact .keep (by rw [hst]; simp) (by simp [MachineState.toWorking]) rfl
  | strike mc outs hn _ hmc _ hnew e => subst e; exact .strike mc.outages r r' ⟨mc, hmc, rfl⟩ rfl hn hnew rfl
  | release jid b1 b2 hn hst e => subst e; exact .release hst (by simp [MachineState.toIdle]) hn rfl

theorem agv_out_effect (w : WF inst) {s s' : State} {r r' : Rng} {tr : Transition} {tid : Nat}
    (hI : StructInv inst s) (hc : tr.comp = .t tid) (h : applyTransition orc inst s r tr = .ok (s', r')) :
    ∃ t0 ∈ s.transports, ∃ T' : TransportState, t0.id = tid ∧ T'.id = t0.id ∧
      s'.transports = (s.replaceTransport T').transports ∧
      (∀ m' ∈ s'.machines, ∃ m ∈ s.machines, m.st = m'.st ∧ m.occ = m'.occ ∧ m.outages = m'.outages) ∧
      OutEffect orc s.time (fun c => ∃ tc ∈ inst.transports, tc.outages = c) (t0.st = .outage) (T'.st = .outage)
        (tr.new = .t .idle) (tr.new = .t .outage) (fun x => T'.occ = .at x) t0.outages T'.outages := by
  have hmach : ∀ m' ∈ s'.machines, ∃ m ∈ s.machines, m.st = m'.st ∧ m.occ = m'.occ ∧ m.outages = m'.outages := by
    intro m' hm'
    obtain ⟨m, hm, e⟩ := (agv_touch w hI hc h).1 m' hm'
    exact ⟨m, hm, (congrArg MachineState.st e).symm, (congrArg MachineState.occ e).symm,
      (congrArg MachineState.outages e).symm⟩
  cases applyTransition_ran h with
  | m m hcm => rw [hc] at hcm; cases hcm
  | t t0 hct ht0 hd ns hn hah h =>
    have hid : t0.id = tid := by rw [hc] at hct; cases hct; rfl
    cases hd with
    | idleToWorking =>
      have hst0 := (agvHandler_idleToWorking hah).1
      obtain ⟨j, cur, target, src, bc, c, _, _, _, _, _, _, _, _, _, rfl⟩ := idleToWorking_spec h
      exact ⟨t0, ht0, t0.toPickup cur bc.id target (s.time + c.cur orc r) j.id, hid, rfl, rfl,
        hmach, .keep (by rw [hst0]; simp) (by simp [TransportState.toPickup]) rfl⟩
    | pickupToWaitingpickup =>
      have hst0 := (agvHandler_pickupToWaiting hah).2
      obtain ⟨occ, _, _, _, rfl⟩ := pickupToWaiting_spec h
      exact ⟨t0, ht0, t0.toWaiting occ, hid, rfl, rfl,
        hmach, .keep (by rw [hst0]; simp) (by simp [TransportState.toWaiting]) rfl⟩
    | waitingPickupToWaitingPickup =>
      have hst0 := (agvHandler_waitingToWaiting hah).2
      obtain ⟨occ, _, _, rfl⟩ := waitingToWaiting_spec h
      exact ⟨t0, ht0, t0.toWaiting occ, hid, rfl, rfl,
        hmach, .keep (by rw [hst0]; simp) (by simp [TransportState.toWaiting]) rfl⟩
    | outageToIdle =>
      have hst0 := agvHandler_outageToIdle hah
      obtain ⟨_, rfl⟩ := agvOutageToIdle_spec h
      exact ⟨t0, ht0, t0.toIdle, hid, rfl, rfl,
        hmach, .release hst0.1 (by simp [TransportState.toIdle]) (by rw [hn, hst0.2]) rfl⟩
    | pickupToTransit =>
      have hst0 : t0.st ≠ .outage := by
        rcases (agvHandler_pickupToTransit hah).2 with e | e <;> rw [e] <;> simp
      obtain ⟨j, src, dst, tt, bss1, bss2, _, _, _, _, _, hcase⟩ := pickupToTransit_spec h
      refine ⟨t0, ht0, t0.toTransit (s.time + tt) j.id bss2, hid, rfl, ?_, hmach,
        .keep hst0 (by simp [TransportState.toTransit]) rfl⟩
      rcases hcase with ⟨fb, _, _, _, _, _, rfl⟩ | ⟨mid, ms, bs, ms', _, _, _, _, _, _, _, rfl⟩ <;> rfl
    | transitToOutage =>
      have hns := (agvHandler_transitToOutage hah).1
      obtain ⟨j, cur, pick, drop, tc, outs, bss1, bss2, _, _, _, _, htc, _, hnew, hcase⟩ := transitToOutage_spec h
      refine ⟨t0, ht0, t0.toOutage j.id bss1 outs (s.time + occupiedFor outs) drop, hid, rfl, ?_, hmach,
        .strike tc.outages r r' ⟨tc, htc, rfl⟩ rfl (by rw [hn, hns]) hnew rfl⟩
      rcases hcase with ⟨mid, ms, _, _, _, _, rfl⟩ | ⟨bid, b, _, _, _, _, rfl⟩ <;> rfl

theorem mout_cfg (nn : NonNeg orc inst) : ∀ c, (∃ mc ∈ inst.machines, mc.outages = c) →
    ∀ o ∈ c, ∀ t, o.dur = .det t → 0 ≤ t := by
  rintro c ⟨mc, hmc, rfl⟩ o ho
  exact nn.mout mc hmc o ho

theorem tout_cfg (nn : NonNeg orc inst) : ∀ c, (∃ tc ∈ inst.transports, tc.outages = c) →
    ∀ o ∈ c, ∀ t, o.dur = .det t → 0 ≤ t := by
  rintro c ⟨tc, htc, rfl⟩ o ho
  exact nn.tout tc htc o ho

theorem applyTransition_outage (w : WF inst) (nn : NonNeg orc inst) {s s' : State} {r r' : Rng} {tr : Transition}
    (hI : StructInv inst s) (hP : OutageInv s)
    (h : applyTransition orc inst s r tr = .ok (s', r')) : OutageInv s' := by
  have htime := applyTransition_time h
  cases applyTransition_ran h with
  | m m hc =>
    obtain ⟨m0, hm0, M', _, hid, hmach, htr, heff⟩ := machine_out_effect hc h
    have := heff.inv nn.orc (mout_cfg nn) (hP.machIdle m0 hm0)
    exact outage_mach_step w hI hP hm0 hid hmach htr htime this.1 this.2
  | t t hc =>
    obtain ⟨t0, ht0, T', _, hid, htr, hmach, heff⟩ := agv_out_effect w hI hc h
    have := heff.inv nn.orc (tout_cfg nn) (hP.agvIdle t0 ht0)
    exact outage_agv_step w hI hP ht0 hid htr hmach htime this.1 this.2

theorem OutageInv.advance {s : State} {t : Int} (h : OutageInv s) (hle : s.time ≤ t) : OutageInv { s with time := t } where
  machIdle := h.machIdle
  agvIdle := h.agvIdle
  machOut := fun m hm hs => by
    obtain ⟨a, h1, h2, h3⟩ := h.machOut m hm hs
    exact ⟨a, h1, Int.le_trans h2 hle, h3⟩
  agvOut := fun t' ht hs => by
    obtain ⟨a, h1, h2, h3⟩ := h.agvOut t' ht hs
    exact ⟨a, h1, Int.le_trans h2 hle, h3⟩

/-- No side condition on the batches is needed. -/
def OutagePass (orc : Oracle) (inst : Instance) (cfg : SMConfig) (w : WF inst) (nn : NonNeg orc inst) :
    Pass orc inst cfg where
  P := OutageInv
  GS := fun _ _ => True
  Adm := fun _ _ => True
  tail := fun _ => trivial
  step := fun hI _ hP _ _ _ _ ha => ⟨applyTransition_outage w nn hI hP ha, trivial⟩
  advance := fun _ _ hP hle _ => hP.advance hle
  timed := fun _ _ _ _ _ _ => trivial
  timedOnly := fun _ _ _ _ => trivial
  action := fun _ _ _ _ => trivial

theorem isInactive_sound {o : OutageState} (h : o.st.isInactive = true) : ∃ last, o.st = .inactive last := by
  cases hst : o.st with
  | inactive l => exact ⟨l, rfl⟩
  | active a b => rw [hst] at h; simp [OutSt.isInactive] at h

/-- at rest with inactive records the invariant holds: nothing is in OUTAGE -/
theorem OutageInv.of_rest {s : State} (hr : restB s = true) (h0 : outRestB s = true) : OutageInv s := by
  simp only [restB, Bool.and_eq_true, List.all_eq_true, beq_iff_eq] at hr
  obtain ⟨⟨hm, _⟩, ht⟩ := hr
  simp only [outRestB, Bool.and_eq_true, List.all_eq_true] at h0
  obtain ⟨h1, h2⟩ := h0
  constructor
  · intro m hm' _ o ho
    exact isInactive_sound (h1 m hm' o ho)
  · intro t ht' _ o ho
    exact isInactive_sound (h2 t ht' o ho)
  · intro m hm' hs
    rw [(hm m hm').1] at hs; cases hs
  · intro t ht' hs
    rw [(ht t ht').1.1.1] at hs; cases hs

theorem occursA_outage {cfg : SMConfig} {s0 σ : State} (hst : Start orc inst s0) (h0 : outRestB s0 = true)
    (h : OccursA orc inst cfg s0 σ) : OutageInv σ := by
  obtain ⟨w, _⟩ := initOKB_sound hst.init
  have nn := nonnegB_sound hst.samples hst.nonneg
  exact occursA_pass (OutagePass orc inst cfg w nn) hst (OutageInv.of_rest hst.rest h0) (fun _ _ _ => trivial) h

theorem OutageRec.machLongest {s : State} (h : OutageRec s) {m : MachineState} (hm : m ∈ s.machines)
    (hs : m.st = .outage) :
    ∃ a, (AllInactive m.outages ∧ m.occ = some a) ∨
      (∃ o ∈ m.outages, ∃ y, o.st = .active a y ∧ m.occ = some y ∧
        ∀ o' ∈ m.outages, ∀ x' y', o'.st = .active x' y' → x' = a ∧ y' ≤ y) := by
  obtain ⟨a, hocc, hst⟩ := h.machOut m hm hs
  refine ⟨a, ?_⟩
  rcases hst.longest with ⟨h1, h2⟩ | ⟨o, ho, y, h1, h2, h3⟩
  · left; exact ⟨h1, by rw [hocc, h2]; simp⟩
  · right; exact ⟨o, ho, y, h1, by rw [hocc, h2], h3⟩

theorem OutageRec.agvLongest {s : State} (h : OutageRec s) {t : TransportState} (ht : t ∈ s.transports)
    (hs : t.st = .outage) :
    ∃ a, (AllInactive t.outages ∧ t.occ = .at a) ∨
      (∃ o ∈ t.outages, ∃ y, o.st = .active a y ∧ t.occ = .at y ∧
        ∀ o' ∈ t.outages, ∀ x' y', o'.st = .active x' y' → x' = a ∧ y' ≤ y) := by
  obtain ⟨a, hocc, hst⟩ := h.agvOut t ht hs
  refine ⟨a, ?_⟩
  rcases hst.longest with ⟨h1, h2⟩ | ⟨o, ho, y, h1, h2, h3⟩
  · left; exact ⟨h1, by rw [hocc, h2]; simp⟩
  · right; exact ⟨o, ho, y, h1, by rw [hocc, h2], h3⟩

end JSL
