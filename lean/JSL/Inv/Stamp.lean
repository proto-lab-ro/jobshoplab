import JSL.Inv.TimeMachine
import JSL.Inv.Outage
import JSL.Lib.StepSpec

/-!
# The clock of a finished episode is at or after the end of every finished operation
-/

namespace JSL

variable {orc : Oracle} {inst : Instance}

def Stamped (s : State) : Prop :=
  ∀ j ∈ s.jobs, ∀ o ∈ j.ops, o.st = .done → ∀ b, o.stop = some b → b ≤ s.time

theorem lastDoneEnd_bound {s : State} {x : Option Int} (h : lastDoneEnd s = .ok x) :
    Stamped (match x with | some e => { s with time := e } | none => s) := by
  unfold lastDoneEnd at h
  obtain ⟨ends, hm, h⟩ := except_bind_eq_ok h
  obtain ⟨hm1, _⟩ := mapM_ok_mem hm
  intro j hj o ho hd b hb
  have hmem : o ∈ (s.jobs.flatMap (·.ops)).filter (·.st == .done) := by
    cases x <;> exact List.mem_filter.mpr ⟨List.mem_flatMap.mpr ⟨j, hj, ho⟩, by simp [hd]⟩
  have hb' : ∃ y ∈ ends, b = y := by
    obtain ⟨y, hy, e⟩ := hm1 o (by cases x <;> exact hmem)
    refine ⟨y, hy, ?_⟩
    have hb2 : o.stop = some b := by cases x <;> exact hb
    rw [hb2] at e
    simpa [pure, Except.pure] using e
  obtain ⟨y, hy, rfl⟩ := hb'
  cases ends with
  | nil => cases hy
  | cons e es =>
    simp [pure, Except.pure] at h
    subst h
    show b ≤ es.foldl max e
    rcases List.mem_cons.mp hy with rfl | hy
    · exact foldl_max_ge es b
    · exact foldl_max_ge_mem es e b hy

/-- a step that reports `done` leaves the clock at or after the end of every finished operation -/
theorem smStep_done_stamp {cfg : SMConfig} {fuel : Nat} {s0 : State}
    {r : Rng} {a : Action} {res : SMResult} {r' : Rng} {mic : List State}
    (h : smStep orc inst cfg fuel s0 r a = .ok (res, r', mic)) (hd : res.done = true) : Stamped res.state := by
  obtain ⟨p, _, ⟨_, _, _, rfl⟩ | ⟨_, t, timed, poss, tele, out, _, _, _, _, _, _, _, hres⟩⟩ := smStep_cases h
  · cases hd
  · rcases hres with ⟨_, rfl⟩ | ⟨_, _, e, hl, rfl⟩ | ⟨_, _, _, _, rfl⟩
    · cases hd
    · cases e <;> exact lastDoneEnd_bound hl
    · cases hd

end JSL
