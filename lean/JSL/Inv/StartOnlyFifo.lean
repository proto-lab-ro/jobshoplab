import JSL.Inv.StartOnly
import JSL.Inv.Applies

/-!
# `PreFlex` is needed: with ordered pre-buffers operations start without an accepted offer

`ExFifo.inst` is the example instance (2 jobs × 2 machines, one AGV, total tables) with FIFO
pre-buffers and a long first operation of job 1.  It meets every guard of `Start`, and its
machines take their jobs themselves:

* `fifo_dispatch_starts` – accepting the very first offer (an AGV dispatch) starts an operation
  inside the same step;
* `c06_ordered_prebuffers_start_by_themselves` (`Props/C06.lean`) – after `reset, 1, 0, 1, 1` the
  environment holds a single offer, no machine start; **declining it** (forced jump) starts an
  operation.
-/

namespace JSL

namespace ExFifo

def bcF (id : Nat) (cap : Int) (role : BufRole) (parent : Option Comp) : BufCfg :=
  { id := id, type := .fifo, cap := cap, role := role, parent := parent }

def mcF (id pre post buf : Nat) : MachineCfg :=
  { id := id, outages := [], setup := [((0, 0), .det 0)], pre := bcF pre Ex.big .component (some (.m id)),
    post := Ex.bc post Ex.big .component (some (.m id)), buf := Ex.bc buf 1 .component (some (.m id)) }

def inst : Instance :=
  { jobs := [{ id := 0, ops := [{ job := 0, idx := 0, machine := 0, dur := .det 3, tool := 0 },
                                { job := 0, idx := 1, machine := 1, dur := .det 2, tool := 0 }] },
             { id := 1, ops := [{ job := 1, idx := 0, machine := 1, dur := .det 20, tool := 0 },
                                { job := 1, idx := 1, machine := 0, dur := .det 1, tool := 0 }] }],
    travel := ExT.instT.travel,
    machines := [mcF 0 0 1 2, mcF 1 3 4 5],
    buffers := ExT.instT.buffers,
    transports := ExT.instT.transports }

theorem start : Start ExT.orc0 inst Ex.s0 :=
  ⟨by decide +kernel, by decide +kernel, by decide +kernel, by decide +kernel, fun _ _ => Int.le_refl 0⟩

def runScript : List AgentAct → EnvState → Except Err EnvState
  | [], e => .ok e
  | a :: as, e => do
    let out ← envStep ExT.orc0 inst ExT.ec ExT.st e a
    runScript as out.env

theorem runScript_reach : ∀ (as : List AgentAct) {e e' : EnvState},
    EnvReach ExT.orc0 inst ExT.ec ExT.st Ex.s0 e → runScript as e = .ok e' → EnvReach ExT.orc0 inst ExT.ec ExT.st Ex.s0 e'
  | [], e, e', he, h => by simp [runScript] at h; subst h; exact he
  | a :: as, e, e', he, h => by
    simp only [runScript] at h
    obtain ⟨out, hout, h⟩ := except_bind_eq_ok h
    exact runScript_reach as (EnvReach.step he hout) h

/-- the negation of `NoStartSince s s'` as a Boolean -/
def startedB (s s' : State) : Bool :=
  s'.jobs.any fun j' => j'.ops.any fun o' => o'.st != .idle &&
    s.jobs.all fun j => !(j.id == j'.id) || j.ops.all fun o => !(o.job == o'.job && o.idx == o'.idx) || o.st == .idle

theorem startedB_sound {s s' : State} (h : startedB s s' = true) : ¬ NoStartSince s s' := by
  intro hns
  simp only [startedB, List.any_eq_true, Bool.and_eq_true, List.all_eq_true, Bool.or_eq_true,
    Bool.not_eq_true', beq_eq_false_iff_ne, bne_iff_ne, beq_iff_eq, Bool.and_eq_false_iff] at h
  obtain ⟨j', hj', o', ho', hni, hall⟩ := h
  obtain ⟨j, hj, e, o, ho, k1, k2, hn⟩ := hns j' hj' o' ho' hni
  rcases hall j hj with h1 | h1
  · exact h1 e
  · rcases h1 o ho with h2 | h2
    · rcases h2 with h3 | h3
      · exact h3 k1
      · exact h3 k2
    · exact hn h2

/-- reset, the script, then the action `a`: does the last step start an operation while `n` offers
were held, the first of them not a machine start? -/
def lastStepStarts (script : List AgentAct) (a : AgentAct) (n : Nat) : Bool :=
  match envReset ExT.orc0 inst ExT.ec Ex.s0 ExT.r0 with
  | .error _ => false
  | .ok (e, _) =>
    match runScript script e with
    | .error _ => false
    | .ok e1 =>
      match envStep ExT.orc0 inst ExT.ec ExT.st e1 a with
      | .error _ => false
      | .ok out =>
        e1.res.possible.length == n && e1.res.possible.all (fun tr => tr.new != .m .setup) &&
          startedB e1.res.state out.env.res.state

theorem lastStepStarts_sound {script : List AgentAct} {a : AgentAct} {n : Nat} (h : lastStepStarts script a n = true) :
    ∃ e out, EnvReach ExT.orc0 inst ExT.ec ExT.st Ex.s0 e ∧ envStep ExT.orc0 inst ExT.ec ExT.st e a = .ok out ∧
      e.res.possible.length = n ∧ (∀ tr ∈ e.res.possible, tr.new ≠ .m .setup) ∧
      ¬ NoStartSince e.res.state out.env.res.state := by
  unfold lastStepStarts at h
  split at h
  · cases h
  · rename_i e mic hreset
    split at h
    · cases h
    · rename_i e1 h1
      split at h
      · cases h
      · rename_i out hout
        simp only [Bool.and_eq_true, beq_iff_eq, List.all_eq_true, bne_iff_ne] at h
        exact ⟨e1, out, runScript_reach _ (EnvReach.reset hreset) h1, hout, h.1.1, h.1.2, startedB_sound h.2⟩

end ExFifo

/-- **`PreFlex` cannot be dropped (accepted dispatch).**  Right after `reset`, accepting the head
offer – an AGV dispatch – starts an operation inside the same step. -/
theorem fifo_dispatch_starts :
    ∃ e out, EnvReach ExT.orc0 ExFifo.inst ExT.ec ExT.st Ex.s0 e ∧
      envStep ExT.orc0 ExFifo.inst ExT.ec ExT.st e .accept = .ok out ∧
      e.res.possible.length = 2 ∧ (∀ tr ∈ e.res.possible, tr.new ≠ .m .setup) ∧
      ¬ NoStartSince e.res.state out.env.res.state :=
  ExFifo.lastStepStarts_sound (script := []) (by decide +kernel)

/-- non-vacuity of the positive theorems: the example instances have FLEX pre-buffers -/
example : PreFlex Ex.inst ∧ PreFlex ExT.instT := by
  constructor <;> intro mc h <;> simp [Ex.inst, ExT.instT, Ex.mc, Ex.bc] at h <;> rcases h with rfl | rfl <;> rfl

end JSL
