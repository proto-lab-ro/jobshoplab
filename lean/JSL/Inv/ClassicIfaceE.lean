import JSL.Inv.ClassicEnvE
import JSL.Inv.ClassicReturns
import JSL.Inv.ClassicEnvDefsG

/-!
# Classic instances, any `allowEarly`: the interface `StepIfaceG`

The environment level for classic runs with ANY `allowEarly`; the fuel bound is `6·#machines + 11·#AGVs + 2`.

Any number of AGVs (`ClassicRunAny`): everything that does not mention a target schedule.
* `cinvE_init_any`, `cpassE_init_any`, `ClassicRunAny.pass` – the pass `CPassE` is a pass for such a run
  (`PassRun`), so no step of it ever raises (`PassRun.step`, `PassRun.reset` with `cpassE_total_true`);
* `classic_settled_any` – at a decision point every AGV is idle, unclaimed and empty, or waits (not due)
  for the end of the processing record of a running job; every machine is idle or working.

At least as many AGVs as jobs (`ClassicRunEarly`):
* `stepIfaceG_early` – the interface the steering strategy works with (this is where the number of AGVs
  matters: a forced jump keeps the run in step with the target schedule only if a waiting job always
  finds an idle AGV).
-/

namespace JSL

variable {orc : Oracle} {inst : Instance}


structure ClassicRunAny (orc : Oracle) (inst : Instance) (ec : EnvCfg) (st : RewardStatic) (s0 : State) : Prop where
  start : Start orc inst s0
  classic : Classic inst
  startOK : classicStartB inst s0 = true
  trunc : ec.mw.truncActive = false
  joker : 0 ≤ ec.mw.jokerInit
  numOps : st.numOps ≠ 0
  norm : st.tmax - st.lb ≠ 0
  fuel : 6 * inst.machines.length + 11 * inst.transports.length + 2 ≤ ec.fuel
  jobs : inst.jobs ≠ []

variable {ec : EnvCfg} {st : RewardStatic} {s0 : State}

theorem ClassicRunAny.wf (hR : ClassicRunAny orc inst ec st s0) : WF inst := (initOKB_sound hR.start.init).1
theorem ClassicRunAny.nn (hR : ClassicRunAny orc inst ec st s0) : NonNeg orc inst :=
  nonnegB_sound hR.start.samples hR.start.nonneg

theorem cinvE_init_any (hR : ClassicRunAny orc inst ec st s0) : CInvE inst s0 :=
  (cinv_start hR.start hR.classic hR.startOK).toE

theorem cpassE_init_any (hR : ClassicRunAny orc inst ec st s0) : BundleE inst s0 ∧ DurInv inst s0 :=
  ⟨⟨AgvFull.of_rest hR.start.rest hR.start.placed, readyB_sound (classicStartB_facts hR.startOK).1, cinvE_init_any hR⟩,
   DurInv.of_rest hR.start.rest⟩

theorem ClassicRunAny.pass (hR : ClassicRunAny orc inst ec st s0) :
    PassRun orc inst ec st s0 (CPassE orc inst ec.sm hR.wf hR.nn hR.classic) where
  start := hR.start
  classic := hR.classic
  startOK := hR.startOK
  trunc := hR.trunc
  joker := hR.joker
  numOps := hR.numOps
  norm := hR.norm
  jobs := hR.jobs
  adm := fun _ _ _ h => h
  init := cpassE_init_any hR
  agv := fun hP => ⟨hP.1.full, fun t ht hb => hP.1.cinv.agvAt t ht hb⟩

theorem classic_settled_any (hR : ClassicRunAny orc inst ec st s0) {e : EnvState} (h : EnvReach orc inst ec st s0 e)
    (hne : e.res.possible ≠ []) :
    (∀ t ∈ e.res.state.transports, (t.st = .idle ∧ t.job = none ∧ t.buffer.store = []) ∨
       (t.st = .waitingpickup ∧ t.buffer.store = [] ∧ ∃ j ∈ e.res.state.jobs, t.job = some j.id ∧ j.running = true ∧
          ∃ c, t.occ = .at c ∧ e.res.state.time < c ∧ ∃ o ∈ j.ops, o.st = .processing ∧ o.stop = some c)) ∧
    (∀ m ∈ e.res.state.machines, m.st = .idle ∨ m.st = .working) ∧
    BundleE inst e.res.state ∧ DurInv inst e.res.state := by
  obtain ⟨hI, hS, hB, hD⟩ := hR.pass.live h hne
  obtain ⟨h1, h2⟩ := settled_of_quiet hS hB ((envReach_inv hR.start h).quiet hne)
  exact ⟨h1, h2, hB, hD⟩

theorem classic_busy_waits_any (hR : ClassicRunAny orc inst ec st s0) {e : EnvState}
    (h : EnvReach orc inst ec st s0 e) (hne : e.res.possible ≠ []) :
    ∀ t ∈ e.res.state.transports, t.st ≠ .idle → ∃ j ∈ e.res.state.jobs, t.job = some j.id ∧ j.running = true := by
  intro t ht hb
  rcases (classic_settled_any hR h hne).1 t ht with h1 | ⟨_, _, j, hj, hjob, hrun, _⟩
  · exact absurd h1.1 hb
  · exact ⟨j, hj, hjob, hrun⟩


structure ClassicRunEarly (orc : Oracle) (inst : Instance) (ec : EnvCfg) (st : RewardStatic) (s0 : State) : Prop where
  start : Start orc inst s0
  classic : Classic inst
  startOK : classicStartB inst s0 = true
  agvs : inst.jobs.length ≤ inst.transports.length
  trunc : ec.mw.truncActive = false
  joker : 0 ≤ ec.mw.jokerInit
  numOps : st.numOps ≠ 0
  norm : st.tmax - st.lb ≠ 0
  fuel : 6 * inst.machines.length + 11 * inst.transports.length + 2 ≤ ec.fuel
  jobs : inst.jobs ≠ []

theorem ClassicRunEarly.toAny (hR : ClassicRunEarly orc inst ec st s0) : ClassicRunAny orc inst ec st s0 :=
  ⟨hR.start, hR.classic, hR.startOK, hR.trunc, hR.joker, hR.numOps, hR.norm, hR.fuel, hR.jobs⟩

theorem ClassicRunEarly.wf (hR : ClassicRunEarly orc inst ec st s0) : WF inst := hR.toAny.wf
theorem ClassicRunEarly.nn (hR : ClassicRunEarly orc inst ec st s0) : NonNeg orc inst := hR.toAny.nn

theorem cinvE_init (hR : ClassicRunEarly orc inst ec st s0) : CInvE inst s0 := cinvE_init_any hR.toAny

/-- the pass invariant at every state the environment holds -/
structure CRE (inst : Instance) (res : SMResult) : Prop where
  fin : ∃ t, BundleE inst { res.state with time := t } ∧ DurInv inst { res.state with time := t }
  live : res.possible ≠ [] → BundleE inst res.state ∧ DurInv inst res.state

theorem envReach_crE (hR : ClassicRunEarly orc inst ec st s0) {e : EnvState} (h : EnvReach orc inst ec st s0 e) :
    CRE inst e.res :=
  ⟨hR.toAny.pass.fin h, fun hne => (hR.toAny.pass.live h hne).2.2⟩

theorem stepIfaceG_early (hR : ClassicRunEarly orc inst ec st s0) {S : Nat → Nat → Int} (hT : TargetOK inst S) :
    StepIfaceG orc inst ec st s0 S where
  reset := hR.toAny.pass.syncReset hT (cpassE_total hR.wf hR.nn hR.classic hR.agvs hT) hR.fuel
  step := hR.toAny.pass.syncStep (cpassE_total hR.wf hR.nn hR.classic hR.agvs hT) hR.fuel
    (fun hI hS hP _ _ hnew happ hQ => sync_stepE hR.wf hI hS hP.1 hnew happ hQ)
    (fun hI hS hP hQ hnone hf => sync_jumpE hR.wf hR.classic hT hI hS hP.2 hP.1.cinv hQ hnone hf)
  atPre := by
    intro e hreach hne pt hpt hnil
    obtain ⟨hI, hS, hB, _⟩ := hR.toAny.pass.live hreach hne
    exact no_dispatch_at_pre_early hR.wf hR.classic hI hS hB.full hR.agvs (classic_busy_waits_any hR.toAny hreach hne)
      hpt hnil

end JSL
