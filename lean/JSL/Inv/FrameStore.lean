import JSL.Inv.Views

/-! How `storeAt` changes under the replace-by-id operations, given duplicate-free ids. -/

namespace JSL

theorem Shape.replaceMachine {inst : Instance} {s : State} (hs : Shape inst s) (w : WF inst)
    {m m' : MachineState} (hm : m ∈ s.machines) (hk : mKey m' = mKey m) :
    Shape inst (s.replaceMachine m') where
  jobs := hs.jobs
  transports := hs.transports
  buffers := hs.buffers
  machines := by
    have hid : m'.id = m.id := by have := congrArg Prod.fst hk; simpa [mKey] using this
    have := map_replace (key := fun (y : MachineState) => y.id) (hs.machNodup w) hm hid mKey hk
    simp only [State.replaceMachine]
    rw [← hs.machines]
    simpa using this

theorem Shape.replaceTransport {inst : Instance} {s : State} (hs : Shape inst s) (w : WF inst)
    {t t' : TransportState} (ht : t ∈ s.transports) (hk : tKey t' = tKey t) :
    Shape inst (s.replaceTransport t') where
  jobs := hs.jobs
  machines := hs.machines
  buffers := hs.buffers
  transports := by
    have hid : t'.id = t.id := by have := congrArg Prod.fst hk; simpa [tKey] using this
    have := map_replace (key := fun (y : TransportState) => y.id) (hs.trNodup w) ht hid tKey hk
    simp only [State.replaceTransport]
    rw [← hs.transports]
    simpa using this

theorem Shape.replaceJob {inst : Instance} {s : State} (hs : Shape inst s) (w : WF inst)
    {j j' : JobState} (hj : j ∈ s.jobs) (hk : jKey j' = jKey j) :
    Shape inst (s.replaceJob j') where
  machines := hs.machines
  transports := hs.transports
  buffers := hs.buffers
  jobs := by
    have hid : j'.id = j.id := by have := congrArg Prod.fst hk; simpa [jKey] using this
    have := map_replace (key := fun (y : JobState) => y.id) (hs.jobsNodup w) hj hid jKey hk
    simp only [State.replaceJob]
    rw [← hs.jobs]
    simpa using this

theorem Shape.bufsNodup {inst : Instance} {s : State} (hs : Shape inst s) (w : WF inst) :
    (s.buffers.map (·.id)).Nodup := by
  have h := hs.bufNodup w
  unfold allBufStates at h
  simp only [List.map_append] at h
  exact (List.nodup_append.mp (List.nodup_append.mp h).1).1

/-- the ids of the three buffers of all machines are pairwise different -/
theorem Shape.machBufsNodup {inst : Instance} {s : State} (hs : Shape inst s) (w : WF inst) :
    (s.machines.flatMap fun m => [m.pre, m.buffer, m.post].map (·.id)).Nodup := by
  have h := hs.bufNodup w
  unfold allBufStates at h
  simp only [List.map_append, List.map_flatMap] at h
  exact (List.nodup_append.mp (List.nodup_append.mp h).1).2.1

theorem Shape.replaceBuffer {inst : Instance} {s : State} (hs : Shape inst s) (w : WF inst)
    {b b' : BufState} (hb : b ∈ s.buffers) (hk : b'.id = b.id) :
    Shape inst (s.replaceBuffer b') where
  jobs := hs.jobs
  machines := hs.machines
  transports := hs.transports
  buffers := by
    have := map_replace (key := fun (y : BufState) => y.id) (hs.bufsNodup w) hb hk (fun y => y.id) hk
    simp only [State.replaceBuffer]
    rw [← hs.buffers]
    simpa using this

theorem mem_allBufs_of_machine {s : State} {m : MachineState} (hm : m ∈ s.machines) :
    m.pre ∈ allBufStates s ∧ m.buffer ∈ allBufStates s ∧ m.post ∈ allBufStates s := by
  simp only [mem_allBufs]
  exact ⟨Or.inr (Or.inl ⟨m, hm, Or.inl rfl⟩), Or.inr (Or.inl ⟨m, hm, Or.inr (Or.inl rfl)⟩),
    Or.inr (Or.inl ⟨m, hm, Or.inr (Or.inr rfl)⟩)⟩

theorem mem_allBufs_of_transport {s : State} {t : TransportState} (ht : t ∈ s.transports) :
    t.buffer ∈ allBufStates s := by
  simp only [mem_allBufs]; exact Or.inr (Or.inr ⟨t, ht, rfl⟩)

theorem mem_allBufs_of_buffer {s : State} {b : BufState} (hb : b ∈ s.buffers) : b ∈ allBufStates s := by
  simp only [mem_allBufs]; exact Or.inl hb

theorem machine_buf_ids_ne {inst : Instance} {s : State} (hs : Shape inst s) (w : WF inst)
    {m : MachineState} (hm : m ∈ s.machines) :
    m.pre.id ≠ m.buffer.id ∧ m.pre.id ≠ m.post.id ∧ m.buffer.id ≠ m.post.id := by
  have h2 := hs.machBufsNodup w
  obtain ⟨l1, l2, hl⟩ := List.append_of_mem hm
  rw [hl] at h2
  simp only [List.flatMap_append, List.flatMap_cons, List.map_cons, List.map_nil] at h2
  have h3 := (List.nodup_append.mp h2).2.1
  have h4 := (List.nodup_append.mp h3).1
  simp at h4
  exact ⟨h4.1.1, h4.1.2, h4.2⟩

theorem storeAt_replaceMachine {inst : Instance} {s : State} (hs : Shape inst s) (w : WF inst)
    {m m' : MachineState} (hm : m ∈ s.machines) (hk : mKey m' = mKey m) (i : Nat) :
    storeAt (s.replaceMachine m') i =
      if i = m.pre.id then m'.pre.store else if i = m.buffer.id then m'.buffer.store
      else if i = m.post.id then m'.post.store else storeAt s i := by
  have hs' := hs.replaceMachine w hm hk
  have hnd := hs.bufNodup w
  have hnd' := hs'.bufNodup w
  have hid : m'.id = m.id := by have := congrArg Prod.fst hk; simpa [mKey] using this
  have hkk : m'.pre.id = m.pre.id ∧ m'.buffer.id = m.buffer.id ∧ m'.post.id = m.post.id := by
    simp only [mKey, Prod.mk.injEq] at hk; exact ⟨hk.2.1, hk.2.2.1, hk.2.2.2⟩
  have hm' : m' ∈ (s.replaceMachine m').machines := replaceMachine_mem hm hid
  have hb' := mem_allBufs_of_machine hm'
  have hb := mem_allBufs_of_machine hm
  by_cases h1 : i = m.pre.id
  · simp only [h1, if_true]; rw [← hkk.1]; exact storeAt_of_mem hnd' hb'.1
  · by_cases h2 : i = m.buffer.id
    · simp only [h1, h2, if_true, if_false]
      rw [if_neg (by rw [← h2]; exact h1)]
      rw [← hkk.2.1]; exact storeAt_of_mem hnd' hb'.2.1
    · by_cases h3 : i = m.post.id
      · rw [if_neg h1, if_neg h2, if_pos h3, h3, ← hkk.2.2]; exact storeAt_of_mem hnd' hb'.2.2
      · rw [if_neg h1, if_neg h2, if_neg h3]
        refine storeAt_frame_same hnd hnd' i fun b hbi => ?_
        rw [mem_allBufs, mem_allBufs]
        refine or_congr Iff.rfl (or_congr (exists_mem_replace (hs.machNodup w) hm hid ?_ ?_) Iff.rfl)
        · rintro (rfl | rfl | rfl)
          · exact h1 hbi.symm
          · exact h2 hbi.symm
          · exact h3 hbi.symm
        · rintro (rfl | rfl | rfl)
          · exact h1 (hbi.symm.trans hkk.1)
          · exact h2 (hbi.symm.trans hkk.2.1)
          · exact h3 (hbi.symm.trans hkk.2.2)

theorem storeAt_replaceTransport {inst : Instance} {s : State} (hs : Shape inst s) (w : WF inst)
    {t t' : TransportState} (ht : t ∈ s.transports) (hk : tKey t' = tKey t) (i : Nat) :
    storeAt (s.replaceTransport t') i = if i = t.buffer.id then t'.buffer.store else storeAt s i := by
  have hs' := hs.replaceTransport w ht hk
  have hnd := hs.bufNodup w
  have hnd' := hs'.bufNodup w
  have hid : t'.id = t.id := by have := congrArg Prod.fst hk; simpa [tKey] using this
  have hkk : t'.buffer.id = t.buffer.id := by simp only [tKey, Prod.mk.injEq] at hk; exact hk.2
  have ht' : t' ∈ (s.replaceTransport t').transports := replaceTransport_mem ht hid
  by_cases h1 : i = t.buffer.id
  · rw [if_pos h1, h1, ← hkk]; exact storeAt_of_mem hnd' (mem_allBufs_of_transport ht')
  · rw [if_neg h1]
    refine storeAt_frame_same hnd hnd' i fun b hbi => ?_
    rw [mem_allBufs, mem_allBufs]
    refine or_congr Iff.rfl (or_congr Iff.rfl (exists_mem_replace (hs.trNodup w) ht hid ?_ ?_))
    · rintro rfl
      exact h1 hbi.symm
    · rintro rfl
      exact h1 (hbi.symm.trans hkk)

theorem storeAt_replaceBuffer {inst : Instance} {s : State} (hs : Shape inst s) (w : WF inst)
    {b b' : BufState} (hb : b ∈ s.buffers) (hk : b'.id = b.id) (i : Nat) :
    storeAt (s.replaceBuffer b') i = if i = b.id then b'.store else storeAt s i := by
  have hs' := hs.replaceBuffer w hb hk
  have hnd := hs.bufNodup w
  have hnd' := hs'.bufNodup w
  have hb' : b' ∈ (s.replaceBuffer b').buffers := replaceBuffer_mem hb hk
  by_cases h1 : i = b.id
  · rw [if_pos h1, h1, ← hk]; exact storeAt_of_mem hnd' (mem_allBufs_of_buffer hb')
  · rw [if_neg h1]
    refine storeAt_frame_same hnd hnd' i fun x hxi => ?_
    rw [mem_allBufs, mem_allBufs]
    refine or_congr ⟨fun hx => ?_, fun hx => ?_⟩ Iff.rfl
    · rcases (mem_replaceBuffer (hs.bufsNodup w) hb hk x).mp hx with rfl | ⟨hx, _⟩
      · exact absurd (hxi.symm.trans hk) h1
      · exact hx
    · exact (mem_replaceBuffer (hs.bufsNodup w) hb hk x).mpr (Or.inr ⟨hx, fun e => h1 (hxi.symm.trans e)⟩)

theorem storeAt_replaceMachine_same {inst : Instance} {s : State} (hs : Shape inst s) (w : WF inst)
    {m m' : MachineState} (hm : m ∈ s.machines) (hk : mKey m' = mKey m)
    (h1 : m'.pre.store = m.pre.store) (h2 : m'.buffer.store = m.buffer.store) (h3 : m'.post.store = m.post.store)
    (i : Nat) : storeAt (s.replaceMachine m') i = storeAt s i := by
  rw [storeAt_replaceMachine hs w hm hk]
  have hb := mem_allBufs_of_machine hm
  split
  · rename_i h; rw [h, h1]; exact (storeAt_of_mem (hs.bufNodup w) hb.1).symm
  · split
    · rename_i h; rw [h, h2]; exact (storeAt_of_mem (hs.bufNodup w) hb.2.1).symm
    · split
      · rename_i h; rw [h, h3]; exact (storeAt_of_mem (hs.bufNodup w) hb.2.2).symm
      · rfl

theorem storeAt_replaceTransport_same {inst : Instance} {s : State} (hs : Shape inst s) (w : WF inst)
    {t t' : TransportState} (ht : t ∈ s.transports) (hk : tKey t' = tKey t)
    (h1 : t'.buffer.store = t.buffer.store) (i : Nat) : storeAt (s.replaceTransport t') i = storeAt s i := by
  rw [storeAt_replaceTransport hs w ht hk]
  split
  · rename_i h; rw [h, h1]; exact (storeAt_of_mem (hs.bufNodup w) (mem_allBufs_of_transport ht)).symm
  · rfl

theorem ids_parts {inst : Instance} {s : State} (hs : Shape inst s) (w : WF inst) :
    (∀ b ∈ s.buffers, ∀ m ∈ s.machines, b.id ≠ m.pre.id ∧ b.id ≠ m.buffer.id ∧ b.id ≠ m.post.id) ∧
    (∀ b ∈ s.buffers, ∀ t ∈ s.transports, b.id ≠ t.buffer.id) ∧
    (∀ m ∈ s.machines, ∀ t ∈ s.transports, m.pre.id ≠ t.buffer.id ∧ m.buffer.id ≠ t.buffer.id ∧ m.post.id ≠ t.buffer.id) := by
  have hnd := hs.bufNodup w
  unfold allBufStates at hnd
  simp only [List.map_append, List.map_flatMap, List.map_map] at hnd
  rw [List.nodup_append] at hnd
  obtain ⟨h12, _, hd3⟩ := hnd
  rw [List.nodup_append] at h12
  obtain ⟨_, _, hd12⟩ := h12
  refine ⟨?_, ?_, ?_⟩
  · intro b hb m hm
    have f : ∀ x ∈ [m.pre.id, m.buffer.id, m.post.id], b.id ≠ x := by
      intro x hx
      apply hd12 b.id (List.mem_map.mpr ⟨b, hb, rfl⟩) x
      exact List.mem_flatMap.mpr ⟨m, hm, by simpa using hx⟩
    exact ⟨f _ (by simp), f _ (by simp), f _ (by simp)⟩
  · intro b hb t ht
    apply hd3 b.id (List.mem_append.mpr (Or.inl (List.mem_map.mpr ⟨b, hb, rfl⟩))) t.buffer.id
    exact List.mem_map.mpr ⟨t, ht, rfl⟩
  · intro m hm t ht
    have f : ∀ x ∈ [m.pre.id, m.buffer.id, m.post.id], x ≠ t.buffer.id := by
      intro x hx
      apply hd3 x (List.mem_append.mpr (Or.inr (List.mem_flatMap.mpr ⟨m, hm, by simpa using hx⟩))) t.buffer.id
      exact List.mem_map.mpr ⟨t, ht, rfl⟩
    exact ⟨f _ (by simp), f _ (by simp), f _ (by simp)⟩

@[simp] theorem storeAt_replaceJob (s : State) (j : JobState) (i : Nat) :
    storeAt (s.replaceJob j) i = storeAt s i := rfl

end JSL
