import JSL.Inv.EnvReach
import JSL.Inv.Startable
import JSL.Props.Example
import JSL.Model.Guards

/-!
# C05, first link: applying an offered transition never raises

`offered_transition_applies`: in a state that satisfies the structural, schedule and AGV
invariants, every transition `possibleTransitions` offers is applied by `applyTransition` without
an exception – provided the configuration tables are total where the two start handlers read
them (`TablesTotal`, a property of the instance) and the current state is `Ready` (the mounted
tools and the places idle AGVs stand at have the entries the next start needs).  `Ready` is an
invariant of every episode when the tables are total (`ReadyPass`), which gives the
environment-level statement `env_offer_applies`.
-/

namespace JSL

variable {orc : Oracle} {inst : Instance}

/-- **Totality of the configuration tables**, exactly as far as the two start handlers read them.

* `output`  – `handleAgvIdleToWorking`, `dropLoc`: `next(iter(get_output_buffers(instance)))` for a
              job without idle operation (`StopIteration` otherwise);
* `bufCap`  – `beginMachineSetup`, `putInBuffer m.buffer mc.buf j`: the (empty) internal buffer of
              the idle machine takes one job (`BufferFullError` otherwise);
* `parents` – `handleAgvIdleToWorking`, `pickupSource`: the buffer the job lies in has no parent or
              a machine as parent (`TransportConfigError` otherwise);
* `setup`   – `beginMachineSetup`, `setupDuration`: the setup matrix of a machine has an entry for
              every pair of tools of operations routed to it (`InvalidValue` otherwise); used to
              keep `Ready.tool` after a start mounted a new tool;
* `travel`  – `handleAgvIdleToWorking`, `travelNoUpdate`: the travel matrix has an entry from every
              place an AGV is parked at to every pickup source (`TransportConfigError`
              otherwise); used to keep `Ready.parked` after a delivery parked the AGV. -/
structure TablesTotal (inst : Instance) : Prop where
  output : ∃ o, firstOutput inst = .ok o
  bufCap : ∀ mc ∈ inst.machines, 1 ≤ mc.buf.cap
  parents : ∀ bc ∈ pickupBufs inst, ∃ src, pickupSource bc bc.id = .ok src
  setup : ∀ mc ∈ inst.machines, ∀ a ∈ toolsOn inst mc.id, ∀ b ∈ toolsOn inst mc.id,
    (mc.setup.lookup (a, b)).isSome = true
  travel : ∀ a ∈ stands inst, ∀ bc ∈ pickupBufs inst, ∀ src, pickupSource bc bc.id = .ok src →
    (travelCfg inst a src).isSome = true

def reaches (inst : Instance) (l : Loc) : Prop :=
  ∀ bc ∈ pickupBufs inst, ∀ src, pickupSource bc bc.id = .ok src → (travelCfg inst l src).isSome = true

/-- **The state-dependent part**: the tool mounted on every machine has a setup entry to every
tool of an operation routed to that machine, and every parked AGV (idle, or in the outage after a
delivery) stands at a place from which the travel matrix reaches every pickup source.  Holds
initially for compiled instances whose matrices are complete, and is kept by every transition when
the tables are total (`applyTransition_ready`). -/
structure Ready (inst : Instance) (s : State) : Prop where
  tool : ∀ m ∈ s.machines, ∀ mc ∈ inst.machines, mc.id = m.id → ∀ b ∈ toolsOn inst m.id,
    (mc.setup.lookup (m.tool, b)).isSome = true
  parked : ∀ t ∈ s.transports, t.st = .idle ∨ t.st = .outage → ∃ l, t.loc = .at l ∧ reaches inst l

theorem reachesB_sound {l : Loc} (h : reachesB inst l = true) : reaches inst l := by
  intro bc hbc src hsrc
  have := List.all_eq_true.mp h bc hbc
  simpa [srcOK, hsrc] using this

theorem tablesTotalB_sound (h : tablesTotalB inst = true) : TablesTotal inst := by
  simp only [tablesTotalB, Bool.and_eq_true, List.all_eq_true, decide_eq_true_eq] at h
  obtain ⟨⟨⟨⟨h1, h2⟩, h3⟩, h4⟩, h5⟩ := h
  refine ⟨?_, h2, ?_, h4, ?_⟩
  · cases ho : firstOutput inst with
    | ok o => exact ⟨o, rfl⟩
    | error e => simp [ho] at h1
  · intro bc hbc
    have := h3 bc hbc
    cases hs : pickupSource bc bc.id with
    | ok src => exact ⟨src, rfl⟩
    | error e => simp [hs] at this
  · intro a ha
    exact reachesB_sound (h5 a ha)

theorem readyB_sound {s : State} (h : readyB inst s = true) : Ready inst s := by
  simp only [readyB, Bool.and_eq_true, List.all_eq_true, Bool.or_eq_true, bne_iff_ne, ne_eq,
    Bool.not_eq_true'] at h
  obtain ⟨h1, h2⟩ := h
  constructor
  · intro m hm mc hmc hid b hb
    rcases h1 m hm mc hmc with e | e
    · exact absurd hid e
    · exact e b hb
  · intro t ht hst
    rcases h2 t ht with e | e
    · rcases hst with h' | h' <;> simp [h'] at e
    · cases hl : t.loc with
      | «at» l => rw [hl] at e; exact ⟨l, rfl, reachesB_sound e⟩
      | route a b c => rw [hl] at e; simp at e

theorem findE_err_irrel {α} {p : α → Bool} {l : List α} {e : Err} (e' : Err) {a : α} (h : findE p l e = .ok a) :
    findE p l e' = .ok a := by
  unfold findE at h ⊢
  cases hf : l.find? p with
  | none => simp [hf] at h
  | some b => simpa [hf] using h

theorem putInBuffer_of_room {b : BufState} {c : BufCfg} (j : JobState) (h : (b.store.length : Int) < c.cap) :
    ∃ b', putInBuffer b c j = .ok (b', { j with loc := b.id }) := by
  unfold putInBuffer
  rw [if_neg (by omega)]
  exact ⟨_, rfl⟩

theorem removeFromBuffer_of_mem {b : BufState} {x : Nat} (h : x ∈ b.store) : ∃ b', removeFromBuffer b x = .ok b' := by
  unfold removeFromBuffer
  have : b.store.contains x = true := List.contains_iff_mem.mpr h
  simp only [this, Bool.not_true, Bool.false_eq_true, if_false]
  exact ⟨_, rfl⟩

theorem getOpCfg_of_mem (w : WF inst) {s : State} (hs : Shape inst s) {j : JobState} (hj : j ∈ s.jobs)
    {o : OpState} (ho : o ∈ j.ops) :
    ∃ oc, getOpCfg inst o.job o.idx = .ok oc ∧ oc ∈ allOps inst ∧ oc.machine = o.machine := by
  obtain ⟨jc, hjc, hk⟩ := hs.job_cfg hj
  simp only [jKey, jcKey, Prod.mk.injEq] at hk
  obtain ⟨oc0, hoc0, e⟩ := mem_of_map_eq hk.2 ho
  simp only [opKey, ocKey, Prod.mk.injEq] at e
  have hmem0 : oc0 ∈ allOps inst := List.mem_flatMap.mpr ⟨jc, hjc, hoc0⟩
  obtain ⟨oc, hoc⟩ := findE_of_exists (p := fun (x : OpCfg) => x.job == o.job && x.idx == o.idx) .invalidValue hmem0
    (by simp [e.1, e.2.1])
  have hoc' : getOpCfg inst o.job o.idx = .ok oc := hoc
  have hk' := getOpCfg_ok hoc'
  have : oc = oc0 := opCfg_unique w hk'.1 hmem0 (by rw [hk'.2.1, e.1]) (by rw [hk'.2.2, e.2.1])
  exact ⟨oc, hoc', hk'.1, by rw [this, e.2.2]⟩

theorem getMachineCfg_of_mem (w : WF inst) {s : State} (hs : Shape inst s) {m : MachineState} (hm : m ∈ s.machines) :
    ∃ mc, getMachineCfg inst.machines m.id = .ok mc ∧ mc ∈ inst.machines ∧ mc.id = m.id := by
  obtain ⟨mc, hmc, hk⟩ := hs.machine_cfg hm
  simp only [mKey, mcKey, Prod.mk.injEq] at hk
  have := findE_of_mem (key := fun (y : MachineCfg) => y.id) w.machNodup hmc .invalidValue
  simp only [← hk.1] at this
  exact ⟨mc, this, hmc, hk.1.symm⟩

theorem actionPossible_facts {s : State} (hS : SchedInv s) {j : JobState} (hj : j ∈ s.jobs) {o : OpState}
    (hap : actionPossible inst s j = .ok true) (hn : j.nextIdle? = some o) :
    ∃ m, getMachine s.machines o.machine = .ok m ∧ j.nextNotDone = .ok o ∧ m.pre.id = j.loc ∧ m.st = .idle := by
  obtain ⟨_, o', op, m, hst⟩ := actionPossible_true_iff.mp hap
  -- under the schedule invariant the first record not done is the first idle one
  have hnn : j.nextNotDone? = some o := by
    rw [nextNotDone_eq_nextIdle (hS.ops j hj) hst.notRunning, hn]
  obtain rfl : op = o := Option.some.inj (hst.nextNotDone.symm.trans hnn)
  exact ⟨m, hst.machine, by simp [JobState.nextNotDone, hnn], hst.atPre, hst.idle⟩

theorem beginMachineSetup_total (w : WF inst) {s : State} (hI : StructInv inst s) (hS : SchedInv s)
    (hT : TablesTotal inst) (hR : Ready inst s) {j : JobState} (hj : j ∈ s.jobs) {o : OpState}
    (hnn : j.nextNotDone = .ok o) {m : MachineState} (hm : m ∈ s.machines) (hmo : m.id = o.machine)
    (hin : j.id ∈ m.pre.store) (hst : m.st = .idle) (orc : Oracle) (now : Int) (r : Rng) :
    ∃ out, beginMachineSetup orc inst now r j m = .ok out := by
  have hs := hI.shape
  have ho : o ∈ j.ops := (find?_mem_ops (nextNotDone_ok hnn)).1
  obtain ⟨oc, hoc, hocm, hocmach⟩ := getOpCfg_of_mem w hs hj ho
  obtain ⟨mc, hmc, hmcm, hmcid⟩ := getMachineCfg_of_mem w hs hm
  have htool : oc.tool ∈ toolsOn inst m.id := by
    unfold toolsOn
    exact List.mem_map.mpr ⟨oc, List.mem_filter.mpr ⟨hocm, by simp [hocmach, hmo]⟩, rfl⟩
  have hlk := hR.tool m hm mc hmcm hmcid oc.tool htool
  obtain ⟨c, hc⟩ := Option.isSome_iff_exists.mp hlk
  have hsd : setupDuration orc r mc m.tool oc.tool = .ok (c.readUpd orc r) := by
    simp [setupDuration, hc]
  obtain ⟨pre', hpre⟩ := removeFromBuffer_of_mem (b := m.pre) (x := j.id) hin
  have hroom : (m.buffer.store.length : Int) < mc.buf.cap := by
    rw [hS.idleEmpty m hm hst]
    have := hT.bufCap mc hmcm
    simp; omega
  unfold beginMachineSetup
  simp only [hnn, hoc, hmc, hsd, except_bind_ok, replaceOp_id, hpre]
  obtain ⟨buf', hbuf⟩ := putInBuffer_of_room
    (j.replaceOp { job := oc.job, idx := oc.idx, start := some now, stop := some (now + (c.readUpd orc r).1),
                   machine := m.id, st := .processing }) hroom
  simp only [hbuf, except_bind_ok, except_pure]
  exact ⟨_, rfl⟩

theorem machine_offer_applies (w : WF inst) {s : State} (hI : StructInv inst s) (hS : SchedInv s)
    (hT : TablesTotal inst) (hR : Ready inst s) {j : JobState} (hj : j ∈ s.jobs) {o : OpState}
    (hap : actionPossible inst s j = .ok true) (hn : j.nextIdle? = some o) (orc : Oracle) (r : Rng) :
    ∃ s' r', applyTransition orc inst s r { comp := .m o.machine, new := .m .setup, job := some j.id } = .ok (s', r') := by
  have hs := hI.shape
  obtain ⟨m, hgm, hnn, hloc, hst⟩ := actionPossible_facts hS hj hap hn
  have hm := getMachine_ok hgm
  have hin : j.id ∈ m.pre.store := by
    have h1 := hI.cons.located (j.id, j.loc) (List.mem_map.mpr ⟨j, hj, rfl⟩)
    simp only at h1
    rw [← hloc, (pre_storeAt w hs hm.1).1] at h1
    exact h1
  obtain ⟨⟨j', m', r'⟩, hb⟩ := beginMachineSetup_total w hI hS hT hR hj hnn hm.1 hm.2 hin hst orc s.time r
  have hcont : m.pre.store.contains j.id = true := List.contains_iff_mem.mpr hin
  rw [applyTransition_on_machine hgm]
  simp only [hst, machineHandler, handleMachineIdleToSetup, getJob_of_mem (hs.jobsNodup w) hj, hcont, Bool.not_true,
    Bool.false_eq_true, if_false, hb, except_bind_ok, except_pure]
  exact ⟨_, _, rfl⟩

theorem dropLoc_total (hT : TablesTotal inst) (j : JobState) : ∃ d, dropLoc inst j JobState.nextIdleE = .ok d := by
  unfold dropLoc
  by_cases hn : j.noOpIdle = true
  · obtain ⟨o, ho⟩ := hT.output
    simp only [hn, if_true, ho, except_map'_ok]
    exact ⟨_, rfl⟩
  · simp only [hn]
    cases hni : j.nextIdle? with
    | some o => simp only [JobState.nextIdleE, hni, except_pure, except_map'_ok]; exact ⟨_, rfl⟩
    | none =>
      exfalso
      apply hn
      unfold JobState.nextIdle? at hni
      have := List.find?_eq_none.mp hni
      unfold JobState.noOpIdle
      apply List.all_eq_true.mpr
      intro x hx
      simpa using this x hx

theorem not_offered_in_output {s : State} (hR : RouteInv inst s) {j : JobState} (hj : j ∈ s.jobs)
    (hout : j.loc ∈ outputIds inst) (hkind : j.running = true ∨ transportable inst s j = .ok true) : False := by
  have hd := hR.delivered j hj hout
  rcases hkind with h | h
  · unfold JobState.running at h
    obtain ⟨o, ho, hp⟩ := List.any_eq_true.mp h
    rw [hd o ho] at hp
    simp at hp
  · have : jobDone inst j = true := by
      unfold jobDone JobState.allDone
      simp only [Bool.and_eq_true]
      exact ⟨List.all_eq_true.mpr (fun o ho => by simp [hd o ho]), List.contains_iff_mem.mpr hout⟩
    rw [(transportable_ok h).1] at this
    cases this

theorem offered_job_buffer (w : WF inst) {s : State} (hI : StructInv inst s) (hA : AgvFull inst s)
    {j : JobState} (hj : j ∈ s.jobs) (hfree : ∀ x ∈ s.transports, x.job ≠ some j.id)
    (hkind : j.running = true ∨ transportable inst s j = .ok true)
    (hnpre : ∀ m ∈ s.machines, j.id ∉ m.pre.store) :
    ∃ bc, getBufCfg (allBufCfgs inst) j.loc = .ok bc ∧ bc ∈ pickupBufs inst ∧ bc.id = j.loc := by
  have hs := hI.shape
  have h1 := hI.cons.located (j.id, j.loc) (List.mem_map.mpr ⟨j, hj, rfl⟩)
  simp only at h1
  obtain ⟨b, hb, hbi, _⟩ := storeAt_mem h1
  have hidm : b.id ∈ (allBufCfgs inst).map (·.id) := by
    rw [← hs.bufIds]; exact List.mem_map.mpr ⟨b, hb, rfl⟩
  obtain ⟨bc, hbc, hbcid⟩ := List.mem_map.mp hidm
  have hid : bc.id = j.loc := by rw [hbcid, hbi]
  have hget := findE_of_mem (key := fun (y : BufCfg) => y.id) w.bufNodup hbc .invalidValue
  simp only [hid] at hget
  refine ⟨bc, hget, ?_, hid⟩
  unfold allBufCfgs at hbc
  unfold pickupBufs
  rcases List.mem_append.mp hbc with hbc | hbc
  · rcases List.mem_append.mp hbc with hbc | hbc
    ·
      apply List.mem_append.mpr; left
      apply List.mem_filter.mpr
      refine ⟨hbc, ?_⟩
      cases hrole : (bc.role == BufRole.output) with
      | false => simp [bne, hrole]
      | true =>
        exfalso
        apply not_offered_in_output hA.route hj ?_ hkind
        rw [← hid]
        unfold outputIds outputBuffers
        exact List.mem_map.mpr ⟨bc, List.mem_filter.mpr ⟨hbc, hrole⟩, rfl⟩
    ·
      obtain ⟨mc, hmc, hin⟩ := List.mem_flatMap.mp hbc
      simp only [List.mem_cons, List.not_mem_nil, or_false] at hin
      rcases hin with e | e | e
      · exfalso
        obtain ⟨m, hm, hk⟩ := mem_of_map_eq hs.machines.symm hmc
        simp only [mKey, mcKey, Prod.mk.injEq] at hk
        apply hnpre m hm
        rw [← (pre_storeAt w hs hm).1, ← hk.2.1, ← e, hid]
        exact h1
      · exact List.mem_append.mpr (Or.inr (List.mem_flatMap.mpr ⟨mc, hmc, by simp [e]⟩))
      · exact List.mem_append.mpr (Or.inr (List.mem_flatMap.mpr ⟨mc, hmc, by simp [e]⟩))
  ·
    exfalso
    obtain ⟨tcf, htcf, e⟩ := List.mem_map.mp hbc
    obtain ⟨t, ht, hk⟩ := mem_of_map_eq hs.transports.symm htcf
    simp only [tKey, tcKey, Prod.mk.injEq] at hk
    have hstore : j.id ∈ t.buffer.store := by
      rw [← storeAt_of_mem (hs.bufNodup w) (mem_allBufs_of_transport ht), ← hk.2, e, hid]
      exact h1
    by_cases htr : t.st = .transit
    · exact hfree t ht (hA.route.transitOwn t ht htr j.id hstore)
    · rw [hA.agv.empty t ht htr] at hstore
      cases hstore

theorem dispatch_offer_applies (w : WF inst) {s : State} (hI : StructInv inst s) (hA : AgvFull inst s)
    (hT : TablesTotal inst) (hR : Ready inst s) {t : TransportState} (ht : t ∈ s.transports) {tc : TransportCfg}
    (htc : findE (fun c => c.id == t.id) inst.transports .invalidKey = .ok tc) (hty : tc.type = .agv)
    (hst : t.st = .idle) {j : JobState} (hj : j ∈ s.jobs) (hfree : ∀ x ∈ s.transports, x.job ≠ some j.id)
    (hkind : j.running = true ∨ transportable inst s j = .ok true)
    (hnpre : ∀ m ∈ s.machines, j.id ∉ m.pre.store) (orc : Oracle) (r : Rng) :
    ∃ s' r', applyTransition orc inst s r { comp := .t t.id, new := .t .working, job := some j.id } = .ok (s', r') := by
  have hs := hI.shape
  have hgt := getTransport_of_mem (hs.trNodup w) ht
  have hgtc : getTransportCfg inst.transports t.id = .ok tc := findE_err_irrel _ htc
  obtain ⟨l, hl, hreach⟩ := hR.parked t ht (Or.inl hst)
  obtain ⟨d, hd⟩ := dropLoc_total hT j
  obtain ⟨bc, hbc, hpick, hid⟩ := offered_job_buffer w hI hA hj hfree hkind hnpre
  obtain ⟨src, hsrc⟩ := hT.parents bc hpick
  obtain ⟨c, hc⟩ := Option.isSome_iff_exists.mp (hreach bc hpick src hsrc)
  rw [hid] at hsrc
  rw [applyTransition_on_transport hgt hgtc (by rw [hty]; rfl)]
  simp only [hst, agvHandler, handleAgvIdleToWorking, hl, getJob_of_mem (hs.jobsNodup w) hj, hd, hbc, hsrc,
    travelNoUpdate, hc, except_bind_ok, except_pure]
  exact ⟨_, _, rfl⟩

/-- **Applying an offered transition never raises.**  In a state with the structural, schedule and
AGV invariants, for an instance whose tables are total and a state that is ready, every transition
on offer is applied by `state.apply_transition` without an exception. -/
theorem offered_transition_applies (w : WF inst) {cfg : SMConfig} {s : State} (hI : StructInv inst s)
    (hS : SchedInv s) (hA : AgvFull inst s) (hT : TablesTotal inst) (hR : Ready inst s)
    {poss : List Transition} (hp : possibleTransitions inst cfg s = .ok poss) (tr : Transition) (htr : tr ∈ poss)
    (orc : Oracle) (r : Rng) : ∃ s' r', applyTransition orc inst s r tr = .ok (s', r') := by
  rcases mem_possibleTransitions hp htr with ⟨j, hj, o, hap, hn, rfl⟩ | ⟨pt, hpt, hin⟩
  · exact machine_offer_applies w hI hS hT hR hj hap hn orc r
  · obtain ⟨t, ht, tc, j, hj, rfl, hst, htc, hty, hfree, hkind, _⟩ := possibleTransport_offer hpt tr hin
    exact dispatch_offer_applies w hI hA hT hR ht htc hty hst hj hfree hkind
      (offers_not_in_pre w hI hS hA.route hp _ htr rfl j.id rfl) orc r

def toolOK (inst : Instance) (m : MachineState) : Prop :=
  ∀ mc ∈ inst.machines, mc.id = m.id → ∀ b ∈ toolsOn inst m.id, (mc.setup.lookup (m.tool, b)).isSome = true

def parkOK (inst : Instance) (t : TransportState) : Prop :=
  t.st = .idle ∨ t.st = .outage → ∃ l, t.loc = .at l ∧ reaches inst l

theorem toolOK_congr {m m' : MachineState} (hid : m'.id = m.id) (ht : m'.tool = m.tool) (h : toolOK inst m) :
    toolOK inst m' := by
  unfold toolOK at h ⊢
  rw [hid, ht]; exact h

theorem toolOK_replaceMachine {s : State} (hmn : (s.machines.map (·.id)).Nodup) (hR : Ready inst s)
    {m0 M' : MachineState} (hm0 : m0 ∈ s.machines) (hid : M'.id = m0.id) (hM' : toolOK inst M') :
    ∀ m' ∈ (s.replaceMachine M').machines, toolOK inst m' := by
  intro m' hm'
  rcases (mem_replaceMachine hmn hm0 hid m').mp hm' with rfl | ⟨h0, _⟩
  · exact hM'
  · exact hR.tool m' h0

theorem parkOK_replaceTransport {s : State} (htn : (s.transports.map (·.id)).Nodup) (hR : Ready inst s)
    {t0 T' : TransportState} (ht0 : t0 ∈ s.transports) (hid : T'.id = t0.id) (hT' : parkOK inst T') :
    ∀ t' ∈ (s.replaceTransport T').transports, parkOK inst t' := by
  intro t' ht'
  rcases (mem_replaceTransport htn ht0 hid t').mp ht' with rfl | ⟨h0, _⟩
  · exact hT'
  · exact hR.parked t' h0

theorem opCfg_machine (w : WF inst) {s : State} (hs : Shape inst s) {j : JobState} (hj : j ∈ s.jobs)
    {o : OpState} (ho : o ∈ j.ops) {oc : OpCfg} (hoc : oc ∈ allOps inst) (h1 : oc.job = o.job) (h2 : oc.idx = o.idx) :
    oc.machine = o.machine := by
  obtain ⟨oc', _, hmem, hm⟩ := getOpCfg_of_mem w hs hj ho
  have hk := getOpCfg_ok (by assumption : getOpCfg inst o.job o.idx = .ok oc')
  have : oc = oc' := opCfg_unique w hoc hmem (by rw [h1, hk.2.1]) (by rw [h2, hk.2.2])
  rw [this, hm]

theorem drop_mem_stands {s : State} (hs : Shape inst s) {j : JobState} {drop : Loc}
    (hd : dropOK inst j JobState.nextIdle? drop)
    (hm : ∀ mid, drop = .m mid → ∃ ms ∈ s.machines, ms.id = mid) : drop ∈ stands inst := by
  unfold stands
  rcases hd with ⟨_, o, ho, rfl⟩ | ⟨_, op, _, rfl⟩
  · apply List.mem_append.mpr; right
    unfold firstOutput at ho
    cases hob : outputBuffers inst with
    | nil => simp [hob] at ho
    | cons b bs => simp [hob] at ho; simp [ho]
  · apply List.mem_append.mpr; left
    obtain ⟨ms, hms, e⟩ := hm op.machine rfl
    obtain ⟨mc, hmc, hk⟩ := hs.machine_cfg hms
    simp only [mKey, mcKey, Prod.mk.injEq] at hk
    exact List.mem_map.mpr ⟨mc, hmc, by rw [← hk.1, e]⟩

theorem applyTransition_ready (w : WF inst) (hT : TablesTotal inst) {s s' : State} {r r' : Rng} {tr : Transition}
    (hI : StructInv inst s) (hA : AgvFull inst s) (hR : Ready inst s) (hv : transitionValid s tr = .ok true)
    (h : applyTransition orc inst s r tr = .ok (s', r')) : Ready inst s' := by
  have hs := hI.shape
  have hmn := hs.machNodup w
  have htn := hs.trNodup w
  cases applyTransition_ran h with
  | m m1 hc =>
    obtain ⟨m0, hmem, M', hmid, hid, hmach, htr, _, he⟩ := machine_record_effect hc h
    refine ⟨fun m' hm' => ?_, fun t ht => hR.parked t (htr ▸ ht)⟩
    rw [hmach] at hm'
    refine toolOK_replaceMachine hmn hR hmem hid ?_ m' hm'
    cases he with
    | setup j op oc b1 b2 occ _ hst hj htj hop hoc hocj hoci e =>
      -- the only transition that mounts a tool: one of an operation routed to this machine
      subst e
      have hv' : machineTransitionValid s m0 tr = .ok true :=
        transitionValid_machine hmn hmem (by rw [hc, hmid]) hv
      have hopm := valid_machine_job (hs.jobsNodup w) hv' (by simp [hst]) (by simp [hst]) j hj htj op hop
      have hocm := opCfg_machine w hs hj (find?_mem_ops hop).1 hoc hocj hoci
      have htool : oc.tool ∈ toolsOn inst m0.id := by
        unfold toolsOn
        exact List.mem_map.mpr ⟨oc, List.mem_filter.mpr ⟨hoc, by simp [hocm, hopm]⟩, rfl⟩
      intro mc' hmc' hid' b hb
      have hid'' : mc'.id = m0.id := hid'
      exact hT.setup mc' hmc' oc.tool (by rw [hid'']; exact htool) b (by rw [hid'']; exact hb)
    | work occ _ _ e => subst e; exact toolOK_congr rfl rfl (hR.tool m0 hmem)
    | strike mc outs _ _ _ _ _ e => subst e; exact toolOK_congr rfl rfl (hR.tool m0 hmem)
    | release jid b1 b2 _ _ e => subst e; exact toolOK_congr rfl rfl (hR.tool m0 hmem)
  | t t1 hc =>
    obtain ⟨t0, t', hmem, _, hid, _, htrs, he⟩ := agv_transport_effect w hI hc h
    refine ⟨fun m' hm' => ?_, fun x hx => ?_⟩
    · obtain ⟨m, hm, e⟩ := (agv_touch w hI hc h).1 m' hm'
      exact toolOK_congr (congrArg MachineState.id e) (congrArg MachineState.tool e) (hR.tool m hm)
    · rw [htrs] at hx
      refine parkOK_replaceTransport htn hR hmem hid ?_ x hx
      -- a delivery parks the AGV at the place its job is routed to, which is a place of `stands`
      have deliver : ∀ {j : JobState} {cur pick drop}, j ∈ s.jobs → j.id ∈ t0.buffer.store →
          t0.loc = .route cur pick drop → (∀ mid, drop = .m mid → ∃ ms ∈ s.machines, ms.id = mid) →
          reaches inst drop := by
        intro j cur pick drop hj hin hloc hm
        have htrans : t0.st = .transit := by
          apply Classical.byContradiction
          intro hne
          rw [hA.agv.empty t0 hmem hne] at hin
          cases hin
        have hjob := hA.route.transitOwn t0 hmem htrans j.id hin
        obtain ⟨cur', pick', drop', hloc', hdrop⟩ := hA.route.route t0 hmem j.id hjob j hj rfl
        rw [hloc] at hloc'
        simp only [TLoc.route.injEq] at hloc'
        obtain ⟨_, _, rfl⟩ := hloc'
        exact hT.travel drop (drop_mem_stands hs hdrop hm)
      cases he with
      | dispatch j cur drop pick occ _ _ _ _ _ e => subst e; intro hst; rcases hst with e | e <;> cases e
      | wait occ _ _ e => subst e; intro hst; rcases hst with e | e <;> cases e
      | release _ hst0 e => subst e; exact fun _ => hR.parked t0 hmem (Or.inr hst0)
      | pickup j src dst tt bss _ _ _ _ _ _ _ e => subst e; intro hst; rcases hst with e | e <;> cases e
      | deliverM j cur pick ms bss1 bss2 outs occ _ _ hloc hms hj hin e =>
        subst e
        exact fun _ => ⟨_, rfl, deliver hj hin hloc fun mid e => ⟨ms, hms, by cases e; rfl⟩⟩
      | deliverB j cur pick b bss1 bss2 outs occ _ _ hloc _ hj hin e =>
        subst e
        exact fun _ => ⟨_, rfl, deliver hj hin hloc fun mid e => by cases e⟩

def ReadyPass (orc : Oracle) (inst : Instance) (cfg : SMConfig) (w : WF inst) (hT : TablesTotal inst) :
    Pass orc inst cfg where
  P := fun s => AgvFull inst s ∧ Ready inst s
  GS := FullGS
  Adm := AdmOffer inst cfg
  tail := fun h => (FullPass orc inst cfg w).tail h
  step := fun hI hS hP hv hsafe hfresh hgs ha =>
    have h1 := (FullPass orc inst cfg w).step hI hS hP.1 hv hsafe hfresh hgs ha
    ⟨⟨h1.1, applyTransition_ready w hT hI hP.1 hP.2 hv ha⟩, h1.2⟩
  advance := fun hI hS hP hle hpend =>
    ⟨(FullPass orc inst cfg w).advance hI hS hP.1 hle hpend, ⟨hP.2.tool, hP.2.parked⟩⟩
  timed := fun hI hS hP htt hposs htele => (FullPass orc inst cfg w).timed hI hS hP.1 htt hposs htele
  timedOnly := fun hI hS hP htt => (FullPass orc inst cfg w).timedOnly hI hS hP.1 htt
  action := fun hI hS hP hadm => (FullPass orc inst cfg w).action hI hS hP.1 hadm

theorem occursF_ready {cfg : SMConfig} {s0 σ : State} (hst : Start orc inst s0) (hT : TablesTotal inst)
    (h0 : Ready inst s0) (h : OccursF orc inst cfg s0 σ) : AgvFull inst σ ∧ Ready inst σ := by
  obtain ⟨w, _⟩ := initOKB_sound hst.init
  exact occursF_pass (ReadyPass orc inst cfg w hT) hst ⟨AgvFull.of_rest hst.rest hst.placed, h0⟩
    (fun _ _ _ hadm => hadm) h

/-- **C05, first link, at the environment**: in every state of every episode, each transition the
environment holds on offer is applied by `state.apply_transition` without an exception – for an
instance whose tables are total (`tablesTotalB`) and an initial state that is ready (`readyB`). -/
theorem env_offer_applies {ec : EnvCfg} {st : RewardStatic} {s0 : State} {e : EnvState}
    (hst : Start orc inst s0) (hT : TablesTotal inst) (h0 : Ready inst s0)
    (h : EnvReach orc inst ec st s0 e) :
    ∀ tr ∈ e.res.possible, ∃ s' r', applyTransition orc inst e.res.state e.rng tr = .ok (s', r') := by
  intro tr htr
  have hi := envReach_inv hst h
  have hne : e.res.possible ≠ [] := by intro e0; rw [e0] at htr; cases htr
  obtain ⟨w, hI, hS⟩ := occursA_inv hst (hi.live hne).1
  obtain ⟨hA, hR⟩ := occursF_ready hst hT h0 (hi.liveF hne)
  obtain ⟨poss, hf, hsub⟩ := hi.offersFrom hne
  exact offered_transition_applies w hI hS hA hT hR hf tr (hsub tr htr) orc e.rng

/-- the same from the decidable guards -/
theorem env_offer_applies_of_guards {ec : EnvCfg} {st : RewardStatic} {s0 : State} {e : EnvState}
    (hst : Start orc inst s0) (hT : tablesTotalB inst = true) (h0 : readyB inst s0 = true)
    (h : EnvReach orc inst ec st s0 e) :
    ∀ tr ∈ e.res.possible, ∃ s' r', applyTransition orc inst e.res.state e.rng tr = .ok (s', r') :=
  env_offer_applies hst (tablesTotalB_sound hT) (readyB_sound h0) h

/-! ## examples: the hypotheses are met, and they are needed

`Ex.inst` (the instance of `JSL/Props/Example.lean`) satisfies every guard of `Start`, its initial
state is ready, but its travel matrix has no row for the output buffer `b-8`: `tablesTotalB` is
false, and the assumption is genuinely needed – after the first delivery the AGV is parked at
`b-8`, and accepting the next dispatch on offer raises `TransportConfigError`
(`ex_offer_raises`: an environment state reached by `reset` and five times "accept", an offer it
holds, and the exception).  `ExT.instT` adds the three missing entries; for it everything holds. -/

namespace ExT

def instT : Instance :=
  { Ex.inst with travel := Ex.inst.travel ++ [((.b 8, .m 0), .det 1), ((.b 8, .m 1), .det 2), ((.b 8, .b 7), .det 1)] }

def orc0 : Oracle := fun _ _ => 0
def r0 : Rng := fun _ => 0
def ec : EnvCfg := ⟨{ allowEarly := true }, { jokerInit := 1000, truncActive := false },
  { sparseBias := 1, denseBias := 1, truncBias := 1 }, 40⟩
def st : RewardStatic := { tmax := 100, lb := 1, numJobs := 2, numOps := 4 }

def acceptN (ins : Instance) : Nat → EnvState → Except Err EnvState
  | 0, e => .ok e
  | k + 1, e => do
    let out ← envStep orc0 ins ec st e .accept
    acceptN ins k out.env

theorem acceptN_reach {ins : Instance} {s0 : State} : ∀ (k : Nat) {e e' : EnvState},
    EnvReach orc0 ins ec st s0 e → acceptN ins k e = .ok e' → EnvReach orc0 ins ec st s0 e'
  | 0, e, e', he, h => by simp [acceptN] at h; subst h; exact he
  | k + 1, e, e', he, h => by
    simp only [acceptN] at h
    obtain ⟨out, hout, h⟩ := except_bind_eq_ok h
    exact acceptN_reach k (EnvReach.step he hout) h

/-- reset, five times "accept", then apply the head offer: `TransportConfigError` -/
def headFails : Bool :=
  match envReset orc0 Ex.inst ec Ex.s0 r0 with
  | .error _ => false
  | .ok (e, _) =>
    match acceptN Ex.inst 5 e with
    | .error _ => false
    | .ok e5 =>
      match e5.res.possible with
      | [] => false
      | tr :: _ =>
        match applyTransition orc0 Ex.inst e5.res.state e5.rng tr with
        | .error .transportConfig => true
        | _ => false

theorem start_ex : Start orc0 Ex.inst Ex.s0 :=
  ⟨by decide +kernel, by decide +kernel, by decide +kernel, by decide +kernel, fun _ _ => Int.le_refl 0⟩

/-- the tables of `Ex.inst` are not total: no travel entry from the output buffer -/
example : tablesTotalB Ex.inst = false ∧ (stands Ex.inst).map (reachesB Ex.inst) = [true, true, false] ∧
    readyB Ex.inst Ex.s0 = true := by decide +kernel

/-- **`TablesTotal` is needed**: `Ex.inst` meets `Start` and its initial state is ready, yet an
environment state of one of its episodes holds an offer whose application raises -/
theorem ex_offer_raises : ∃ e, EnvReach orc0 Ex.inst ec st Ex.s0 e ∧
    ∃ tr ∈ e.res.possible, applyTransition orc0 Ex.inst e.res.state e.rng tr = .error .transportConfig := by
  have h : headFails = true := by decide +kernel
  unfold headFails at h
  split at h
  · cases h
  · rename_i e mic hreset
    split at h
    · cases h
    · rename_i e5 h5
      split at h
      · cases h
      · rename_i tr rest hposs
        split at h
        · rename_i happ
          exact ⟨e5, acceptN_reach 5 (EnvReach.reset hreset) h5, tr, by rw [hposs]; simp, happ⟩
        · cases h

theorem start_exT : Start orc0 instT Ex.s0 :=
  ⟨by decide +kernel, by decide +kernel, by decide +kernel, by decide +kernel, fun _ _ => Int.le_refl 0⟩

/-- with the three entries added the tables are total and the initial state is ready -/
example : tablesTotalB instT = true ∧ readyB instT Ex.s0 = true := by decide +kernel

/-- so every offer of every episode of `ExT.instT` applies -/
example {e : EnvState} (h : EnvReach orc0 instT ec st Ex.s0 e) :
    ∀ tr ∈ e.res.possible, ∃ s' r', applyTransition orc0 instT e.res.state e.rng tr = .ok (s', r') :=
  env_offer_applies_of_guards start_exT (by decide +kernel) (by decide +kernel) h

end ExT

end JSL
