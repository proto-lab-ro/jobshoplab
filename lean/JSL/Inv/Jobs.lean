import JSL.Inv.FrameStore

/-! Facts about the operation lists of jobs that follow from `Shape` and `WF`. -/

namespace JSL

theorem Shape.job_cfg {inst : Instance} {s : State} (hs : Shape inst s) {j : JobState} (hj : j ∈ s.jobs) :
    ∃ jc ∈ inst.jobs, jKey j = jcKey jc := mem_of_map_eq hs.jobs hj

theorem Shape.machine_cfg {inst : Instance} {s : State} (hs : Shape inst s) {m : MachineState}
    (hm : m ∈ s.machines) : ∃ mc ∈ inst.machines, mKey m = mcKey mc := mem_of_map_eq hs.machines hm

theorem Shape.transport_cfg {inst : Instance} {s : State} (hs : Shape inst s) {t : TransportState}
    (ht : t ∈ s.transports) : ∃ tc ∈ inst.transports, tKey t = tcKey tc := mem_of_map_eq hs.transports ht

theorem Shape.ops_job {inst : Instance} {s : State} (hs : Shape inst s) (w : WF inst) {j : JobState}
    (hj : j ∈ s.jobs) {x : OpState} (hx : x ∈ j.ops) : x.job = j.id := by
  obtain ⟨jc, hjc, hk⟩ := hs.job_cfg hj
  simp only [jKey, jcKey, Prod.mk.injEq] at hk
  obtain ⟨oc, hoc, e⟩ := mem_of_map_eq hk.2 hx
  simp only [opKey, ocKey, Prod.mk.injEq] at e
  rw [e.1, w.opJob jc hjc oc hoc, hk.1]

theorem Shape.ops_idx_nodup {inst : Instance} {s : State} (hs : Shape inst s) (w : WF inst) {j : JobState}
    (hj : j ∈ s.jobs) : (j.ops.map (·.idx)).Nodup := by
  obtain ⟨jc, hjc, hk⟩ := hs.job_cfg hj
  simp only [jKey, jcKey, Prod.mk.injEq] at hk
  have := congrArg (List.map (fun k : Nat × Nat × Nat => k.2.1)) hk.2
  simp only [List.map_map, Function.comp_def, opKey, ocKey] at this
  rw [this]; exact w.opIdxNodup jc hjc

theorem replaceOp_jKey {inst : Instance} {s : State} (hs : Shape inst s) (w : WF inst) {j : JobState}
    (hj : j ∈ s.jobs) {op op' : OpState} (hop : op ∈ j.ops) (hk : opKey op' = opKey op) (l : Nat) :
    jKey { (j.replaceOp op') with loc := l } = jKey j := by
  simp only [jKey, JobState.replaceOp, Prod.mk.injEq, true_and, List.map_map]
  apply List.map_congr_left
  intro x hx
  simp only [Function.comp_def]
  by_cases h : (x.job == op'.job && x.idx == op'.idx) = true
  · simp only [h, if_true]
    simp only [opKey, Prod.mk.injEq] at hk
    simp only [Bool.and_eq_true, beq_iff_eq] at h
    have : x = op := eq_of_mem_of_key_eq (key := fun (y : OpState) => y.idx) (hs.ops_idx_nodup w hj) hx hop
      (by rw [h.2, hk.2.1])
    subst this
    simp [opKey, hk]
  · simp [h]

theorem mem_replaceOp {j : JobState} {o x : OpState} :
    x ∈ (j.replaceOp o).ops ↔ (x = o ∧ ∃ y ∈ j.ops, y.job = o.job ∧ y.idx = o.idx) ∨
      (x ∈ j.ops ∧ ¬(x.job = o.job ∧ x.idx = o.idx)) := by
  simp only [JobState.replaceOp, List.mem_map]
  constructor
  · rintro ⟨y, hy, rfl⟩
    by_cases h : (y.job == o.job && y.idx == o.idx) = true
    · rw [if_pos h]
      simp only [Bool.and_eq_true, beq_iff_eq] at h
      exact Or.inl ⟨rfl, y, hy, h⟩
    · rw [if_neg h]
      simp only [Bool.and_eq_true, beq_iff_eq] at h
      exact Or.inr ⟨hy, h⟩
  · rintro (⟨rfl, y, hy, h⟩ | ⟨hx, h⟩)
    · exact ⟨y, hy, by simp [h]⟩
    · exact ⟨x, hx, by simp [h]⟩

theorem find?_mem_ops {j : JobState} {p : OpState → Bool} {op : OpState} (h : j.ops.find? p = some op) :
    op ∈ j.ops ∧ p op = true := ⟨List.mem_of_find?_eq_some h, List.find?_some h⟩

end JSL
