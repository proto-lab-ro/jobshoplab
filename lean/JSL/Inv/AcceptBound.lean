import JSL.Inv.AcceptPot
import JSL.Inv.Applies

/-!
# The always-accept agent finishes within `potBound inst` steps (C11, last part; conditional form)

`pot` (`Inv/AcceptPot.lean`) never increases under any transition `state.step` applies
(`PotPass`) and strictly decreases under the transition an accepted offer submits
(`smStep_pot_lt`, `accept_decreases`).  While there are offers it is positive (`offer_pot_pos`),
so where a successful, unfinished result always has offers (the classes of `env_offers` and of
`c11_never_out_of_offers_pre`) the potential cannot reach zero before the shop is finished.
Hence: **if every step returns and succeeds**, the agent that accepts every offer holds
a finished shop after at most `potBound inst = 2·numOps + numJobs` steps (`always_accept_bound`).

The statement is conditional on the steps returning: the model's `smStep` may raise (a full
buffer, the fuel of the timed loop, …) and may return `success = false` (a timed transition that
fails validation), which truncates the episode; neither is excluded here.
-/

namespace JSL

variable {orc : Oracle} {inst : Instance}

def PotPass (orc : Oracle) (inst : Instance) (cfg : SMConfig) (w : WF inst) (k : Nat) : Pass orc inst cfg where
  P := fun s => AgvFull inst s ∧ pot inst s ≤ k
  GS := FullGS
  Adm := AdmOffer inst cfg
  tail := fun h => (FullPass orc inst cfg w).tail h
  step := fun hI hS hP hv hsafe hfresh hgs ha =>
    ⟨⟨((FullPass orc inst cfg w).step hI hS hP.1 hv hsafe hfresh hgs ha).1,
      Nat.le_trans (applyTransition_pot w hI hS hP.1 hgs ha).1 hP.2⟩,
     ((FullPass orc inst cfg w).step hI hS hP.1 hv hsafe hfresh hgs ha).2⟩
  advance := fun hI hS hP hle hpg => ⟨(FullPass orc inst cfg w).advance hI hS hP.1 hle hpg, hP.2⟩
  timed := fun hI hS hP htt hposs htele => (FullPass orc inst cfg w).timed hI hS hP.1 htt hposs htele
  timedOnly := fun hI hS hP htt => (FullPass orc inst cfg w).timedOnly hI hS hP.1 htt
  action := fun hI hS hP hadm => (FullPass orc inst cfg w).action hI hS hP.1 hadm

theorem smStep_pot_lt (w : WF inst) (nn : NonNeg orc inst) {cfg : SMConfig} {fuel : Nat} {s0 : State} {r : Rng}
    {a : Action} {res : SMResult} {r' : Rng} {mic : List State} (hI : StructInv inst s0) (hS : SchedInv s0)
    (hP : AgvFull inst s0) (ha : Admissible a) {poss : List Transition}
    (hposs : possibleTransitions inst cfg s0 = .ok poss) {tr : Transition} (htr : tr ∈ poss) (hat : a.transitions = [tr])
    (h : smStep orc inst cfg fuel s0 r a = .ok (res, r', mic)) (hsucc : res.success = true) :
    pot inst res.state < pot inst s0 := by
  have hadm : AdmOffer inst cfg s0 a := Or.inr ⟨poss, hposs, tr, htr, hat⟩
  obtain ⟨p, hp, hcase⟩ := smStep_cases h
  have hsf := offerShaped_safe (s := s0) (L := sortedByTransport a.transitions)
    (fun tr htr => ha.shaped tr (mem_sortedByTransport htr))
  have hp' := processTransitions_sched w nn _ _ _ _ hI hS hsf.1 hsf.2 hp
  have hpI := processTransitions_struct w _ _ _ _ hI hp
  have hgs := (FullPass orc inst cfg w).action hI hS hP hadm
  have hpF := (FullPass orc inst cfg w).process w nn _ _ _ _ hI hS hP hsf.1 hsf.2 hgs hp
  rcases hcase with ⟨_, _, _, rfl⟩ | ⟨hnerr, t, timed, poss1, tele, out, ht, htimed, hposs1, htele, hout, _, _, hres⟩
  · cases hsucc
  -- the submitted transition was applied, and it lowered the potential
  have hlt : pot inst p.state < pot inst s0 ∧ p.micro = [p.state] := by
    rw [hat, sortedByTransport_single] at hp hgs
    rcases processTransitions_cons_ok hp with ⟨_, s1, r1, o1, happ, ho1, rfl⟩ | ⟨_, o1, _, rfl⟩
    · cases ho1
      refine ⟨?_, rfl⟩
      have hap := applyTransition_pot w hI hS hP hgs happ
      rcases offer_facts w hI hS hP.route hposs tr htr with ⟨hm, _⟩ | ⟨ht, hidle, j, hj, hjob, hw⟩
      · exact hap.2.1 hm
      · refine hap.2.2 ht hidle fun j2 hj2 hjob2 => ?_
        rw [eq_of_mem_of_key_eq (key := fun (y : JobState) => y.id) (hI.shape.jobsNodup w) hj2 hj
          (Option.some.inj (hjob2.symm.trans hjob))]
        exact hw
    · cases hnerr
  -- and the timed loop does not raise it again
  have hadv := runTimeMachine_spec hp'.1 ha.tm ht
  have hS1 := hp'.1.advance hadv.1 hadv.2
  have hI1 := hpI.1.time t
  have hP0 : (PotPass orc inst cfg w (pot inst p.state)).P p.state := ⟨hpF.1, Nat.le_refl _⟩
  have hP1 := (PotPass orc inst cfg w (pot inst p.state)).advance hpI.1 hp'.1 hP0 hadv.1 hadv.2
  have hbatch := timed_batch_safe w hI1 hS1 htimed (filterTeleport_shape hposs1 htele)
  have hl := (PotPass orc inst cfg w (pot inst p.state)).loop w nn _ _ _ _ _ _ _ hI1 hS1 hP1 hbatch.1 hbatch.2
    ((PotPass orc inst cfg w (pot inst p.state)).timed hI1 hS1 hP1 htimed hposs1 htele)
    (fun σ hσ => by rw [List.mem_singleton.mp hσ]; exact hP0)
    (fun σ hσ => by rw [hlt.2] at hσ; rw [List.mem_singleton.mp hσ]; exact hP0) hout
  have hfin : pot inst out.state < pot inst s0 := Nat.lt_of_le_of_lt hl.1.2 hlt.1
  rcases hres with ⟨_, rfl⟩ | ⟨_, _, e, _, rfl⟩ | ⟨_, _, poss', _, rfl⟩
  · cases hsucc
  · cases e <;> exact hfin
  · exact hfin

/-- what a successful `env.step(1)` leaves behind -/
theorem envStep_accept_spec {ec : EnvCfg} {st : RewardStatic} {e : EnvState} {out : StepOut}
    (h : envStep orc inst ec st e .accept = .ok out) (hs : out.obsRes.success = true) :
    e.done = false ∧ out.env.res = out.obsRes ∧ out.env.mw.joker = e.mw.joker ∧
    out.env.terminated = isDone inst out.env.res.state ∧ out.env.truncated = decide (e.mw.joker < 0) ∧
    out.env.done = (out.env.terminated || out.env.truncated) ∧
    ∃ o rest r, e.res.possible = o :: rest ∧
      smStep orc inst ec.sm ec.fuel e.res.state e.rng { transitions := [o], noOp := false, tm := .jumpToEvent } =
        .ok (out.obsRes, r, out.micro) := by
  obtain ⟨hd, res', mw, r, mic, rew, cnt, _, hm, rfl, _, rfl⟩ := envStep_ok h
  rcases mwStep_spec hm with ⟨_, _, _, ha, _⟩ | ⟨o, rest, _, r', _, _, hp, hsm, ⟨⟩⟩ | ⟨_, _, _, _, ha, _⟩
  · cases ha
  · simp only at hs
    simp only [hs, if_true, true_and]
    exact ⟨hd, o, rest, _, hp, hsm⟩
  · cases ha

/-- `e.res.possible ≠ []` is not needed as a hypothesis: without an offer `interpret` raises, so the
step does not return. -/
theorem accept_decreases {ec : EnvCfg} {st : RewardStatic} {s0 : State} (hst : Start orc inst s0) {e : EnvState}
    (hr : EnvReach orc inst ec st s0 e) {out : StepOut} (h : envStep orc inst ec st e .accept = .ok out)
    (hs : out.obsRes.success = true) : pot inst out.env.res.state < pot inst e.res.state := by
  obtain ⟨_, hres, _, _, _, _, o, rest, r, hp, hstep⟩ := envStep_accept_spec h hs
  rw [hres]
  have hi := envReach_inv hst hr
  have hne : e.res.possible ≠ [] := by rw [hp]; simp
  have hO := hi.liveF hne
  obtain ⟨w, hI, hS⟩ := occursA_inv hst hO.toA
  obtain ⟨poss, hposs, hsubp⟩ := hi.offersFrom hne
  have ho : o ∈ e.res.possible := by rw [hp]; simp
  exact smStep_pot_lt w (nonnegB_sound hst.samples hst.nonneg) hI hS (occursF_full hst hO)
    ⟨fun tr htr' => by rw [List.mem_singleton.mp htr']; exact (hi.live hne).2 o ho, by simp⟩
    hposs (hsubp o ho) rfl hstep hs

/-- an environment step that returns does not increase the potential, whatever the agent answers -/
theorem envStep_pot_le {ec : EnvCfg} {st : RewardStatic} {s0 : State} (hst : Start orc inst s0) {e : EnvState}
    (hr : EnvReach orc inst ec st s0 e) {a : AgentAct} {out : StepOut} (h : envStep orc inst ec st e a = .ok out) :
    pot inst out.env.res.state ≤ pot inst e.res.state := by
  have hi := envReach_inv hst hr
  obtain ⟨_, res', mw, r, mic, rew, cnt, _, hm, rfl, _, rfl⟩ := envStep_ok h
  by_cases hsuc : res'.success = true
  · simp only [hsuc, if_true]
    obtain ⟨hne, ⟨o, o', rest, _, ⟨⟩⟩ | ⟨act, ha, hadm, hs⟩⟩ := mwStep_adm hi hm
    · exact Nat.le_refl _
    · have hO := hi.liveF hne
      obtain ⟨w, hI, hS⟩ := occursA_inv hst hO.toA
      obtain ⟨t, ht⟩ := ((PotPass orc inst ec.sm w (pot inst e.res.state)).smStep w
        (nonnegB_sound hst.samples hst.nonneg) hI hS ⟨occursF_full hst hO, Nat.le_refl _⟩ ha hadm hs).2.2.1
      exact ht.2
  · simp only [hsuc]
    exact Nat.le_refl _

/-- `n` times `env.step(1)`, stopping when the episode is done.  A step that raises, or that
returns `success = false` (which truncates the episode), ends the run with an error: `= .ok e`
says that every step made returned and succeeded. -/
def acceptRun (orc : Oracle) (inst : Instance) (ec : EnvCfg) (st : RewardStatic) : Nat → EnvState → Except Err EnvState
  | 0, e => .ok e
  | n + 1, e =>
    if e.done then .ok e else
    match envStep orc inst ec st e .accept with
    | .error err => .error err
    | .ok out => if out.obsRes.success then acceptRun orc inst ec st n out.env else .error .unsuccessful

theorem acceptRun_succ_ok {ec : EnvCfg} {st : RewardStatic} {n : Nat} {e e' : EnvState}
    (h : acceptRun orc inst ec st (n + 1) e = .ok e') :
    (e.done = true ∧ e' = e) ∨
    (e.done = false ∧ ∃ out, envStep orc inst ec st e .accept = .ok out ∧ out.obsRes.success = true ∧
      acceptRun orc inst ec st n out.env = .ok e') := by
  simp only [acceptRun] at h
  by_cases hd : e.done = true
  · simp only [hd, if_true, Except.ok.injEq] at h
    exact .inl ⟨hd, h.symm⟩
  · simp only [hd, Bool.false_eq_true, if_false] at h
    cases hstep : envStep orc inst ec st e .accept with
    | error err => simp [hstep] at h
    | ok out =>
      simp only [hstep] at h
      by_cases hs : out.obsRes.success = true
      · simp only [hs, if_true] at h
        exact .inr ⟨by simpa using hd, out, rfl, hs, h⟩
      · simp [hs] at h

theorem acceptRun_of_done {ec : EnvCfg} {st : RewardStatic} {e : EnvState} (hd : e.done = true) :
    ∀ n, acceptRun orc inst ec st n e = .ok e
  | 0 => rfl
  | n + 1 => by simp only [acceptRun, hd, if_true]

theorem acceptRun_succ_of_step {ec : EnvCfg} {st : RewardStatic} {n : Nat} {e : EnvState} {out : StepOut}
    (hd : e.done = false) (h : envStep orc inst ec st e .accept = .ok out) (hs : out.obsRes.success = true) :
    acceptRun orc inst ec st (n + 1) e = acceptRun orc inst ec st n out.env := by
  simp only [acceptRun, hd, Bool.false_eq_true, if_false, h, hs, if_true]

structure RunInv (orc : Oracle) (inst : Instance) (ec : EnvCfg) (st : RewardStatic) (s0 : State) (e0 e : EnvState) : Prop where
  reach : EnvReach orc inst ec st s0 e
  succ : e.res.success = true
  joker : 0 ≤ e.mw.joker
  trunc : e.truncated = false
  done : e.done = e.terminated
  term : e = e0 ∨ e.terminated = isDone inst e.res.state

theorem runInv_step {ec : EnvCfg} {st : RewardStatic} {s0 : State} {e0 e : EnvState}
    (hi : RunInv orc inst ec st s0 e0 e) {out : StepOut} (h : envStep orc inst ec st e .accept = .ok out)
    (hs : out.obsRes.success = true) : RunInv orc inst ec st s0 e0 out.env := by
  obtain ⟨_, hres, hj, hterm, htrunc, hdone, _⟩ := envStep_accept_spec h hs
  have htr : out.env.truncated = false := by
    rw [htrunc]; simp; exact hi.joker
  refine ⟨EnvReach.step hi.reach h, by rw [hres]; exact hs, by rw [hj]; exact hi.joker, htr, ?_, Or.inr hterm⟩
  rw [hdone, htr]; simp

theorem acceptRun_pot {ec : EnvCfg} {st : RewardStatic} {s0 : State} (hst : Start orc inst s0) {e0 : EnvState} :
    ∀ (n : Nat) (e e' : EnvState), RunInv orc inst ec st s0 e0 e → acceptRun orc inst ec st n e = .ok e' →
      RunInv orc inst ec st s0 e0 e' ∧ (e'.terminated = true ∨ pot inst e'.res.state + n ≤ pot inst e.res.state) := by
  intro n
  induction n with
  | zero =>
    intro e e' hi h
    cases h
    exact ⟨hi, Or.inr (Nat.le_refl _)⟩
  | succ n ih =>
    intro e e' hi h
    rcases acceptRun_succ_ok h with ⟨hd, rfl⟩ | ⟨_, out, hstep, hs, h⟩
    · exact ⟨hi, Or.inl (by rw [← hi.done]; exact hd)⟩
    · have hlt := accept_decreases hst hi.reach hstep hs
      obtain ⟨hi', hc⟩ := ih out.env e' (runInv_step hi hstep hs) h
      exact ⟨hi', hc.imp_right fun hc => by omega⟩

theorem envReset_flags {ec : EnvCfg} {s0 : State} {r0 : Rng} {e0 : EnvState} {mic0 : List State}
    (hreset : envReset orc inst ec s0 r0 = .ok (e0, mic0)) :
    e0.mw.joker = ec.mw.jokerInit ∧ e0.truncated = false ∧ e0.done = false ∧ e0.terminated = false ∧
      (e0.res.success = false → e0.res.possible = []) := by
  obtain ⟨res, r', hs, rfl⟩ := envReset_ok hreset
  refine ⟨rfl, rfl, rfl, rfl, fun hf => ?_⟩
  rcases (smStep_spec hs).2 with h3 | h3 | h3
  · exact h3.2.2.2
  · exact h3.2.2.1
  · rw [h3.1] at hf; cases hf

theorem envReach_offer_pot_pos {ec : EnvCfg} {st : RewardStatic} {s0 : State} (hst : Start orc inst s0) {e : EnvState}
    (hr : EnvReach orc inst ec st s0 e) (hne : e.res.possible ≠ []) : 0 < pot inst e.res.state := by
  have hi := envReach_inv hst hr
  have hO := hi.liveF hne
  obtain ⟨w, hI, hS⟩ := occursA_inv hst hO.toA
  obtain ⟨poss, hposs, hsubp⟩ := hi.offersFrom hne
  obtain ⟨x, hx⟩ := List.exists_mem_of_ne_nil _ hne
  exact offer_pot_pos w hI hS (occursF_full hst hO).route hposs (List.ne_nil_of_mem (hsubp x hx))

/-- **The always-accept agent is done after at most `potBound inst = 2·numOps + numJobs` steps, if
every step returns** – for an instance whose episodes never run out of offers before the shop is
finished (`hoff`) and a non-negative truncation allowance: if the run of `n ≥ potBound inst`
accepted offers from the reset state returns (no step raised, every step reported success), then
the state it ends in has every job in an output buffer, the episode is not truncated, and – unless
the reset state was finished already – it is reported terminated. -/
theorem always_accept_bound {ec : EnvCfg} {st : RewardStatic} {s0 : State} (hst : Start orc inst s0)
    (hoff : ∀ {e : EnvState}, EnvReach orc inst ec st s0 e → e.res.success = true →
      isDone inst e.res.state = false → e.res.possible ≠ [])
    (hjk : 0 ≤ ec.mw.jokerInit)
    {r0 : Rng} {e0 : EnvState} {mic0 : List State} (hreset : envReset orc inst ec s0 r0 = .ok (e0, mic0))
    {n : Nat} {e : EnvState} (hrun : acceptRun orc inst ec st n e0 = .ok e) (hn : potBound inst ≤ n) :
    isDone inst e.res.state = true ∧ e.truncated = false ∧
      (isDone inst e0.res.state = false → e.terminated = true) := by
  have hr0 : EnvReach orc inst ec st s0 e0 := EnvReach.reset hreset
  obtain ⟨hjok, htr0, hd0, ht0, hfail⟩ := envReset_flags hreset
  have hshape := (envReach_inv hst hr0).struct.shape
  by_cases hs0 : e0.res.success = true
  · have hi0 : RunInv orc inst ec st s0 e0 e0 :=
      ⟨hr0, hs0, by rw [hjok]; exact hjk, htr0, by rw [hd0, ht0], Or.inl rfl⟩
    obtain ⟨hi, hc⟩ := acceptRun_pot hst n e0 e hi0 hrun
    have hdone : isDone inst e.res.state = true := by
      rcases hc with hc | hc
      · rcases hi.term with rfl | ht
        · rw [ht0] at hc; cases hc
        · rw [← ht]; exact hc
      · -- the potential is exhausted, so there is no offer, so the shop is finished
        have hb := pot_le_bound (inst := inst) hshape
        have hzero : pot inst e.res.state = 0 := by omega
        cases hnd : isDone inst e.res.state with
        | true => rfl
        | false =>
          have := envReach_offer_pot_pos hst hi.reach (hoff hi.reach hi.succ hnd)
          omega
    refine ⟨hdone, hi.trunc, fun h0 => ?_⟩
    rcases hi.term with rfl | ht
    · rw [hdone] at h0; cases h0
    · rw [ht]; exact hdone
  · -- the reset itself was unsuccessful: there is no offer, so no step returns
    have hs0' : e0.res.success = false := by simpa using hs0
    cases n with
    | zero =>
      cases hrun
      have hlen : inst.jobs.length = 0 := by unfold potBound at hn; omega
      have hjobs : e0.res.state.jobs = [] := by
        have := congrArg List.length hshape.jobs
        simp only [List.length_map] at this
        exact List.eq_nil_of_length_eq_zero (by omega)
      have hdone : isDone inst e0.res.state = true := isDone_iff.mpr (by rw [hjobs]; exact fun _ h => nomatch h)
      exact ⟨hdone, htr0, fun h0 => by rw [hdone] at h0; cases h0⟩
    | succ n =>
      exfalso
      rcases acceptRun_succ_ok hrun with ⟨hd, _⟩ | ⟨_, out, hstep, _, _⟩
      · rw [hd0] at hd; cases hd
      · obtain ⟨_, _, _, _, _, _, _, _, hm, _⟩ := envStep_ok hstep
        exact (mwStep_adm (envReach_inv hst hr0) hm).1 (hfail hs0')

end JSL
