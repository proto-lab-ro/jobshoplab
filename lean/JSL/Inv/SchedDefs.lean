import JSL.Inv.Init

/-!
# The schedule invariant

`SchedInv` couples machines and jobs (a busy machine holds exactly the job whose processing
operation runs on it), orders the operation records of every job in time, keeps the operations
of one machine disjoint, and says that nothing pending lies in the past.
-/

namespace JSL

def allIdle (l : List OpState) : Prop := ∀ o ∈ l, o.st = .idle

/-- the operation records of one job, in order: DONE* · PROCESSING? · IDLE*, times chained -/
def OpsOK (now : Int) : Option Int → List OpState → Prop
  | _, [] => True
  | prev, o :: os =>
    match o.st with
    | .done => ∃ a b, o.start = some a ∧ o.stop = some b ∧ a ≤ b ∧ b ≤ now ∧
                 (∀ p, prev = some p → p ≤ a) ∧ OpsOK now (some b) os
    | .processing => ∃ a b, o.start = some a ∧ o.stop = some b ∧ a ≤ b ∧ a ≤ now ∧ now ≤ b ∧
                 (∀ p, prev = some p → p ≤ a) ∧ allIdle os
    | .idle => allIdle os
    | .transport => False

/-- two operation records do not overlap in time (as closed-open intervals) -/
def Disjoint2 (o₁ o₂ : OpState) : Prop :=
  ∀ a₁ b₁ a₂ b₂, o₁.start = some a₁ → o₁.stop = some b₁ → o₂.start = some a₂ → o₂.stop = some b₂ →
    b₁ ≤ a₂ ∨ b₂ ≤ a₁

structure SchedInv (s : State) : Prop where
  idleEmpty : ∀ m ∈ s.machines, m.st = .idle → m.buffer.store = []
  /-- a busy machine holds exactly the job whose processing operation runs on it until `occ` -/
  busyHolds : ∀ m ∈ s.machines, m.st ≠ .idle → ∃ j ∈ s.jobs, m.buffer.store = [j.id] ∧
      ∃ op, j.processing? = some op ∧ op.machine = m.id ∧ op.stop = m.occ ∧ m.occ ≠ none
  /-- a processing operation runs on a busy machine that holds its job -/
  procOnBusy : ∀ j ∈ s.jobs, ∀ op ∈ j.ops, op.st = .processing →
      ∃ m ∈ s.machines, m.id = op.machine ∧ m.st ≠ .idle ∧ m.buffer.store = [j.id]
  ops : ∀ j ∈ s.jobs, OpsOK s.time none j.ops
  /-- per machine: a finished operation ends before a running one starts -/
  doneBeforeProc : ∀ j₁ ∈ s.jobs, ∀ o₁ ∈ j₁.ops, ∀ j₂ ∈ s.jobs, ∀ o₂ ∈ j₂.ops,
      o₁.machine = o₂.machine → o₁.st = .done → o₂.st = .processing →
      ∀ b₁ a₂, o₁.stop = some b₁ → o₂.start = some a₂ → b₁ ≤ a₂
  /-- per machine: finished operations are pairwise disjoint -/
  doneDisjoint : ∀ j₁ ∈ s.jobs, ∀ o₁ ∈ j₁.ops, ∀ j₂ ∈ s.jobs, ∀ o₂ ∈ j₂.ops,
      o₁.machine = o₂.machine → o₁.st = .done → o₂.st = .done → (o₁.job, o₁.idx) ≠ (o₂.job, o₂.idx) →
      Disjoint2 o₁ o₂
  /-- a busy AGV's arrival / waiting time is not in the past -/
  agvPending : ∀ t ∈ s.transports, t.st ≠ .idle → ∀ o, t.occ = .at o → s.time ≤ o
  /-- an idle AGV and an AGV in its drop-off outage claim no job -/
  freeNoClaim : ∀ t ∈ s.transports, t.st = .idle ∨ t.st = .outage → t.job = none
  /-- the transition parked in a time dependency is a "keep waiting" transition -/
  depWaiting : ∀ t ∈ s.transports, ∀ b j tr, t.occ = .dep b j tr → tr.new = .t .waitingpickup

/-- hypotheses on sampled values: every duration, travel, setup and outage time is non-negative
(the code clamps stochastic samples at 0; the DSL grammar only admits `\\d+` for job durations) -/
structure NonNeg (orc : Oracle) (inst : Instance) : Prop where
  orc : ∀ sid k, 0 ≤ orc sid k
  ops : ∀ j ∈ inst.jobs, ∀ o ∈ j.ops, ∀ t, o.dur = .det t → 0 ≤ t
  setup : ∀ m ∈ inst.machines, ∀ e ∈ m.setup, ∀ t, e.2 = .det t → 0 ≤ t
  travel : ∀ e ∈ inst.travel, ∀ t, e.2 = .det t → 0 ≤ t
  mout : ∀ m ∈ inst.machines, ∀ o ∈ m.outages, ∀ t, o.dur = .det t → 0 ≤ t
  tout : ∀ m ∈ inst.transports, ∀ o ∈ m.outages, ∀ t, o.dur = .det t → 0 ≤ t

theorem TimeCfg.cur_nonneg {orc : Oracle} (h : ∀ sid k, 0 ≤ orc sid k) (r : Rng) (c : TimeCfg)
    (hd : ∀ t, c = .det t → 0 ≤ t) : 0 ≤ c.cur orc r := by
  cases c with
  | det t => exact hd t rfl
  | stoch sid => exact h _ _

theorem TimeCfg.updRead_nonneg {orc : Oracle} (h : ∀ sid k, 0 ≤ orc sid k) (r : Rng) (c : TimeCfg)
    (hd : ∀ t, c = .det t → 0 ≤ t) : 0 ≤ (c.updRead orc r).1 := by
  cases c with
  | det t => exact hd t rfl
  | stoch sid => exact h _ _

theorem TimeCfg.readUpd_nonneg {orc : Oracle} (h : ∀ sid k, 0 ≤ orc sid k) (r : Rng) (c : TimeCfg)
    (hd : ∀ t, c = .det t → 0 ≤ t) : 0 ≤ (c.readUpd orc r).1 := by
  cases c with
  | det t => exact hd t rfl
  | stoch sid => exact h _ _

end JSL
