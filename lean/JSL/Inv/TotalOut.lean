import JSL.Inv.TotalRoom

/-!
# Sampling the outages of a component does not raise

`get_new_outage_states` raises `ValueError` when a configured outage has no record, or when a
record is still active.  With a record for every configured outage (`OutCover`) and only inactive
records (`AllInactive`: what `OutageInv` says of every component that is not in OUTAGE) it returns.
-/

namespace JSL

variable {inst : Instance}

theorem sampleOutage_total (orc : Oracle) (now : Int) {comp : List OutageState} (hin : AllInactive comp)
    (r : Rng) {o : OutageCfg} (hc : ∃ st ∈ comp, st.id = o.id) :
    ∃ out, sampleOutage orc now comp r o = .ok out := by
  obtain ⟨st0, hst0, hid⟩ := hc
  obtain ⟨st, hst⟩ := findE_of_exists (p := fun (x : OutageState) => x.id == o.id) .valueError hst0 (by simp [hid])
  obtain ⟨last, hl⟩ := hin st (findE_ok hst).1
  have hsince : ∃ d, outageSince now st.st = .ok d := by
    rw [hl]
    cases last with
    | none => exact ⟨_, rfl⟩
    | some l => exact ⟨_, rfl⟩
  obtain ⟨d, hd⟩ := hsince
  unfold sampleOutage
  simp only [hst, hd, except_bind_ok]
  split
  · exact ⟨_, rfl⟩
  · exact ⟨_, rfl⟩

theorem newOutageStates_total (orc : Oracle) (now : Int) {comp : List OutageState} (hin : AllInactive comp) :
    ∀ (cfgs : List OutageCfg) (r : Rng), OutCover cfgs comp → ∃ out, newOutageStates orc now comp cfgs r = .ok out
  | [], r, _ => ⟨_, rfl⟩
  | o :: os, r, hc => by
    obtain ⟨⟨x, r1⟩, hx⟩ := sampleOutage_total orc now hin r (hc o (by simp))
    obtain ⟨⟨xs, r2⟩, hxs⟩ := newOutageStates_total orc now hin os r1 (fun oc hoc => hc oc (by simp [hoc]))
    simp only [newOutageStates, hx, hxs, except_bind_ok]
    exact ⟨_, rfl⟩

end JSL
