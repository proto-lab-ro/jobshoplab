import JSL.Inv.TotalStep
import JSL.Inv.PreDefs
import JSL.Inv.ProgressPass

/-!
# The middleware and the environment step do not raise

`occursF_tot`: the invariants `TotP` hold along every execution the environment produces.
`StepTotal`: the totality of `state.step` along these executions, as a hypothesis; from it, in an
environment state of an episode that holds an offer, the actions 0 and 1 are handled – the step returns,
or the timed loop runs out of fuel (`mwStep_of_stepTotal`, `envStep_of_stepTotal`), `reset` returns, and no
step returns a failed result (`no_step_fails`).
-/

namespace JSL

variable {orc : Oracle} {inst : Instance}

theorem JobPlace.of_rest {s : State} (hs : Shape inst s) (hJ : JobsHaveOps inst) (h : restB s = true) : JobPlace inst s := by
  simp only [restB, Bool.and_eq_true, List.all_eq_true, beq_iff_eq, List.isEmpty_iff, Option.isNone_iff_eq_none] at h
  obtain ⟨⟨_, hj⟩, ht⟩ := h
  constructor
  · intro j hjm _
    obtain ⟨jc, hjc, hk⟩ := hs.job_cfg hjm
    simp only [jKey, jcKey, Prod.mk.injEq] at hk
    have hne : j.ops ≠ [] := by
      intro e
      have := hk.2
      rw [e] at this
      simp at this
      exact hJ jc hjc this
    cases hops : j.ops with
    | nil => exact absurd hops hne
    | cons o os =>
      have ho := hj j hjm o (by rw [hops]; simp)
      simp [JobState.noOpIdle, hops, ho]
  · intro t ht' x hx
    rw [(ht t ht').1.1.2] at hx
    cases hx

theorem TotP.of_start {s0 : State} (hst : Start orc inst s0) (C : TotClassP inst) (hR : Ready inst s0)
    (hO : OutShape inst s0) (h0 : outRestB s0 = true) : TotP inst s0 := by
  obtain ⟨_, hI⟩ := initOKB_sound hst.init
  exact ⟨AgvFull.of_rest hst.rest hst.placed, hR, OutageInv.of_rest hst.rest h0, hO, AgvShape.of_rest hst.rest,
    JobPlace.of_rest hI.shape C.jobsOps hst.rest⟩

theorem pb_totP_of_guards {s0 : State} (hst : Start orc inst s0) (h : totalClassPB inst s0 = true) : TotP inst s0 := by
  obtain ⟨C, _, hR, hO, h0⟩ := totalClassPB_sound h
  exact TotP.of_start hst C hR hO h0

theorem occursF_tot {cfg : SMConfig} {s0 σ : State} (hst : Start orc inst s0) (C : TotClassP inst) (h0 : TotP inst s0)
    (h : OccursF orc inst cfg s0 σ) : TotP inst σ :=
  occursF_pass (TotPass orc inst cfg (initOKB_sound hst.init).1 (nonnegB_sound hst.samples hst.nonneg) C) hst h0
    (fun _ _ _ ho => ho) h

/-- the reward parameters that cannot divide by zero -/
structure RewardOK (rc : RewardCfg) (st : RewardStatic) : Prop where
  numOps : st.numOps ≠ 0
  span : st.tmax - st.lb ≠ 0
  bias : rc.sparseBias ≠ 0

theorem rewardMake_totalT {rc : RewardCfg} {st : RewardStatic} (hrw : RewardOK rc st) (cnt : Nat) (res : SMResult)
    (term trunc : Bool) : ∃ x, rewardMake rc st cnt res term trunc = .ok x := by
  have h1 : ∃ x, sparseReward rc st res.state.time term trunc = .ok x := by
    unfold sparseReward
    cases trunc with
    | true => simp [hrw.bias]
    | false =>
      cases term with
      | false => simp
      | true => simp [hrw.span]
  have h2 : ∃ x, denseReward st cnt res = .ok x := by
    unfold denseReward
    simp [hrw.numOps]
  obtain ⟨x1, e1⟩ := h1
  obtain ⟨⟨d, c⟩, e2⟩ := h2
  unfold rewardMake
  simp only [e1, e2, except_bind_ok, except_pure]
  exact ⟨_, rfl⟩

theorem envStep_of_mwStepT {ec : EnvCfg} {st : RewardStatic} (hrw : RewardOK ec.rw st) {e : EnvState} (hd : e.done = false)
    (a : AgentAct) :
    (∀ out, mwStep orc inst ec.sm ec.mw ec.fuel e.res e.mw e.rng a = .ok out → ∃ o, envStep orc inst ec st e a = .ok o) ∧
    (∀ x, mwStep orc inst ec.sm ec.mw ec.fuel e.res e.mw e.rng a = .error x → envStep orc inst ec st e a = .error x) := by
  constructor
  · rintro ⟨res', mw, r, mic⟩ hm
    unfold envStep
    simp only [hd, Bool.false_eq_true, if_false, hm, except_bind_ok]
    generalize hX : rewardMake ec.rw st e.rwCnt _ _ _ = X
    obtain ⟨⟨rew, cnt⟩, hx⟩ : ∃ x, X = .ok x := by rw [← hX]; exact rewardMake_totalT hrw _ _ _ _
    subst hx
    exact ⟨_, rfl⟩
  · intro x hm
    unfold envStep
    simp only [hd, Bool.false_eq_true, if_false, hm, except_bind_error]

/-- `state.step` with `fuel` rounds returns a successful result from every state of an execution of the
environment, for every action the middleware can submit – or, if `E`, the timed loop runs out of fuel -/
def StepTotal (orc : Oracle) (inst : Instance) (cfg : SMConfig) (fuel : Nat) (s0 : State) (E : Prop) : Prop :=
  ∀ ⦃s : State⦄ ⦃a : Action⦄, OccursF orc inst cfg s0 s → Admissible a → AdmOffer inst cfg s a → ∀ r : Rng,
    (∃ res r' mic, smStep orc inst cfg fuel s r a = .ok (res, r', mic) ∧ res.success = true) ∨
      (E ∧ smStep orc inst cfg fuel s r a = .error .outOfFuel)

/-- the middleware step with action 0 or 1 on a result that holds an offer returns, or (if `E`) runs out
of fuel.  Declining the last offer
needs more than the totality of `state.step`: `_get_no_op_result` raises when the forced step ends without
an offer in a shop that is not finished (`smStep_good`). -/
theorem mwStep_of_stepTotal {cfg : SMConfig} {mc : MwCfg} {fuel : Nat} {s0 : State} {E : Prop} (hst : Start orc inst s0)
    (hF : PickFlex inst) (hA : HasAgv inst) (H : StepTotal orc inst cfg fuel s0 E) {res : SMResult}
    (hi : ResInv orc inst cfg s0 res) (hne : res.possible ≠ []) (m : MwState) (r : Rng) {a : AgentAct}
    (ha : a = .accept ∨ a = .decline) :
    (∃ out, mwStep orc inst cfg mc fuel res m r a = .ok out) ∨
      (E ∧ mwStep orc inst cfg mc fuel res m r a = .error .outOfFuel) := by
  have hO := hi.liveF hne
  obtain ⟨poss, hposs, hsub⟩ := hi.offersFrom hne
  cases hp : res.possible with
  | nil => exact absurd hp hne
  | cons tr rest =>
    have htr : tr ∈ res.possible := by rw [hp]; simp
    rcases ha with rfl | rfl
    · -- accept
      have hadm : Admissible { transitions := [tr], noOp := false, tm := .jumpToEvent } :=
        ⟨fun x hx => by simp at hx; subst hx; exact (hi.live hne).2 x htr, by simp⟩
      have hoff : AdmOffer inst cfg res.state { transitions := [tr], noOp := false, tm := .jumpToEvent } :=
        Or.inr ⟨poss, hposs, tr, hsub tr htr, rfl⟩
      unfold mwStep interpret
      simp only [hp, except_pure, except_bind_ok, Bool.false_eq_true, if_false]
      rcases H hO hadm hoff r with ⟨res', r', mic, hs, _⟩ | ⟨hE, herr⟩
      · left; simp only [hs, except_bind_ok]; exact ⟨_, rfl⟩
      · right; refine ⟨hE, ?_⟩; simp only [herr, except_bind_error]
    · -- decline
      unfold mwStep interpret
      simp only [hp, except_pure, except_bind_ok, noOpAction, if_true]
      unfold noOpResult
      simp only [hp]
      cases rest with
      | cons o' rest' => left; exact ⟨_, rfl⟩
      | nil =>
        have hadm : Admissible { transitions := [], noOp := true, tm := .forceJump } :=
          ⟨fun x hx => by simp at hx, by simp⟩
        have hoff : AdmOffer inst cfg res.state { transitions := [], noOp := true, tm := .forceJump } := Or.inl rfl
        simp only
        rcases H hO hadm hoff r with ⟨res', r', mic, hs, hsuc⟩ | ⟨hE, herr⟩
        · left
          simp only [hs, except_bind_ok]
          have hg := (smStep_good hst hF hA hO hadm hoff hs).2 hsuc
          by_cases hemp : res'.possible = []
          · have hdone : isDone inst res'.state = true := by
              cases hdn : isDone inst res'.state with
              | true => rfl
              | false => exact absurd hemp (hg hdn)
            simp [hemp, hdone]
          · have : res'.possible.isEmpty = false := by simpa using hemp
            simp only [this, Bool.false_eq_true, if_false]
            exact ⟨_, rfl⟩
        · right; refine ⟨hE, ?_⟩; simp only [herr, except_bind_error]

/-- `env.step` with action 0 or 1, in a state of an episode that is not done and holds an offer, returns, or
(if `E`) runs out of fuel -/
theorem envStep_of_stepTotal {ec : EnvCfg} {st : RewardStatic} {s0 : State} {E : Prop} (hst : Start orc inst s0)
    (hF : PickFlex inst) (hA : HasAgv inst) (H : StepTotal orc inst ec.sm ec.fuel s0 E) (hrw : RewardOK ec.rw st)
    {e : EnvState} (h : EnvReach orc inst ec st s0 e) (hd : e.done = false) (hne : e.res.possible ≠ [])
    {a : AgentAct} (ha : a = .accept ∨ a = .decline) :
    (∃ out, envStep orc inst ec st e a = .ok out) ∨ (E ∧ envStep orc inst ec st e a = .error .outOfFuel) := by
  have he := envStep_of_mwStepT (orc := orc) (inst := inst) hrw hd a
  rcases mwStep_of_stepTotal (mc := ec.mw) hst hF hA H (envReach_inv hst h) hne e.mw e.rng ha with ⟨out, ho⟩ | ⟨hE, herr⟩
  · exact Or.inl (he.1 out ho)
  · exact Or.inr ⟨hE, he.2 _ herr⟩

/-- `reset` returns a successful result, or (if `E`) runs out of fuel -/
theorem envReset_of_stepTotal {ec : EnvCfg} {s0 : State} {E : Prop} (H : StepTotal orc inst ec.sm ec.fuel s0 E) (r : Rng) :
    (∃ e mic, envReset orc inst ec s0 r = .ok (e, mic) ∧ e.res.success = true) ∨
      (E ∧ envReset orc inst ec s0 r = .error .outOfFuel) := by
  unfold envReset mwReset
  rcases H OccursF.init admissible_noOp (Or.inl rfl) r with ⟨res, r', mic, hs, hsuc⟩ | ⟨hE, herr⟩
  · left; simp only [hs, except_bind_ok, except_pure]; exact ⟨_, _, rfl, hsuc⟩
  · right; refine ⟨hE, ?_⟩; simp only [herr, except_bind_error]

theorem no_step_fails {ec : EnvCfg} {st : RewardStatic} {s0 : State} {E : Prop} (hst : Start orc inst s0)
    (H : StepTotal orc inst ec.sm ec.fuel s0 E) {e : EnvState} (h : EnvReach orc inst ec st s0 e) {a : AgentAct}
    {out : StepOut} (hs : envStep orc inst ec st e a = .ok out) : out.obsRes.success = true := by
  obtain ⟨_, res', mw, r, mic, rew, cnt, _, hm, _, _, rfl⟩ := envStep_ok hs
  obtain ⟨hne, ⟨_, _, _, _, ⟨⟩⟩ | ⟨act, ha, hadm, hstep⟩⟩ := mwStep_adm (envReach_inv hst h) hm
  · rfl
  · rcases H ((envReach_inv hst h).liveF hne) ha hadm e.rng with ⟨res2, r2, mic2, h2, hsuc⟩ | ⟨_, herr⟩
    · rw [hstep] at h2
      cases h2
      exact hsuc
    · rw [hstep] at herr; cases herr

theorem stepTotal_of_class {cfg : SMConfig} {s0 : State} (hst : Start orc inst s0) (C : TotClassP inst) (h0 : TotP inst s0)
    (fuel : Nat) : StepTotal orc inst cfg fuel s0 True := by
  intro s a h ha hadm r
  obtain ⟨w, hI, hS⟩ := occursA_inv hst h.toA
  have nn := nonnegB_sound hst.samples hst.nonneg
  exact (smStep_totalT (R := fun _ _ _ => False) w nn C id (fun _ h => h.elim) hI hS (occursF_tot hst C h0 h) ha hadm).imp id
    (fun herr => ⟨trivial, herr.1⟩)

end JSL
