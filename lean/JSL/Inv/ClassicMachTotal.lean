import JSL.Inv.ClassicDefs
import JSL.Inv.TotalMachine

/-!
# Totality of the timed machine transitions

For a busy machine that holds job `x` the three timed transitions SETUP → WORKING,
WORKING → OUTAGE and OUTAGE → IDLE pass validation and are applied without an exception
(the last two in a classic instance: no outage configured, post-buffers never full).
-/

namespace JSL

variable {orc : Oracle} {inst : Instance}

theorem busy_running (w : WF inst) {s : State} (hI : StructInv inst s) (hS : SchedInv s)
    {m : MachineState} (hm : m ∈ s.machines) (hb : m.st ≠ .idle) {x : Nat} (hx : m.buffer.store = [x]) :
    ∃ j ∈ s.jobs, j.id = x ∧ getJob s.jobs x = .ok j ∧ ∃ op, j.processing? = some op ∧
      j.nextNotDone = .ok op ∧ op.machine = m.id ∧ op ∈ j.ops ∧ op.st = .processing := by
  obtain ⟨j, hj, hst, op, hp, hmach, _, _⟩ := hS.busyHolds m hm hb
  have hid : j.id = x := by rw [hx] at hst; simpa using hst.symm
  have hg := getJob_of_mem (hI.shape.jobsNodup w) hj
  rw [hid] at hg
  have hnn := nextNotDone_of_processing (hS.ops j hj) hp
  have hnn' : j.nextNotDone = .ok op := by simp [JobState.nextNotDone, hnn]
  obtain ⟨_, _, _, _, hpst⟩ := processing?_split' hp
  exact ⟨j, hj, hid, hg, op, hp, hnn', hmach, (find?_mem_ops hp).1, hpst⟩

theorem setupToWorking_total (w : WF inst) {s : State} (hI : StructInv inst s) (hS : SchedInv s)
    {m : MachineState} (hm : m ∈ s.machines) (hst : m.st = .setup) {x : Nat} (hx : m.buffer.store = [x]) (r : Rng) :
    transitionValid s ⟨.m m.id, .m .working, some x⟩ = .ok true ∧
    ∃ s' r', applyTransition orc inst s r ⟨.m m.id, .m .working, some x⟩ = .ok (s', r') := by
  have hs := hI.shape
  have hgm := getMachine_of_mem (hs.machNodup w) hm
  constructor
  · obtain ⟨j, hj, hid, hgj, op, _, hnn, hmach, _, _⟩ := busy_running w hI hS hm (by rw [hst]; simp) hx
    simp [transitionValid, hgm, machineTransitionValid, machineAllowed, machineValid, hst, machineJobCheck, hgj,
      hnn, hmach]
  · rw [applyTransition_on_machine hgm, hst]
    obtain ⟨out, h⟩ := TotalMachine.setupToWorking_totalT w hI hS hm hst (tr := ⟨.m m.id, .m .working, some x⟩) rfl
      (by rw [hx]; simp) orc r
    exact ⟨out.1, out.2, h⟩


theorem occupiedFor_nil : occupiedFor [] = 0 := rfl

theorem workingToOutage_total (w : WF inst) (hC : Classic inst) {s : State} (hI : StructInv inst s) (hS : SchedInv s)
    {m : MachineState} (hm : m ∈ s.machines) (hst : m.st = .working) {x : Nat} (hx : m.buffer.store = [x]) (r : Rng) :
    transitionValid s ⟨.m m.id, .m .outage, some x⟩ = .ok true ∧
    ∃ s' r', applyTransition orc inst s r ⟨.m m.id, .m .outage, some x⟩ = .ok (s', r') := by
  have hs := hI.shape
  have hgm := getMachine_of_mem (hs.machNodup w) hm
  constructor
  · simp [transitionValid, hgm, machineTransitionValid, machineAllowed, machineValid, hst]
  · rw [applyTransition_on_machine hgm, hst]
    obtain ⟨out, h⟩ := TotalMachine.workingToOutage_totalT w hI hS hm hst (tr := ⟨.m m.id, .m .outage, some x⟩) rfl
      (by rw [hx]; simp) orc r (fun mc hmc _ => by rw [hC.noOutM mc hmc]; exact ⟨_, rfl⟩)
    exact ⟨out.1, out.2, h⟩

theorem workingToOutage_classic (hC : Classic inst) {s s' : State} {r r' : Rng} {tr : Transition} {m : MachineState}
    (h : handleMachineWorkingToOutage orc inst s r tr m = .ok (s', r')) :
    r' = r ∧ ∃ (j : JobState) (op : OpState), j ∈ s.jobs ∧ tr.job = some j.id ∧ j.processing? = some op ∧
      s' = (s.replaceMachine (m.toOutage [] s.time)).replaceJob (j.replaceOp { op with stop := some s.time }) := by
  obtain ⟨mc, outs, j, op, hmc, _, hno, hj, htj, hp, rfl⟩ := workingToOutage_spec h
  rw [hC.noOutM mc hmc, newOutageStates_nil] at hno
  simp only [Except.ok.injEq, Prod.mk.injEq] at hno
  obtain ⟨rfl, rfl⟩ := hno
  exact ⟨rfl, j, op, hj, htj, hp, by simp [occupiedFor_nil]⟩

theorem outageToIdle_total (w : WF inst) (hC : Classic inst) {s : State} (hI : StructInv inst s) (hS : SchedInv s)
    {m : MachineState} (hm : m ∈ s.machines) (hst : m.st = .outage) {x : Nat} (r : Rng) :
    transitionValid s ⟨.m m.id, .m .idle, some x⟩ = .ok true ∧
    ∃ s' r', applyTransition orc inst s r ⟨.m m.id, .m .idle, some x⟩ = .ok (s', r') := by
  have hs := hI.shape
  have hgm := getMachine_of_mem (hs.machNodup w) hm
  constructor
  · simp [transitionValid, hgm, machineTransitionValid, machineAllowed, machineValid, hst]
  · rw [applyTransition_on_machine hgm, hst]
    obtain ⟨out, h⟩ := TotalMachine.outageToIdle_totalT w hC.roomy hI hS hm hst r
    exact ⟨out.1, out.2, h⟩

end JSL
