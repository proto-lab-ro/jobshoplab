import JSL.Inv.SetupRecs

/-!
# Setup separation: the four machine handlers
-/

namespace JSL

variable {orc : Oracle} {inst : Instance} {ι : Type} {f : ι → TimeCfg}

/-- the common shape of the four machine handlers: one record `target` of one job is rewritten to
`rec`, one machine `m0` is replaced by `M'` -/
structure RecStep (s s' : State) (m0 M' : MachineState) (target rec : OpState) : Prop where
  tmem : target ∈ recs s
  key : rec.job = target.job ∧ rec.idx = target.idx
  rmem : ∀ x, x ∈ recs s' ↔ x = rec ∨ (x ∈ recs s ∧ x ≠ target)
  hm0 : m0 ∈ s.machines
  mid : M'.id = m0.id
  machines : s'.machines = (s.replaceMachine M').machines
  recm : rec.machine = m0.id
  tgm : target.machine = m0.id

variable {s s' : State} {m0 M' : MachineState} {target rec : OpState}

theorem RecStep.mk_of (w : WF inst) (hI : StructInv inst s) {j J' : JobState}
    (hj : j ∈ s.jobs) (hm0 : m0 ∈ s.machines) (htm : target ∈ j.ops)
    (hkey : rec.job = target.job ∧ rec.idx = target.idx) (hJid : J'.id = j.id) (hJops : J'.ops = (j.replaceOp rec).ops)
    (hMid : M'.id = m0.id) (hjobs : s'.jobs = (s.replaceJob J').jobs) (hmach : s'.machines = (s.replaceMachine M').machines)
    (hrecm : rec.machine = m0.id) (htgm : target.machine = m0.id) : RecStep s s' m0 M' target rec :=
  ⟨mem_recs.mpr ⟨j, hj, htm⟩, hkey, mem_recs_replace w hI hj htm hkey hJid hJops hjobs, hm0, hMid, hmach, hrecm, htgm⟩

/-- the machines other than the acting one keep their clauses -/
theorem RecStep.inv (w : WF inst) (hI : StructInv inst s) (hP : SetupInvG orc inst f s) (h : RecStep s s' m0 M' target rec)
    (hM : MachOKG orc inst f (recs s') M') (hC : ChainG orc inst f (recs s')) : SetupInvG orc inst f s' := by
  refine ⟨?_, hC⟩
  intro m1 hm1
  rw [h.machines] at hm1
  rcases (mem_replaceMachine (hI.shape.machNodup w) h.hm0 h.mid m1).mp hm1 with rfl | ⟨hm1', hne⟩
  · exact hM
  · refine (hP.mach m1 hm1').congr ?_ rfl rfl rfl
    intro x hx
    rw [h.rmem x]
    constructor
    · rintro (rfl | ⟨hx', _⟩)
      · exact absurd (hx.symm.trans h.recm) hne
      · exact hx'
    · intro hx'
      refine Or.inr ⟨hx', ?_⟩
      rintro rfl
      exact hne (hx.symm.trans h.tgm)

theorem RecStep.done_same (h : RecStep s s' m0 M' target rec) (ht : target.st ≠ .done) (hr : rec.st ≠ .done) :
    ∀ x, x.st = .done → (x ∈ recs s' ↔ x ∈ recs s) := by
  intro x hx
  rw [h.rmem x]
  constructor
  · rintro (rfl | ⟨hx', _⟩)
    · exact absurd hx hr
    · exact hx'
  · intro hx'
    refine Or.inr ⟨hx', ?_⟩
    rintro rfl
    exact ht hx

theorem RecStep.done_old (h : RecStep s s' m0 M' target rec) (hr : rec.st ≠ .done) {mid : Nat} {a : OpState}
    (ha : DoneOn (recs s') mid a) : DoneOn (recs s) mid a := by
  refine ⟨?_, ha.mach, ha.st⟩
  rcases (h.rmem a).mp ha.mem with rfl | ⟨hx, _⟩
  · exact absurd ha.st hr
  · exact hx

theorem RecStep.done_new (h : RecStep s s' m0 M' target rec) (ht : target.st ≠ .done) {mid : Nat} {a : OpState}
    (ha : DoneOn (recs s) mid a) : DoneOn (recs s') mid a := by
  refine ⟨(h.rmem a).mpr (Or.inr ⟨ha.mem, ?_⟩), ha.mach, ha.st⟩
  rintro rfl
  exact ht ha.st

theorem RecStep.proc_is_rec (w : WF inst) (hI : StructInv inst s) (hS : SchedInv s) (h : RecStep s s' m0 M' target rec)
    (hcase : m0.st = .idle ∨ target.st = .processing) {b : OpState} (hb : ProcOn (recs s') M'.id b) : b = rec := by
  rcases (h.rmem b).mp hb.mem with e | ⟨hx, hne⟩
  · exact e
  · exfalso
    have hbm : b.machine = m0.id := by rw [hb.mach, h.mid]
    rcases hcase with hi | hp
    · exact no_proc_on_idle w hI hS h.hm0 hi ⟨hx, hbm, hb.st⟩
    · exact hne (proc_unique w hI hS hx h.tmem (by rw [hbm, h.tgm]) hb.st hp)

theorem rec_mem (h : RecStep s s' m0 M' target rec) : rec ∈ recs s' := (h.rmem rec).mpr (Or.inl rfl)

/-- IDLE → SETUP: the accepted record spans exactly the setup time from the tool of the last
finished operation -/
theorem setup_step_accept (w : WF inst) (hI : StructInv inst s) (hS : SchedInv s) (hP : SetupInvG orc inst f s)
    (h : RecStep s s' m0 M' target rec) (hst0 : m0.st = .idle) (hst' : M'.st = .setup) (htd : target.st ≠ .done)
    (hrs : rec.st = .processing) (hrS : tS rec = s.time) {tl : Nat} (htool' : M'.tool = tl)
    (hrt : toolOf inst rec = some tl) {mc : MachineCfg} (hmc : mc ∈ inst.machines) (hmcid : mc.id = m0.id)
    {c : TimeCfg} (hc : mc.setup.lookup (m0.tool, tl) = some c) {sd : Int} {r r' : Rng}
    (hsd : (sd, r') = c.readUpd orc r) (hrE : tE rec = s.time + sd) : SetupInvG orc inst f s' := by
  have hrd : rec.st ≠ .done := by rw [hrs]; simp
  refine h.inv w hI hP ?_ (hP.chain.congr (h.done_same htd hrd))
  have hold := hP.mach m0 h.hm0
  constructor
  · intro _ b hb
    rw [h.proc_is_rec w hI hS (Or.inl hst0) hb, htool']; exact hrt
  · intro hi; rw [hst'] at hi; cases hi
  · intro _ b hb a ha
    have hbe := h.proc_is_rec w hI hS (Or.inl hst0) hb
    subst hbe
    rw [h.mid] at ha ⊢
    obtain ⟨p, hp, hnb, htp⟩ := hold.mountedIdle hst0 a (h.done_old hrd ha)
    refine ⟨p, h.done_new htd hp, hnb, ?_, ?_⟩
    · rw [hrS]; exact (done_times hS hp.mem hp.st).2.2.2
    · rintro i ⟨mc', hmc', hid', tp, tb, e1, e2, e3⟩
      have : mc' = mc := eq_of_mem_of_key_eq (key := fun (y : MachineCfg) => y.id) w.machNodup hmc' hmc (by rw [hid', hmcid])
      subst this
      rw [htp] at e1; rw [hrt] at e2
      simp only [Option.some.injEq] at e1 e2
      subst e1 e2
      rw [hc] at e3
      simp only [Option.some.injEq] at e3
      obtain ⟨k, hk⟩ := readUpd_at (orc := orc) c r
      have : sd = c.at orc k := by
        have := congrArg Prod.fst hsd
        simp only at this
        rw [this, hk]
      exact ⟨k, by rw [hrE, hrS, this, e3]⟩
  · intro hw; rw [hst'] at hw; rcases hw with hw | hw <;> cases hw

/-- SETUP → WORKING (due): processing starts at least the setup time after the predecessor ended -/
theorem setup_step_begin (w : WF inst) (hI : StructInv inst s) (hS : SchedInv s) (hP : SetupInvG orc inst f s)
    (h : RecStep s s' m0 M' target rec) (hst0 : m0.st = .setup) (hst' : M'.st = .working) (htool' : M'.tool = m0.tool)
    (htp : target.st = .processing) (hrs : rec.st = .processing) (hrS : tS rec = s.time)
    (hdue : tE target ≤ s.time) : SetupInvG orc inst f s' := by
  have hrd : rec.st ≠ .done := by rw [hrs]; simp
  have htd : target.st ≠ .done := by rw [htp]; simp
  refine h.inv w hI hP ?_ (hP.chain.congr (h.done_same htd hrd))
  have hold := hP.mach m0 h.hm0
  have hbusy : m0.st ≠ .idle := by rw [hst0]; simp
  have htproc : ProcOn (recs s) m0.id target := ⟨h.tmem, h.tgm, htp⟩
  constructor
  · intro _ b hb
    rw [h.proc_is_rec w hI hS (Or.inr htp) hb, htool', toolOf_congr h.key.1 h.key.2]
    exact hold.mounted hbusy target htproc
  · intro hi; rw [hst'] at hi; cases hi
  · intro hs; rw [hst'] at hs; cases hs
  · intro _ b hb a ha
    have hbe := h.proc_is_rec w hI hS (Or.inr htp) hb
    subst hbe
    rw [h.mid] at ha ⊢
    obtain ⟨p, hp, hnb, hle, hex⟩ := hold.setup hst0 target htproc a (h.done_old hrd ha)
    refine ⟨p, h.done_new htd hp, hnb, ?_, ?_⟩
    · rw [hrS]; exact (done_times hS hp.mem hp.st).2.2.2
    · intro i hd
      obtain ⟨k, hk⟩ := hex i ((cfgSetup_congr h.key.1 h.key.2).mp hd)
      exact ⟨k, by rw [hrS]; omega⟩

/-- WORKING → OUTAGE: the start of the record in progress does not change -/
theorem setup_step_extend (w : WF inst) (hI : StructInv inst s) (hS : SchedInv s) (hP : SetupInvG orc inst f s)
    (h : RecStep s s' m0 M' target rec) (hst0 : m0.st = .working) (hst' : M'.st = .outage) (htool' : M'.tool = m0.tool)
    (htp : target.st = .processing) (hrs : rec.st = .processing) (hrS : tS rec = tS target) : SetupInvG orc inst f s' := by
  have hrd : rec.st ≠ .done := by rw [hrs]; simp
  have htd : target.st ≠ .done := by rw [htp]; simp
  refine h.inv w hI hP ?_ (hP.chain.congr (h.done_same htd hrd))
  have hold := hP.mach m0 h.hm0
  have hbusy : m0.st ≠ .idle := by rw [hst0]; simp
  have htproc : ProcOn (recs s) m0.id target := ⟨h.tmem, h.tgm, htp⟩
  constructor
  · intro _ b hb
    rw [h.proc_is_rec w hI hS (Or.inr htp) hb, htool', toolOf_congr h.key.1 h.key.2]
    exact hold.mounted hbusy target htproc
  · intro hi; rw [hst'] at hi; cases hi
  · intro hs; rw [hst'] at hs; cases hs
  · intro _ b hb a ha
    have hbe := h.proc_is_rec w hI hS (Or.inr htp) hb
    subst hbe
    rw [h.mid] at ha ⊢
    obtain ⟨p, hp, hnb, hle, hsep⟩ := hold.work (Or.inl hst0) target htproc a (h.done_old hrd ha)
    refine ⟨p, h.done_new htd hp, hnb, by rw [hrS]; exact hle, ?_⟩
    intro i hd
    rw [hrS]; exact hsep i ((cfgSetup_congr h.key.1 h.key.2).mp hd)

/-- OUTAGE → IDLE: the finished record joins the chain, its tool stays mounted -/
theorem setup_step_finish (w : WF inst) (hI : StructInv inst s) (hS : SchedInv s) (hP : SetupInvG orc inst f s)
    (h : RecStep s s' m0 M' target rec) (hst0 : m0.st = .outage) (hst' : M'.st = .idle) (htool' : M'.tool = m0.tool)
    (htp : target.st = .processing) (hrs : rec.st = .done) (hrS : tS rec = tS target) : SetupInvG orc inst f s' := by
  have htd : target.st ≠ .done := by rw [htp]; simp
  have hold := hP.mach m0 h.hm0
  have hbusy : m0.st ≠ .idle := by rw [hst0]; simp
  have htproc : ProcOn (recs s) m0.id target := ⟨h.tmem, h.tgm, htp⟩
  have hrec : DoneOn (recs s') m0.id rec := ⟨rec_mem h, h.recm, hrs⟩
  have before : ∀ a, a ∈ recs s → a.st = .done → a.machine = m0.id → tE a ≤ tS rec := by
    intro a ha has ham
    rw [hrS]
    exact done_before_proc hS ha h.tmem (by rw [ham, h.tgm]) has htp
  have sepc : ∀ {p : OpState}, SepG orc inst f m0.id p target → SepG orc inst f m0.id p rec := by
    rintro p ⟨hle, hsep⟩
    refine ⟨by rw [hrS]; exact hle, ?_⟩
    intro i hd
    rw [hrS]; exact hsep i ((cfgSetup_congr h.key.1 h.key.2).mp hd)
  refine h.inv w hI hP ?_ ?_
  · constructor
    · intro hb; exact absurd hst' hb
    · intro _ a ha
      rw [h.mid] at ha ⊢
      refine ⟨rec, hrec, ?_, ?_⟩
      · rcases (h.rmem a).mp ha.mem with e | ⟨hx, _⟩
        · exact Or.inl e.symm
        · exact Or.inr (before a hx ha.st ha.mach)
      · rw [htool', toolOf_congr h.key.1 h.key.2]
        exact hold.mounted hbusy target htproc
    · intro hs; rw [hst'] at hs; cases hs
    · intro hw; rw [hst'] at hw; rcases hw with hw | hw <;> cases hw
  · intro b a hb ha hbs has hm hne
    rcases (h.rmem b).mp hb with rfl | ⟨hb0, hbt⟩
    ·
      rcases (h.rmem a).mp ha with rfl | ⟨ha0, _⟩
      · exact absurd rfl hne
      · right
        rw [h.recm] at hm ⊢
        obtain ⟨p, hp, hnb, hsep⟩ := hold.work (Or.inr hst0) target htproc a ⟨ha0, hm, has⟩
        refine ⟨p, h.done_new htd hp, ?_, hnb, sepc hsep⟩
        intro e
        have := rec_not_old w hI h.tmem h.key hp.mem e
        rw [this] at hp
        exact htd hp.st
    · rcases (h.rmem a).mp ha with rfl | ⟨ha0, _⟩
      · left
        exact before b hb0 hbs (by rw [← hm, h.recm])
      · rcases hP.chain b a hb0 ha0 hbs has hm hne with h1 | ⟨p, hp, h2, h3, h4⟩
        · exact Or.inl h1
        · exact Or.inr ⟨p, h.done_new htd hp, h2, h3, h4⟩

end JSL
