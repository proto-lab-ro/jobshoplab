import JSL.Inv.TotalAgvA

/-!
# C05 for a class of instances: the AGV handlers that move a job

`handleAgvPickupToTransit` (the pickup) and `handleAgvTransitToOutage` (the delivery, which calls
`completeTransportTask`) never raise in a state that satisfies `TotInv`.
-/

namespace JSL

variable {inst : Instance}

/- helper lemmas (in a namespace of their own, so that the names cannot clash with those of the sibling
files) -/

namespace AgvB

theorem switchBuffer_total {from_ to : BufState} {j : JobState} (hin : j.id ∈ from_.store) {c : BufCfg}
    (hc : getBufCfg (allBufCfgs inst) to.id = .ok c) (hroom : (to.store.length : Int) < c.cap) :
    ∃ f' t', switchBuffer inst from_ to j = .ok (f', t', { j with loc := to.id }) ∧ f'.id = from_.id := by
  have hcont : from_.store.contains j.id = true := List.contains_iff_mem.mpr hin
  obtain ⟨t', ht'⟩ := putInBuffer_of_room j hroom
  unfold switchBuffer removeFromBuffer
  simp only [hcont, Bool.not_true, Bool.false_eq_true, if_false, except_pure, except_bind_ok, hc, ht']
  exact ⟨_, _, rfl, rfl⟩

theorem travelTimeFromSpec_total (orc : Oracle) (r : Rng) {src dst : Loc}
    (hnb : src.isBuf = false ∨ dst.isBuf = false) (h : (travelCfg inst src dst).isSome = true) :
    ∃ out, travelTimeFromSpec orc inst r src dst = .ok out := by
  obtain ⟨c, hc⟩ := Option.isSome_iff_exists.mp h
  cases src <;> cases dst <;> simp [travelTimeFromSpec, hc, Loc.isBuf] at hnb ⊢

theorem ite3_total {β} {a x1 x2 x3 : Nat} {r1 r2 r3 : β} {e : Err} (h : a = x1 ∨ a = x2 ∨ a = x3) :
    ∃ r, (if a == x1 then Except.ok r1 else if a == x2 then .ok r2 else if a == x3 then .ok r3 else .error e) = .ok r := by
  by_cases h1 : (a == x1) = true
  · exact ⟨r1, if_pos h1⟩
  · rw [if_neg h1]
    by_cases h2 : (a == x2) = true
    · exact ⟨r2, if_pos h2⟩
    · rw [if_neg h2]
      by_cases h3 : (a == x3) = true
      · exact ⟨r3, if_pos h3⟩
      · rcases h with e | e | e
        · exact absurd (beq_iff_eq.mpr e) h1
        · exact absurd (beq_iff_eq.mpr e) h2
        · exact absurd (beq_iff_eq.mpr e) h3

theorem replaceBufInMachine_total {m : MachineState} {b : BufState}
    (h : b.id = m.pre.id ∨ b.id = m.buffer.id ∨ b.id = m.post.id) : ∃ m', replaceBufInMachine m b = .ok m' :=
  ite3_total h

theorem bufOfMachine_total {m : MachineState} {i : Nat}
    (h : i = m.pre.id ∨ i = m.buffer.id ∨ i = m.post.id) : ∃ b, bufOfMachine m i = .ok b :=
  ite3_total h

theorem getBufState_of_buffer (w : WF inst) {s : State} (hs : Shape inst s) {b : BufState} (hb : b ∈ s.buffers) :
    getBufState s.buffers b.id = .ok b :=
  findE_of_mem (key := fun (y : BufState) => y.id) (hs.bufsNodup w) hb _

theorem machineIdOfBuffer_some {s : State} (hs : Shape inst s) {i mid : Nat}
    (h : machineIdOfBuffer inst.machines i = some mid) :
    ∃ mc ∈ inst.machines, ∃ ms ∈ s.machines, mc.id = mid ∧ ms.id = mid ∧
      (i = ms.pre.id ∨ i = ms.buffer.id ∨ i = ms.post.id) := by
  unfold machineIdOfBuffer at h
  cases hf : inst.machines.find? (fun m => m.pre.id == i || m.buf.id == i || m.post.id == i) with
  | none => simp [hf] at h
  | some mc =>
    simp [hf] at h
    have hmc := List.mem_of_find?_eq_some hf
    have hp := List.find?_some hf
    simp only [Bool.or_eq_true, beq_iff_eq] at hp
    obtain ⟨ms, hms, hk⟩ := mem_of_map_eq hs.machines.symm hmc
    simp only [mKey, mcKey, Prod.mk.injEq] at hk
    refine ⟨mc, hmc, ms, hms, h, by rw [← hk.1, h], ?_⟩
    rcases hp with (e | e) | e
    · exact Or.inl (by rw [← e, hk.2.1])
    · exact Or.inr (Or.inl (by rw [← e, hk.2.2.1]))
    · exact Or.inr (Or.inr (by rw [← e, hk.2.2.2]))

theorem machineIdOfBuffer_none {s : State} (hs : Shape inst s) {i : Nat}
    (h : machineIdOfBuffer inst.machines i = none) :
    ∀ ms ∈ s.machines, i ≠ ms.pre.id ∧ i ≠ ms.buffer.id ∧ i ≠ ms.post.id := by
  intro ms hms
  unfold machineIdOfBuffer at h
  simp only [Option.map_eq_none_iff] at h
  obtain ⟨mc, hmc, hk⟩ := hs.machine_cfg hms
  simp only [mKey, mcKey, Prod.mk.injEq] at hk
  have := List.find?_eq_none.mp h mc hmc
  simp only [Bool.or_eq_true, beq_iff_eq, not_or] at this
  refine ⟨?_, ?_, ?_⟩
  · intro e; exact this.1.1 (by rw [← hk.2.1, e])
  · intro e; exact this.1.2 (by rw [← hk.2.2.1, e])
  · intro e; exact this.2 (by rw [← hk.2.2.2, e])

theorem transportCfg_of_mem (w : WF inst) {s : State} (hs : Shape inst s) {t : TransportState} (ht : t ∈ s.transports) :
    ∃ tc ∈ inst.transports, getTransportCfg inst.transports t.id = .ok tc ∧ tc.id = t.id ∧
      getBufCfg (allBufCfgs inst) t.buffer.id = .ok tc.buf := by
  obtain ⟨tc, htc, hk⟩ := hs.transport_cfg ht
  simp only [tKey, tcKey, Prod.mk.injEq] at hk
  have h1 := findE_of_mem (key := fun (y : TransportCfg) => y.id) w.trNodup htc .invalidValue
  simp only [← hk.1] at h1
  have h2 := findE_of_mem (key := fun (y : BufCfg) => y.id) w.bufNodup (mem_allBufCfgs_of_transport htc) .invalidValue
  simp only [← hk.2] at h2
  exact ⟨tc, htc, h1, hk.1.symm, h2⟩

theorem dropLoc_nextNotDone_total (hT : TablesTotal inst) (j : JobState) :
    ∃ d, dropLoc inst j JobState.nextNotDone = .ok d := by
  unfold dropLoc
  by_cases hn : j.noOpIdle = true
  · obtain ⟨o, ho⟩ := hT.output
    simp only [hn, if_true, ho, except_map'_ok]
    exact ⟨_, rfl⟩
  · simp only [hn]
    cases hni : j.nextNotDone? with
    | some o => simp only [JobState.nextNotDone, hni, except_map'_ok]; exact ⟨_, rfl⟩
    | none =>
      exfalso
      apply hn
      unfold JobState.nextNotDone? at hni
      have := List.find?_eq_none.mp hni
      unfold JobState.noOpIdle
      apply List.all_eq_true.mpr
      intro x hx
      have hx' := this x hx
      simp at hx'
      simp [hx']

theorem dropOK_mem_stands (w : WF inst) {s : State} (hs : Shape inst s) {j : JobState} (hj : j ∈ s.jobs)
    {p : OpState → Bool} {drop : Loc} (hd : dropOK inst j (fun j => j.ops.find? p) drop) : drop ∈ stands inst := by
  unfold stands
  rcases hd with ⟨_, o, ho, rfl⟩ | ⟨_, op, hop, rfl⟩
  · apply List.mem_append.mpr; right
    unfold firstOutput at ho
    cases hob : outputBuffers inst with
    | nil => simp [hob] at ho
    | cons b bs => simp [hob] at ho; simp [ho]
  · apply List.mem_append.mpr; left
    obtain ⟨mc, hmc, _, _, hid, _, _⟩ := op_machine w hs hj (find?_mem_ops hop).1
    exact List.mem_map.mpr ⟨mc, hmc, by rw [hid]⟩

end AgvB

open AgvB

/-- the pickup returns for an AGV with an empty buffer and a job that, if it lies in a stand-alone
buffer, lies in one that is not an output buffer and has an operation left: the tables then know
where it goes and how long the way is -/
theorem pickupToTransit_returns (w : WF inst) (hT : TablesTotal inst) (hR : Routes inst) {s : State}
    (hI : StructInv inst s) {t : TransportState} (ht : t ∈ s.transports) (hempty : t.buffer.store = [])
    (hRo : Roomy inst) {j : JobState} (hj : j ∈ s.jobs) {tr : Transition}
    (hjob : tr.job = some j.id)
    (hplace : machineIdOfBuffer inst.machines j.loc = none → j.loc ∈ nonOutIds inst ∧ j.noOpIdle = false)
    (orc : Oracle) (r : Rng) : ∃ out, handleAgvPickupToTransit orc inst s r tr t = .ok out := by
  have hs := hI.shape
  have hbn := hs.bufNodup w
  have hgj : getJob s.jobs j.id = .ok j := getJob_of_mem (hs.jobsNodup w) hj
  have h1 := hI.cons.located (j.id, j.loc) (List.mem_map.mpr ⟨j, hj, rfl⟩)
  simp only at h1
  obtain ⟨tc, htc, _, _, hc⟩ := transportCfg_of_mem w hs ht
  have hroom : (t.buffer.store.length : Int) < tc.buf.cap := by
    have := hRo.agv tc htc
    rw [hempty]
    simp; omega
  obtain ⟨dst, hdst⟩ := dropLoc_nextNotDone_total hT j
  have hdrop := dropLoc_nextNotDone hdst
  have hstand : dst ∈ stands inst := dropOK_mem_stands w hs hj hdrop
  unfold handleAgvPickupToTransit
  simp only [hjob, except_pure, except_bind_ok, hgj, hdst]
  cases hsrc : machineIdOfBuffer inst.machines j.loc with
  | some mid =>
    obtain ⟨mc, hmc, ms, hms, hmcid, hmsid, hloc⟩ := machineIdOfBuffer_some hs hsrc
    have hsource : Loc.m mid ∈ sources inst := by
      unfold sources
      exact List.mem_append.mpr (Or.inl (List.mem_map.mpr ⟨mc, hmc, by rw [hmcid]⟩))
    have htc : (travelCfg inst (.m mid) dst).isSome = true := by
      rcases hR _ hsource _ hstand with h | h
      · simp [Loc.isBuf] at h
      · exact h
    obtain ⟨⟨tt, r1⟩, htt⟩ := travelTimeFromSpec_total orc r (Or.inl rfl) htc
    have hgm : getMachine s.machines mid = .ok ms := by
      rw [← hmsid]; exact getMachine_of_mem (hs.machNodup w) hms
    obtain ⟨bs, hbs⟩ := bufOfMachine_total hloc
    have hbs' := bufOfMachine_ok hbs
    have hbsmem : bs ∈ allBufStates s := by
      have := mem_allBufs_of_machine hms
      rcases hbs'.2 with e | e | e <;> rw [e]
      · exact this.1
      · exact this.2.1
      · exact this.2.2
    have hin : j.id ∈ bs.store := by
      rw [← storeAt_of_mem hbn hbsmem, hbs'.1]; exact h1
    obtain ⟨fb, tb, hsw, hfid⟩ := switchBuffer_total (inst := inst) (j := j) hin hc hroom
    have hfb : fb.id = ms.pre.id ∨ fb.id = ms.buffer.id ∨ fb.id = ms.post.id := by
      rw [hfid]
      rcases hbs'.2 with e | e | e <;> rw [e] <;> simp
    obtain ⟨ms', hms'⟩ := replaceBufInMachine_total hfb
    simp only [htt, except_bind_ok, hgm, hbs, hsw, hms']
    exact ⟨_, rfl⟩
  | none =>
    obtain ⟨hnon, hidle⟩ := hplace hsrc
    obtain ⟨b, hbuf, hbi⟩ := nonOutIds_sub hs hnon
    have hbin : j.id ∈ b.store := by
      rw [← storeAt_of_mem hbn (mem_allBufs_of_buffer hbuf), hbi]; exact h1
    have hsource : Loc.b j.loc ∈ sources inst := by
      unfold sources
      unfold nonOutIds at hnon
      obtain ⟨bc, hbc, e⟩ := List.mem_map.mp hnon
      exact List.mem_append.mpr (Or.inr (List.mem_map.mpr ⟨bc, hbc, by rw [e]⟩))
    have hdm : dst.isBuf = false := by
      rcases hdrop with ⟨h, _⟩ | ⟨_, op, _, rfl⟩
      · rw [hidle] at h; cases h
      · rfl
    have htc : (travelCfg inst (.b j.loc) dst).isSome = true := by
      rcases hR _ hsource _ hstand with h | h
      · rw [hdm] at h; simp at h
      · exact h
    obtain ⟨⟨tt, r1⟩, htt⟩ := travelTimeFromSpec_total orc r (Or.inr hdm) htc
    have hgb : getBufState s.buffers j.loc = .ok b := by
      rw [← hbi]; exact getBufState_of_buffer w hs hbuf
    obtain ⟨fb, tb, hsw, _⟩ := switchBuffer_total (inst := inst) (j := j) hbin hc hroom
    simp only [htt, except_bind_ok, hgb, hsw]
    exact ⟨_, rfl⟩

theorem agv_pickup_applies (w : WF inst) (C : TotClassP inst) {s : State} (hV : TotInv inst s) {t : TransportState}
    (ht : t ∈ s.transports) (hst : t.st = .pickup ∨ t.st = .waitingpickup) {tr : Transition} (hjob : tr.job = t.job)
    (orc : Oracle) (r : Rng) : ∃ out, handleAgvPickupToTransit orc inst s r tr t = .ok out := by
  obtain ⟨x, hx⟩ := hV.shape.busyClaims t ht hst
  obtain ⟨j, hj, rfl⟩ := hV.full.agv.claimed t ht x hx
  have hnt : t.st ≠ .transit := by rcases hst with e | e <;> rw [e] <;> decide
  refine pickupToTransit_returns w C.tables C.routes hV.struct ht (hV.full.agv.empty t ht hnt) C.roomy hj
    (hjob.trans hx) (fun hsrc => ?_) orc r
  -- a claimed job that lies in no buffer of a machine lies in a stand-alone buffer, not an output buffer
  have hnm := machineIdOfBuffer_none hV.struct.shape hsrc
  obtain ⟨bc, _, hbcid, hplace⟩ := claimed_job_place w hV ht hnt hj hx
  have hbc : bc ∈ inst.buffers := by
    rcases hplace with h | ⟨mc, _, m, hm, _, ⟨_, e, _⟩ | ⟨_, e, _⟩⟩
    · exact h
    · exact absurd e (hnm m hm).2.1
    · exact absurd e (hnm m hm).2.2
  have hno : j.loc ∉ outputIds inst := hV.place.claimNotOut t ht j.id hx j hj rfl
  have hrole : (bc.role != BufRole.output) = true := by
    cases hr : (bc.role == BufRole.output) with
    | false => simp [bne, hr]
    | true =>
      exfalso
      apply hno
      unfold outputIds outputBuffers
      exact List.mem_map.mpr ⟨bc, List.mem_filter.mpr ⟨hbc, hr⟩, hbcid⟩
  have hnon : j.loc ∈ nonOutIds inst := by
    unfold nonOutIds
    exact List.mem_map.mpr ⟨bc, List.mem_filter.mpr ⟨hbc, hrole⟩, hbcid⟩
  exact ⟨hnon, hV.place.inputIdle j hj hnon⟩

/-- the buffer `completeTransportTask` fills -/
def Target.fillBuf : Target → BufState
  | .machine m => m.pre
  | .buffer b => b

theorem completeTransportTask_total (w : WF inst) {s : State} (hI : StructInv inst s) {t : TransportState}
    (ht : t ∈ s.transports) {j : JobState} (hj : j ∈ s.jobs) (hin : j.id ∈ t.buffer.store)
    (drop : Loc) {target : Target} (hfill : target.fillBuf ∈ allBufStates s) (hne : t.buffer.id ≠ target.fillBuf.id)
    (hcap : ∀ c ∈ allBufCfgs inst, c.id = target.fillBuf.id → (inst.jobs.length : Int) ≤ c.cap)
    (orc : Oracle) (r : Rng)
    (hsample : ∀ tc ∈ inst.transports, tc.id = t.id → ∃ o, newOutageStates orc s.time t.outages tc.outages r = .ok o) :
    ∃ out, completeTransportTask orc inst s.time r j t drop target = .ok out := by
  have hs := hI.shape
  have hjn := hs.jobsNodup w
  have hloc : j.loc = t.buffer.id :=
    job_of_store hI.cons hj (by rw [transport_storeAt w hs ht]; exact hin) hjn
  obtain ⟨c, hc, hcid, hget⟩ := getBufCfg_of_state w hs hfill
  have hroom : (target.fillBuf.store.length : Int) < c.cap := by
    have h1 := room_for w hI hj hfill (by rw [hloc]; exact hne)
    have h2 := hcap c hc hcid
    omega
  obtain ⟨f', t', hsw, _⟩ := switchBuffer_total (inst := inst) (j := j) hin hget hroom
  obtain ⟨tc, htc, hgtc, htcid, _⟩ := transportCfg_of_mem w hs ht
  obtain ⟨⟨outs, r'⟩, hout⟩ := hsample tc htc htcid
  cases target with
  | machine m =>
    simp only [Target.fillBuf] at hsw
    simp only [completeTransportTask, hsw, except_bind_ok, hgtc, hout, except_pure]
    exact ⟨_, rfl⟩
  | buffer b =>
    simp only [Target.fillBuf] at hsw
    simp only [completeTransportTask, hsw, except_bind_ok, hgtc, hout, except_pure]
    exact ⟨_, rfl⟩

/-- the delivery returns when the pre-buffers and the output buffer take every job of the shop and the
outages of the AGV can be sampled: the route of the AGV names the machine of the next operation or
the output buffer -/
theorem transitToOutage_returns (w : WF inst) (hR : Roomy inst) {s : State} (hI : StructInv inst s)
    (hA : AgvFull inst s) {t : TransportState} (ht : t ∈ s.transports) (hst : t.st = .transit) {tr : Transition}
    {x : Nat} (hjob : tr.job = some x) (hx : x ∈ t.buffer.store) (orc : Oracle) (r : Rng)
    (hsample : ∀ tc ∈ inst.transports, tc.id = t.id → ∃ o, newOutageStates orc s.time t.outages tc.outages r = .ok o) :
    ∃ out, handleAgvTransitToOutage orc inst s r tr t = .ok out := by
  have hs := hI.shape
  have hjn := hs.jobsNodup w
  have hxs : x ∈ storeAt s t.buffer.id := by rw [transport_storeAt w hs ht]; exact hx
  obtain ⟨j, hj, hjk⟩ := List.mem_map.mp (hI.cons.stored _ _ hxs)
  simp only [Prod.mk.injEq] at hjk
  obtain ⟨hjx, hjloc⟩ := hjk
  subst hjx
  have hgj : getJob s.jobs j.id = .ok j := getJob_of_mem hjn hj
  have hown := hA.route.transitOwn t ht hst j.id hx
  obtain ⟨cur, pick, drop, hloc, hdrop⟩ := hA.route.route t ht j.id hown j hj rfl
  unfold handleAgvTransitToOutage
  simp only [hjob, except_pure, except_bind_ok, hgj, hloc]
  rcases hdrop with ⟨_, o, ho, rfl⟩ | ⟨_, op, hop, rfl⟩
  · -- to the first output buffer
    unfold firstOutput at ho
    cases hob : outputBuffers inst with
    | nil => simp [hob] at ho
    | cons bc rest =>
      simp [hob] at ho
      subst ho
      have hbcout : bc ∈ outputBuffers inst := by rw [hob]; simp
      have hbcmem : bc ∈ inst.buffers := by
        unfold outputBuffers at hbcout
        exact (List.mem_filter.mp hbcout).1
      have hoid : bc.id ∈ outputIds inst := List.mem_map.mpr ⟨bc, hbcout, rfl⟩
      obtain ⟨b, hb, hbid⟩ := outputIds_sub hs hoid
      have hgb : getBufState s.buffers bc.id = .ok b := by
        rw [← hbid]; exact getBufState_of_buffer w hs hb
      have hfill : (Target.buffer b).fillBuf ∈ allBufStates s := mem_allBufs_of_buffer hb
      have hne : t.buffer.id ≠ (Target.buffer b).fillBuf.id := fun e => (ids_parts hs w).2.1 b hb t ht e.symm
      have hcap : ∀ c ∈ allBufCfgs inst, c.id = (Target.buffer b).fillBuf.id → (inst.jobs.length : Int) ≤ c.cap := by
        intro c hc hcid
        have hbcall : bc ∈ allBufCfgs inst := by
          unfold allBufCfgs
          exact List.mem_append.mpr (Or.inl (List.mem_append.mpr (Or.inl hbcmem)))
        have : c = bc := cfg_of_id w hc hbcall (by rw [hcid]; exact hbid)
        rw [this]
        exact hR.out bc rest hob
      obtain ⟨⟨j', t', tg', r'⟩, hct⟩ := completeTransportTask_total w hI ht hj hx (.b bc.id) hfill hne hcap orc r hsample
      simp only [getCompByLoc, hgb, except_map'_ok, except_bind_ok, hct]
      exact ⟨_, rfl⟩
  · -- to the machine of the next operation
    obtain ⟨mc, hmc, ms, hms, hmcid, hmsid, hk⟩ := op_machine w hs hj (find?_mem_ops hop).1
    simp only [mKey, mcKey, Prod.mk.injEq] at hk
    have hgm : getMachine s.machines op.machine = .ok ms := by
      rw [← hmsid]; exact getMachine_of_mem (hs.machNodup w) hms
    have hfill : (Target.machine ms).fillBuf ∈ allBufStates s := (mem_allBufs_of_machine hms).1
    have hne : t.buffer.id ≠ (Target.machine ms).fillBuf.id := fun e => ((ids_parts hs w).2.2 ms hms t ht).1 e.symm
    have hcap : ∀ c ∈ allBufCfgs inst, c.id = (Target.machine ms).fillBuf.id → (inst.jobs.length : Int) ≤ c.cap := by
      intro c hc hcid
      have hpre : mc.pre ∈ allBufCfgs inst := by
        unfold allBufCfgs
        exact List.mem_append.mpr (Or.inl (List.mem_append.mpr (Or.inr (List.mem_flatMap.mpr ⟨mc, hmc, by simp⟩))))
      have : c = mc.pre := cfg_of_id w hc hpre (by rw [hcid]; exact hk.2.1)
      rw [this]
      exact hR.pre mc hmc
    obtain ⟨⟨j', t', tg', r'⟩, hct⟩ := completeTransportTask_total w hI ht hj hx (.m op.machine) hfill hne hcap orc r hsample
    simp only [getCompByLoc, hgm, except_map'_ok, except_bind_ok, hct]
    exact ⟨_, rfl⟩

theorem agv_deliver_applies (w : WF inst) (C : TotClassP inst) {s : State} (hV : TotInv inst s) {t : TransportState}
    (ht : t ∈ s.transports) (hst : t.st = .transit) {tr : Transition} {x : Nat} (hjob : tr.job = some x)
    (hx : x ∈ t.buffer.store) (orc : Oracle) (r : Rng) : ∃ out, handleAgvTransitToOutage orc inst s r tr t = .ok out :=
  transitToOutage_returns w C.roomy hV.struct hV.full ht hst hjob hx orc r fun tc htc hid =>
    newOutageStates_total orc s.time (hV.out.agvIdle t ht (by rw [hst]; decide)) tc.outages r
      (hV.outShape.agv t ht tc htc hid)

end JSL
