import JSL.Inv.EnvPass
import JSL.Inv.ClassicEnvDefs

/-!
# What is idle now ends no earlier than now plus its duration

An operation that has not started at an environment state `e` starts, in every continuation of the
episode, at the clock of `e` or later (the start handler stamps `start := now`, and the clock only
moves forward before the final stamp), and lasts at least its configured duration.  The makespan
reported with `terminated` is the clock after the final stamp, which is at or after every recorded
end.  So `clock e + duration` of any operation idle at `e` bounds from below every makespan that a
continuation from `e` can report.

The start bound is `StartsGe` for the one record with the key of the idle operation, established at
`e` and carried on from there by `heldPass_lift`.
-/

namespace JSL

variable {orc : Oracle} {inst : Instance}

/-- the invariant of a pass at a result the environment holds: up to the final stamp of the clock,
and exactly while there are offers -/
structure HeldPass {cfg : SMConfig} (ps : Pass orc inst cfg) (res : SMResult) : Prop where
  fin : ∃ t, ps.P { res.state with time := t }
  live : res.possible ≠ [] → ps.P res.state

/-- **a step of the environment carries the invariant of a pass on from wherever it holds** -/
theorem heldPass_lift {cfg : SMConfig} (ps : Pass orc inst cfg) {s0 : State} (hst : Start orc inst s0)
    (hadm : ∀ s a, Admissible a → ps.Adm s a) : EnvStepLift orc inst cfg s0 (HeldPass ps) ps.P where
  drop := fun hr hp => ⟨⟨_, hr.live (by rw [hp]; simp)⟩, fun _ => hr.live (by rw [hp]; simp)⟩
  step := fun {res a fuel r res' r' mic} hi hr hne ha _ hs => by
    obtain ⟨w, hI, hS⟩ := occursA_inv hst (hi.live hne).1
    have hs' := ps.smStep w (nonnegB_sound hst.samples hst.nonneg) hI hS (hr.live hne) ha (hadm _ _ ha) hs
    refine ⟨⟨hs'.2.2.1, fun hne' => hs'.2.2.2 ?_⟩, hs'.1⟩
    rcases (smStep_spec hs).2 with h1 | h1 | h1
    · exact h1.2.1
    · exact absurd h1.2.2.1 hne'
    · exact h1.2.1

theorem envStep_makespan {ec : EnvCfg} {st : RewardStatic} {e : EnvState} {a : AgentAct} {out : StepOut}
    (h : envStep orc inst ec st e a = .ok out) {C : Int} (hm : out.makespan = some C) :
    out.env.res.success = true ∧ isDone inst out.env.res.state = true ∧ C = out.env.res.state.time := by
  obtain ⟨_, res', mw, r, mic, rew, cnt, _, _, rfl, _, rfl⟩ := envStep_ok h
  by_cases hs : res'.success = true
  · simp only [hs, if_true] at hm ⊢
    by_cases hd : isDone inst res'.state = true
    · simp [hd] at hm; exact ⟨trivial, hd, hm.symm⟩
    · simp [hd] at hm
  · simp [hs] at hm

theorem EnvStepLift.envRun {ec : EnvCfg} {st : RewardStatic} {s0 : State} {R : SMResult → Prop} {Q : State → Prop}
    (L : EnvStepLift orc inst ec.sm s0 R Q) (hst : Start orc inst s0) :
    ∀ (acts : List AgentAct) {e e' : EnvState}, EnvReach orc inst ec st s0 e → R e.res →
      envRun orc inst ec st e acts = .ok e' → EnvReach orc inst ec st s0 e' ∧ R e'.res
  | [], e, e', hr, hd, h => by
    simp only [JSL.envRun, Except.ok.injEq] at h
    subst h; exact ⟨hr, hd⟩
  | a :: as, e, e', hr, hd, h => by
    simp only [JSL.envRun] at h
    obtain ⟨out, h1, h⟩ := except_bind_eq_ok h
    exact L.envRun hst as (EnvReach.step hr h1) (L.envStep (envReach_inv hst hr) hd h1).1 h

/-- **Every makespan a continuation from `e` reports is at least the clock of `e` plus the configured
deterministic duration of any operation idle at `e`.** -/
theorem idle_bounds_makespan {ec : EnvCfg} {st : RewardStatic} {s0 : State} (hst : Start orc inst s0)
    {e : EnvState} (hr : EnvReach orc inst ec st s0 e) {j : JobState} (hj : j ∈ e.res.state.jobs)
    {o : OpState} (ho : o ∈ j.ops) (hidle : o.st = .idle) {d : Int} (hd : detDur inst o d)
    {acts : List AgentAct} {e' : EnvState} (hrun : envRun orc inst ec st e acts = .ok e')
    {a : AgentAct} {out : StepOut} (h : envStep orc inst ec st e' a = .ok out)
    {C : Int} (hm : out.makespan = some C) : e.res.state.time + d ≤ C := by
  obtain ⟨w, _⟩ := initOKB_sound hst.init
  have hs := (envReach_inv hst hr).struct.shape
  let K : Nat → Nat → Prop := fun jk ik => jk = o.job ∧ ik = o.idx
  -- at `e` the only record with the key of `o` is `o`, which is idle
  have h0 : StartsGe K e.res.state.time e.res.state := by
    refine ⟨Int.le_refl _, fun j1 hj1 o1 ho1 hK hn => absurd hidle ?_⟩
    have : j1 = j := eq_of_mem_of_key_eq (key := fun (y : JobState) => y.id) (hs.jobsNodup w) hj1 hj
      (by rw [← hs.ops_job w hj1 ho1, ← hs.ops_job w hj ho, hK.1])
    subst this
    have : o1 = o := eq_of_mem_of_key_eq (key := fun (y : OpState) => y.idx) (hs.ops_idx_nodup w hj1) ho1 ho hK.2
    subst this
    exact hn
  have L := heldPass_lift (StartsPass orc inst ec.sm w K e.res.state.time) hst (fun _ _ _ => trivial)
  obtain ⟨hr', hd'⟩ := L.envRun hst acts hr ⟨⟨_, h0⟩, fun _ => h0⟩ hrun
  obtain ⟨_, hfin⟩ := (L.envStep (envReach_inv hst hr') hd' h).1.fin
  have hi := envReach_inv hst (EnvReach.step hr' h)
  obtain ⟨hsuc, hdone, rfl⟩ := envStep_makespan h hm
  -- the record with the key of `o` in the final state
  have hkeys : out.env.res.state.jobs.map jKey = e.res.state.jobs.map jKey := by rw [hi.struct.shape.jobs, hs.jobs]
  obtain ⟨j', hj', hk⟩ := mem_of_map_eq hkeys.symm hj
  simp only [jKey, Prod.mk.injEq] at hk
  obtain ⟨o', ho', hko⟩ := mem_of_map_eq hk.2 ho
  simp only [opKey, Prod.mk.injEq] at hko
  have hdn : o'.st = .done := isDone_all_done hi.full.route hdone j' hj' o' ho'
  obtain ⟨a', b, hsa, hsb, hle, _⟩ := hi.dur.done j' hj' o' ho' hdn d (by obtain ⟨oc, hoc, h1, h2, h3⟩ := hd; exact ⟨oc, hoc, h1.trans hko.1, h2.trans hko.2.1, h3⟩)
  have h1 := hfin.starts j' hj' o' ho' ⟨hko.1.symm, hko.2.1.symm⟩ (by rw [hdn]; simp) a' hsa
  have h2 := hi.stamp hsuc hdone j' hj' o' ho' hdn b hsb
  omega

/-- some idle operation, were it started now, would end at `bound` or later -/
def idleEndsGe (inst : Instance) (bound : Int) (s : State) : Bool :=
  s.jobs.any fun j => j.ops.any fun o => o.st == .idle &&
    (inst.jobs.flatMap (·.ops)).any fun oc => oc.job == o.job && oc.idx == o.idx &&
      match oc.dur with
      | .det d => decide (bound ≤ s.time + d)
      | _ => false

/-- … and then no continuation reports a makespan below `bound` -/
theorem idleEndsGe_sound {ec : EnvCfg} {st : RewardStatic} {s0 : State} (hst : Start orc inst s0)
    {e : EnvState} (hr : EnvReach orc inst ec st s0 e) {bound : Int} (hb : idleEndsGe inst bound e.res.state = true)
    {acts : List AgentAct} {e' : EnvState} (hrun : envRun orc inst ec st e acts = .ok e')
    {a : AgentAct} {out : StepOut} (h : envStep orc inst ec st e' a = .ok out)
    {C : Int} (hm : out.makespan = some C) : bound ≤ C := by
  simp only [idleEndsGe, List.any_eq_true, Bool.and_eq_true, beq_iff_eq] at hb
  obtain ⟨j, hj, o, ho, hidle, oc, hoc, ⟨k1, k2⟩, hdur⟩ := hb
  split at hdur
  · rename_i d hd
    have := idle_bounds_makespan hst hr hj ho hidle ⟨oc, hoc, k1, k2, hd⟩ hrun h hm
    have := of_decide_eq_true hdur
    omega
  · cases hdur

end JSL
