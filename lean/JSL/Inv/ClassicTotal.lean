import JSL.Inv.ClassicTotalDefsR
import JSL.Inv.ClassicMachTotal
import JSL.Inv.ClassicAgvTotalA
import JSL.Inv.DeclineTo

/-!
# The totality plumbing: `state.step` returns

For a pass `ps` with `TotalHypR ps μ B Q RW` the lemmas below mirror `Pass.process`, `Pass.loop` and
`Pass.smStep`; instead of assuming that the computation returned `.ok` they prove it, and they carry
the pass invariant, the measure `μ` and the property `Q` along.  A transition `tr` with `RW s tr` (a
"re-wait") need not lower `μ`, it only must not raise it; every non-empty purely timed batch contains
a transition that is not a re-wait, so each round of the `while timed_transitions` loop still lowers
`μ` by at least 1.  `TotalHyp` is the case without re-waits (`TotalHyp.toR`).
-/

namespace JSL

variable {orc : Oracle} {inst : Instance} {cfg : SMConfig}

/-- a measure that every transition lowers: no transition is a re-wait -/
theorem TotalHyp.toR {ps : Pass orc inst cfg} {μ : State → Nat} {B : Nat} {Q : State → Prop}
    (h : TotalHyp ps μ B Q) : TotalHypR ps μ B Q (fun _ _ => False) where
  apply := h.apply
  timed := h.timed
  poss := h.poss
  count := h.count
  tele := h.tele
  force := h.force
  lastDone := h.lastDone
  noStartTimed := h.noStartTimed
  noStartTele := h.noStartTele
  noDispatchTimed := h.noDispatchTimed
  μ_time := h.μ_time
  μ_le := h.μ_le
  μ_mono := fun hI hS hP hgs hns hnd ha => Nat.le_of_succ_le (h.μ_step hI hS hP hgs hns hnd ha)
  μ_step := fun hI hS hP hgs hns hnd _ ha => h.μ_step hI hS hP hgs hns hnd ha
  rw_keep := fun _ _ _ _ hrw => hrw.elim
  rw_timed := fun {_ tt} _ _ _ _ hne => (List.exists_mem_of_ne_nil tt hne).imp fun _ ha => ⟨ha, id⟩
  q_step := h.q_step
  q_jump := h.q_jump

theorem processTransitions_cons_applied {tr : Transition} {L : List Transition} {s s1 : State} {r r1 : Rng}
    {o1 : ProcOut} (hv : transitionValid s tr = .ok true) (ha : applyTransition orc inst s r tr = .ok (s1, r1))
    (ho : processTransitions orc inst L s1 r1 = .ok o1) :
    processTransitions orc inst (tr :: L) s r = .ok { o1 with micro := s1 :: o1.micro } := by
  rw [processTransitions_cons_valid hv ha, ho]; rfl

theorem timedLoop_cons_jumped {n : Nat} {a : Transition} {as : List Transition} {s : State} {r : Rng}
    {subs mic : List State} {o : ProcOut} {t : Int} {tt' : List Transition}
    (ho : processTransitions orc inst (a :: as) s r = .ok o) (hn : o.nerr = 0)
    (ht : jumpToEvent inst cfg o.state = .ok t)
    (htt : timedTransitions inst { o.state with time := t } = .ok tt') :
    timedLoop orc inst cfg (n + 1) (a :: as) s r subs mic =
      timedLoop orc inst cfg n tt' { o.state with time := t } o.rng (subs ++ [{ o.state with time := t }])
        (mic ++ o.micro) := by
  simp only [timedLoop, ho, except_bind_ok, hn, Nat.lt_irrefl, ht, htt]
  simp

/-- **`process_state_transitions` returns** on a guarded batch without machine starts: no validation
error, the invariants and `Q` hold afterwards, the clock is untouched, and when the batch has no
dispatch the measure did not go up – and went down when some member of the batch is not a re-wait. -/
theorem process_totalR (ps : Pass orc inst cfg) {μ : State → Nat} {B : Nat} {Q : State → Prop}
    {RW : State → Transition → Prop} (hT : TotalHypR ps μ B Q RW) (w : WF inst) (nn : NonNeg orc inst) :
    ∀ (L : List Transition) (s : State) (r : Rng), StructInv inst s → SchedInv s → ps.P s → Safe s L → Fresh L →
      ps.GS s L → (∀ tr ∈ L, tr.new ≠ .m .setup) → Q s →
      ∃ o, processTransitions orc inst L s r = .ok o ∧ o.nerr = 0 ∧ StructInv inst o.state ∧ SchedInv o.state ∧
        ps.P o.state ∧ Q o.state ∧ o.state.time = s.time ∧
        ((∀ tr ∈ L, tr.new ≠ .t .working) → μ o.state ≤ μ s ∧ ((∃ tr ∈ L, ¬ RW s tr) → μ o.state + 1 ≤ μ s)) := by
  intro L
  induction L with
  | nil =>
    intro s r hI hS hP _ _ _ _ hQ
    exact ⟨⟨s, r, 0, []⟩, processTransitions_nil s r, rfl, hI, hS, hP, hQ, rfl,
      fun _ => ⟨Nat.le_refl _, fun ⟨_, h, _⟩ => by simp at h⟩⟩
  | cons tr L ih =>
    intro s r hI hS hP hsafe hfresh hgs hns hQ
    have hne : tr.new ≠ .m .setup := hns tr (by simp)
    obtain ⟨hv, s1, r1, ha⟩ := hT.apply r hI hS hP hgs hne
    have hI1 := applyTransition_struct w hI hv ha
    have hS1 := applyTransition_sched w nn hI hS hv hsafe.guard ha
    have hfr := applyTransition_frame w hI hS hsafe.guard ha
    have hP1 := ps.step hI hS hP hv hsafe hfresh hgs ha
    have hQ1 := hT.q_step hI hS hP hgs hne ha hQ
    obtain ⟨o1, ho1, hn1, hIo, hSo, hPo, hQo, hto, hμo⟩ :=
      ih s1 r1 hI1 hS1 hP1.1 (hsafe.step hfresh hfr) (List.pairwise_cons.mp hfresh).2 hP1.2
        (fun t ht => hns t (by simp [ht])) hQ1
    refine ⟨{ o1 with micro := s1 :: o1.micro }, ?_, hn1, hIo, hSo, hPo, hQo, ?_, ?_⟩
    · exact processTransitions_cons_applied hv ha ho1
    · show o1.state.time = s.time
      rw [hto, applyTransition_time ha]
    · intro hnd
      have hnd0 : tr.new ≠ .t .working := hnd tr (by simp)
      have h1 := hT.μ_mono hI hS hP hgs hne hnd0 ha
      have h2 := hμo (fun t ht => hnd t (by simp [ht]))
      show μ o1.state ≤ μ s ∧ ((∃ t ∈ tr :: L, ¬ RW s t) → μ o1.state + 1 ≤ μ s)
      refine ⟨Nat.le_trans h2.1 h1, ?_⟩
      intro ⟨b, hb, hnb⟩
      by_cases hrw : RW s tr
      · -- the head is a re-wait: the witness is in the tail and is still not a re-wait afterwards
        have hbL : b ∈ L := by
          rcases List.mem_cons.mp hb with e | h
          · subst e; exact absurd hrw hnb
          · exact h
        have hnb1 : ¬ RW s1 b := fun h => hnb (hT.rw_keep hI hS hP hgs hrw ha b hbL h)
        have := h2.2 ⟨b, hbL, hnb1⟩
        omega
      · have := hT.μ_step hI hS hP hgs hne hnd0 hrw ha
        omega

/-- `jump_to_event` returns in a state satisfying the invariants, and `Q` survives the jump -/
theorem jumpToEvent_totalR (ps : Pass orc inst cfg) {μ : State → Nat} {B : Nat} {Q : State → Prop}
    {RW : State → Transition → Prop} (hT : TotalHypR ps μ B Q RW) {s : State} (hI : StructInv inst s)
    (hS : SchedInv s) (hP : ps.P s) (hQ : Q s) :
    ∃ t, jumpToEvent inst cfg s = .ok t ∧ Q { s with time := t } := by
  obtain ⟨n, hn⟩ := hT.count hI hS hP
  cases n with
  | succ k =>
    exact ⟨s.time, by unfold jumpToEvent; simp [hn], hQ⟩
  | zero =>
    obtain ⟨t, ht⟩ := hT.force hI hS hP
    exact ⟨t, by unfold jumpToEvent; simp [hn, ht], hT.q_jump hI hS hP hQ hn ht⟩

/-- **The `while timed_transitions` loop returns** without failure.  The batch `tt` is guarded and
contains no machine start; either it contains no dispatch, contains (when non-empty) a transition that
is not a re-wait, and the fuel exceeds the measure of the current state, or the fuel is at least
`B + 2` (the first batch of `state.step`, which may contain teleport dispatches). -/
theorem loop_totalR (ps : Pass orc inst cfg) {μ : State → Nat} {B : Nat} {Q : State → Prop}
    {RW : State → Transition → Prop} (hT : TotalHypR ps μ B Q RW) (w : WF inst) (nn : NonNeg orc inst) :
    ∀ (fuel : Nat) (tt : List Transition) (s : State) (r : Rng) (subs mic : List State),
      StructInv inst s → SchedInv s → ps.P s → Q s → Safe s tt → Fresh tt → ps.GS s tt →
      (∀ tr ∈ tt, tr.new ≠ .m .setup) →
      ((∀ tr ∈ tt, tr.new ≠ .t .working) ∧ (tt ≠ [] → ∃ tr ∈ tt, ¬ RW s tr) ∧ μ s < fuel ∨ B + 2 ≤ fuel) →
      ∃ out, timedLoop orc inst cfg fuel tt s r subs mic = .ok out ∧ out.failed = false ∧
        StructInv inst out.state ∧ SchedInv out.state ∧ ps.P out.state ∧ Q out.state ∧ s.time ≤ out.state.time := by
  intro fuel
  induction fuel with
  | zero =>
    intro tt s r subs mic hI hS hP hQ _ _ _ _ hfuel
    cases tt with
    | nil => exact ⟨⟨s, r, subs, false, mic⟩, timedLoop_nil _ s r subs mic, rfl, hI, hS, hP, hQ, Int.le_refl _⟩
    | cons a as => omega
  | succ n ih =>
    intro tt s r subs mic hI hS hP hQ hsafe hfresh hgs hns hfuel
    cases tt with
    | nil => exact ⟨⟨s, r, subs, false, mic⟩, timedLoop_nil _ s r subs mic, rfl, hI, hS, hP, hQ, Int.le_refl _⟩
    | cons a as =>
      obtain ⟨o, ho, hn0, hIo, hSo, hPo, hQo, hto, hμo⟩ :=
        process_totalR ps hT w nn (a :: as) s r hI hS hP hsafe hfresh hgs hns hQ
      obtain ⟨t, ht, hQt⟩ := jumpToEvent_totalR ps hT hIo hSo hPo hQo
      have hadv := jumpToEvent_spec hSo ht
      have hS' := hSo.advance hadv.1 hadv.2
      have hI' := hIo.time t
      have hP' := ps.advance hIo hSo hPo hadv.1 hadv.2
      obtain ⟨tt', htt'⟩ := hT.timed hI' hS' hP'
      have hsf := timed_batch_safe w (tele := []) hI' hS' htt' (by simp)
      simp only [List.append_nil] at hsf
      have hμ' : μ { o.state with time := t } < n := by
        rw [hT.μ_time]
        rcases hfuel with ⟨hnd, hw, hlt⟩ | hB
        · have := (hμo hnd).2 (hw (by simp))
          omega
        · have := hT.μ_le (s := o.state) hIo
          omega
      obtain ⟨out, hout, hf, hIout, hSout, hPout, hQout, htout⟩ :=
        ih tt' { o.state with time := t } o.rng (subs ++ [{ o.state with time := t }]) (mic ++ o.micro)
          hI' hS' hP' hQt hsf.1 hsf.2 (ps.timedOnly hI' hS' hP' htt') (hT.noStartTimed hI' hS' htt')
          (Or.inl ⟨hT.noDispatchTimed hS' htt', hT.rw_timed hI' hS' hP' htt', hμ'⟩)
      refine ⟨out, ?_, hf, hIout, hSout, hPout, hQout, ?_⟩
      · rw [timedLoop_cons_jumped ho hn0 ht htt']
        exact hout
      · have : s.time ≤ t := by rw [← hto]; exact hadv.1
        exact Int.le_trans this htout

theorem loop_totalR_timed (ps : Pass orc inst cfg) {μ : State → Nat} {B : Nat} {Q : State → Prop}
    {RW : State → Transition → Prop} (hT : TotalHypR ps μ B Q RW) (w : WF inst) (nn : NonNeg orc inst)
    (fuel : Nat) (tt : List Transition) (s : State) (r : Rng) (subs mic : List State)
    (hI : StructInv inst s) (hS : SchedInv s) (hP : ps.P s) (hQ : Q s)
    (htt : timedTransitions inst s = .ok tt) (hfuel : μ s < fuel) :
    ∃ out, timedLoop orc inst cfg fuel tt s r subs mic = .ok out ∧ out.failed = false ∧
      StructInv inst out.state ∧ SchedInv out.state ∧ ps.P out.state ∧ Q out.state ∧ s.time ≤ out.state.time := by
  have hsf := timed_batch_safe w (tele := []) hI hS htt (by simp)
  simp only [List.append_nil] at hsf
  exact loop_totalR ps hT w nn fuel tt s r subs mic hI hS hP hQ hsf.1 hsf.2 (ps.timedOnly hI hS hP htt)
    (hT.noStartTimed hI hS htt) (Or.inl ⟨hT.noDispatchTimed hS htt, hT.rw_timed hI hS hP htt, hfuel⟩)

theorem loop_total_timed (ps : Pass orc inst cfg) {μ : State → Nat} {B : Nat} {Q : State → Prop}
    (hT : TotalHyp ps μ B Q) (w : WF inst) (nn : NonNeg orc inst)
    (fuel : Nat) (tt : List Transition) (s : State) (r : Rng) (subs mic : List State)
    (hI : StructInv inst s) (hS : SchedInv s) (hP : ps.P s) (hQ : Q s) (hsafe : Safe s tt) (hfresh : Fresh tt)
    (hgs : ps.GS s tt) (hns : ∀ tr ∈ tt, tr.new ≠ .m .setup) (hnd : ∀ tr ∈ tt, tr.new ≠ .t .working)
    (hfuel : μ s < fuel) :
    ∃ out, timedLoop orc inst cfg fuel tt s r subs mic = .ok out ∧ out.failed = false ∧
      StructInv inst out.state ∧ SchedInv out.state ∧ ps.P out.state ∧ Q out.state ∧ s.time ≤ out.state.time :=
  loop_totalR ps hT.toR w nn fuel tt s r subs mic hI hS hP hQ hsafe hfresh hgs hns
    (Or.inl ⟨hnd, fun hne => (List.exists_mem_of_ne_nil tt hne).imp fun _ ha => ⟨ha, id⟩, hfuel⟩)

theorem action_batch_total {s0 : State} {r : Rng} {a : Action}
    (hact : a.transitions = [] ∨ ∃ tr, a.transitions = [tr] ∧ transitionValid s0 tr = .ok true ∧
        ∃ s' r', applyTransition orc inst s0 r tr = .ok (s', r')) :
    ∃ p, processTransitions orc inst (sortedByTransport a.transitions) s0 r = .ok p ∧ p.nerr = 0 := by
  rcases hact with e | ⟨tr, e, hv, s', r', happ⟩
  · rw [e, sortedByTransport_nil]
    exact ⟨⟨s0, r, 0, []⟩, processTransitions_nil s0 r, rfl⟩
  · rw [e, sortedByTransport_single]
    exact ⟨_, processTransitions_cons_applied hv happ (processTransitions_nil s' r'), rfl⟩

/-- `state.step` past a loop that did not fail: the shop is done and the clock is stamped, or new
offers are computed -/
theorem smStep_of_loop {fuel : Nat} {s0 : State} {r : Rng} {a : Action} {p : ProcOut} {t : Int}
    {timed poss tele : List Transition} {out : LoopOut}
    (hp : processTransitions orc inst (sortedByTransport a.transitions) s0 r = .ok p) (hn : p.nerr = 0)
    (ht : runTimeMachine inst cfg p.state a.tm = .ok t)
    (htimed : timedTransitions inst { p.state with time := t } = .ok timed)
    (hposs : possibleTransitions inst cfg { p.state with time := t } = .ok poss)
    (htele : filterTeleport orc inst p.rng { p.state with time := t } poss = .ok tele)
    (hout : timedLoop orc inst cfg fuel (timed ++ tele) { p.state with time := t } p.rng [p.state] p.micro = .ok out)
    (hf : out.failed = false) :
    smStep orc inst cfg fuel s0 r a =
      if isDone inst out.state then
        (lastDoneEnd out.state).map fun e =>
          ({ state := (match e with | some e => { out.state with time := e } | none => out.state),
             subStates := out.subs.dropLast, action := a, success := true, done := true, possible := [] },
           out.rng, out.micro)
      else
        (possibleTransitions inst cfg out.state).map fun poss' =>
          ({ state := out.state, subStates := out.subs.dropLast, action := a, success := true, done := false,
             possible := poss' }, out.rng, out.micro) := by
  unfold smStep
  simp only [hp, except_bind_ok, if_neg (Nat.not_lt.mpr (Nat.le_of_eq hn)), ht, htimed, hposs, htele, hout, hf,
    Bool.false_eq_true, if_false]
  split
  · cases lastDoneEnd out.state <;> rfl
  · cases possibleTransitions inst cfg out.state <;> rfl

/-- **`state.step` returns, successfully.**  From a state satisfying the invariants, with an
admissible action that is empty or a single applicable transition, and fuel `≥ B + 2`. -/
theorem smStep_totalR (ps : Pass orc inst cfg) {μ : State → Nat} {B : Nat} {Q : State → Prop}
    {RW : State → Transition → Prop} (hT : TotalHypR ps μ B Q RW) (w : WF inst) (nn : NonNeg orc inst)
    {fuel : Nat} {s0 : State} {r : Rng} {a : Action} (hI : StructInv inst s0) (hS : SchedInv s0) (hP : ps.P s0)
    (ha : Admissible a) (hadm : ps.Adm s0 a) (hfuel : B + 2 ≤ fuel)
    -- the action is empty, or a single transition that passes validation and applies
    (hact : a.transitions = [] ∨ ∃ tr, a.transitions = [tr] ∧ transitionValid s0 tr = .ok true ∧
        ∃ s' r', applyTransition orc inst s0 r tr = .ok (s', r'))
    -- `Q` right after the action (the caller's business: this is where a machine start may happen)
    (hQa : a.tm = .jumpToEvent → ∀ p, processTransitions orc inst (sortedByTransport a.transitions) s0 r = .ok p →
        Q p.state)
    (hQb : a.tm = .forceJump → ∀ p t, processTransitions orc inst (sortedByTransport a.transitions) s0 r = .ok p →
        forceJump p.state = .ok t → Q { p.state with time := t }) :
    ∃ res r' mic, smStep orc inst cfg fuel s0 r a = .ok (res, r', mic) ∧ res.success = true ∧
      (∃ t, Q { res.state with time := t }) ∧ (res.done = false → Q res.state) ∧
      StructInv inst res.state ∧ (res.done = false → SchedInv res.state ∧ ps.P res.state) := by
  obtain ⟨p, hp, hn0⟩ := action_batch_total (orc := orc) (inst := inst) hact
  have hsf := offerShaped_safe (s := s0) (L := sortedByTransport a.transitions)
    (fun tr htr => ha.shaped tr (mem_sortedByTransport htr))
  have hp' := processTransitions_sched w nn _ _ _ _ hI hS hsf.1 hsf.2 hp
  have hpI := processTransitions_struct w _ _ _ _ hI hp
  have hpP := ps.process w nn _ _ _ _ hI hS hP hsf.1 hsf.2 (ps.action hI hS hP hadm) hp
  have htm : ∃ t, runTimeMachine inst cfg p.state a.tm = .ok t ∧ Q { p.state with time := t } := by
    cases htmk : a.tm with
    | jumpByOne => exact absurd htmk ha.tm
    | jumpToEvent =>
      obtain ⟨t, ht, hQt⟩ := jumpToEvent_totalR ps hT hpI.1 hp'.1 hpP.1 (hQa htmk p hp)
      exact ⟨t, by simpa [runTimeMachine] using ht, hQt⟩
    | forceJump =>
      obtain ⟨t, ht⟩ := hT.force hpI.1 hp'.1 hpP.1
      exact ⟨t, by simpa [runTimeMachine] using ht, hQb htmk p t hp ht⟩
  obtain ⟨t, ht, hQ1⟩ := htm
  have hadv := runTimeMachine_spec hp'.1 ha.tm ht
  have hS1 := hp'.1.advance hadv.1 hadv.2
  have hI1 := hpI.1.time t
  have hP1 := ps.advance hpI.1 hp'.1 hpP.1 hadv.1 hadv.2
  obtain ⟨timed, htimed⟩ := hT.timed hI1 hS1 hP1
  obtain ⟨poss, hposs⟩ := hT.poss hI1 hS1 hP1
  obtain ⟨tele, htele⟩ := hT.tele p.rng hI1 hS1 hP1 hposs
  have hbatch := timed_batch_safe w hI1 hS1 htimed (filterTeleport_shape hposs htele)
  have hns : ∀ tr ∈ timed ++ tele, tr.new ≠ .m .setup := by
    intro tr htr
    rcases List.mem_append.mp htr with h | h
    · exact hT.noStartTimed hI1 hS1 htimed tr h
    · exact hT.noStartTele hposs htele tr h
  obtain ⟨out, hout, hf, hIo, hSo, hPo, hQo, _⟩ :=
    loop_totalR ps hT w nn fuel (timed ++ tele) { p.state with time := t } p.rng [p.state] p.micro
      hI1 hS1 hP1 hQ1 hbatch.1 hbatch.2 (ps.timed hI1 hS1 hP1 htimed hposs htele) hns (Or.inr hfuel)
  cases hd : isDone inst out.state with
  | true =>
    obtain ⟨e, he⟩ := hT.lastDone hSo
    refine ⟨{ state := (match (generalizing := false) e with | some e => { out.state with time := e } | none => out.state),
              subStates := out.subs.dropLast, action := a, success := true, done := true, possible := [] },
            out.rng, out.micro, ?_, rfl, ⟨out.state.time, ?_⟩, by simp, ?_, by simp⟩
    · rw [smStep_of_loop hp hn0 ht htimed hposs htele hout hf, if_pos hd, he]
      rfl
    · cases e <;> exact hQo
    · cases e with
      | none => exact hIo
      | some e => exact hIo.time e
  | false =>
    obtain ⟨poss', hposs'⟩ := hT.poss hIo hSo hPo
    refine ⟨{ state := out.state, subStates := out.subs.dropLast, action := a, success := true, done := false,
              possible := poss' }, out.rng, out.micro, ?_, rfl, ⟨out.state.time, hQo⟩, fun _ => hQo, hIo,
            fun _ => ⟨hSo, hPo⟩⟩
    rw [smStep_of_loop hp hn0 ht htimed hposs htele hout hf, if_neg (by rw [hd]; exact Bool.false_ne_true), hposs']
    rfl

theorem rewardMake_total (rc : RewardCfg) {st : RewardStatic} (cnt : Nat) (res : SMResult) (terminated : Bool)
    (hops : st.numOps ≠ 0) (hden : st.tmax - st.lb ≠ 0) :
    ∃ rew cnt', rewardMake rc st cnt res terminated false = .ok (rew, cnt') := by
  unfold rewardMake sparseReward denseReward
  cases terminated <;> simp [hops, hden]

theorem envStep_of_mwStep {ec : EnvCfg} {st : RewardStatic} {e : EnvState} {a : AgentAct}
    {res' : SMResult} {mw : MwState} {r : Rng} {mic : List State} (hd : e.done = false)
    (hm : mwStep orc inst ec.sm ec.mw ec.fuel e.res e.mw e.rng a = .ok (res', mw, r, mic))
    (hsuc : res'.success = true) (hj : 0 ≤ mw.joker) (hops : st.numOps ≠ 0) (hden : st.tmax - st.lb ≠ 0) :
    ∃ out, envStep orc inst ec st e a = .ok out ∧ out.env.res = res' ∧ out.env.truncated = false ∧
      out.env.terminated = isDone inst res'.state ∧ out.env.done = isDone inst res'.state ∧
      out.env.mw = mw ∧ out.env.rng = r ∧ out.micro = mic ∧ out.obsRes = res' ∧
      out.obsDone = res'.possible.isEmpty ∧ out.env.histLen = e.histLen + 1 ∧
      out.makespan = (if isDone inst res'.state then some res'.state.time else none) := by
  obtain ⟨rew, cnt', hrew⟩ := rewardMake_total ec.rw e.rwCnt res' (isDone inst res'.state) hops hden
  have hjk : decide (mw.joker < 0) = false := by simp; omega
  have hE : envStep orc inst ec st e a = .ok
      { env := { e with res := res', histLen := e.histLen + 1,
                        histNoOps := e.histNoOps + (if res'.action.transitions.isEmpty then 1 else 0),
                        lastNoOp := res'.action.transitions.isEmpty, terminated := isDone inst res'.state,
                        truncated := false, mw := mw, rng := r, done := isDone inst res'.state, rwCnt := cnt' },
        obsRes := res', obsDone := res'.possible.isEmpty, reward := rew,
        makespan := if isDone inst res'.state then some res'.state.time else none, micro := mic } := by
    unfold envStep
    simp only [hd, Bool.false_eq_true, if_false, hm, except_bind_ok, hsuc, if_true, hjk, Bool.or_false, hrew,
      except_pure]
  exact ⟨_, hE, rfl, rfl, rfl, rfl, rfl, rfl, rfl, rfl, rfl, rfl, rfl⟩

theorem mwStep_accept_of_smStep {mc : MwCfg} {fuel : Nat} {res : SMResult} {m : MwState} {r : Rng}
    {tr : Transition} {rest : List Transition} (hp : res.possible = tr :: rest)
    {res' : SMResult} {r' : Rng} {mic : List State}
    (hs : smStep orc inst cfg fuel res.state r { transitions := [tr], noOp := false, tm := .jumpToEvent } =
      .ok (res', r', mic)) :
    mwStep orc inst cfg mc fuel res m r .accept = .ok (res', { m with actCnt := m.actCnt + 1 }, r', mic) := by
  simp only [mwStep, interpret, hp, except_pure, MwState.addOp, except_bind_ok, Bool.false_eq_true, if_false, hs]

theorem mwStep_decline_last_of_smStep {mc : MwCfg} {fuel : Nat} {res : SMResult} {m : MwState} {r : Rng}
    {tr : Transition} (hp : res.possible = [tr]) (htr : mc.truncActive = false)
    {res' : SMResult} {r' : Rng} {mic : List State}
    (hs : smStep orc inst cfg fuel res.state r { transitions := [], noOp := true, tm := .forceJump } =
      .ok (res', r', mic))
    (hlive : res'.possible ≠ [] ∨ isDone inst res'.state = true) :
    ∃ m', mwStep orc inst cfg mc fuel res m r .decline = .ok (res', m', r', mic) ∧ m'.joker = m.joker := by
  by_cases he : res'.possible = []
  · have hdn : isDone inst res'.state = true := by
      rcases hlive with h | h
      · exact absurd he h
      · exact h
    exact ⟨{ m with noOpCnt := m.noOpCnt + 1 },
      by simp only [mwStep, interpret, hp, noOpAction, except_pure, noOpResult, List.isEmpty_iff, MwState.addOp,
        except_bind_ok, if_true, hs, he, hdn], rfl⟩
  · refine ⟨_, by
      simp only [mwStep, interpret, hp, noOpAction, except_pure, noOpResult, List.isEmpty_iff, MwState.addOp,
        except_bind_ok, if_true, hs, he, if_false, htr, Bool.false_and, Bool.false_eq_true]
      rfl, ?_⟩
    simp

/-- **From a returned `state.step` to a returned `env.step`.**  The episode is running, there is an
offer, the reward constants are not degenerate, truncation is off and the agent answers 0 or 1.  If
the `state.step` the middleware runs for that answer (accept: the head offer with `jump_to_event`;
decline of the last offer: nothing with the forced jump; decline with two or more offers: none)
returns a successful result that holds offers or has the shop done, then `env.step` returns; the
episode is not truncated, it terminates exactly when the shop is done, and the truncation allowance
is untouched. -/
theorem envStep_of_smStep {ec : EnvCfg} {st : RewardStatic} {e : EnvState} {a : AgentAct}
    (hd : e.done = false) (hne : e.res.possible ≠ []) (hops : st.numOps ≠ 0) (hden : st.tmax - st.lb ≠ 0)
    (htr : ec.mw.truncActive = false) (hj : 0 ≤ e.mw.joker) (ha : a = .accept ∨ a = .decline)
    (hstep : ∀ act : Action,
      (a = .accept ∧ act = { transitions := e.res.possible.take 1, noOp := false, tm := .jumpToEvent }) ∨
      (a = .decline ∧ e.res.possible.length = 1 ∧ act = { transitions := [], noOp := true, tm := .forceJump }) →
      ∃ res' r' mic, smStep orc inst ec.sm ec.fuel e.res.state e.rng act = .ok (res', r', mic) ∧
        res'.success = true ∧ (res'.possible ≠ [] ∨ isDone inst res'.state = true)) :
    ∃ out, envStep orc inst ec st e a = .ok out ∧ out.env.res.success = true ∧ out.env.truncated = false ∧
      out.env.terminated = isDone inst out.env.res.state ∧ out.env.done = isDone inst out.env.res.state ∧
      out.env.mw.joker = e.mw.joker ∧ out.obsRes = out.env.res ∧ out.env.histLen = e.histLen + 1 ∧
      out.makespan = (if isDone inst out.env.res.state then some out.env.res.state.time else none) ∧
      ((∃ o o' rest, a = .decline ∧ e.res.possible = o :: o' :: rest ∧
          out.env.res = { state := e.res.state, subStates := e.res.subStates, action := noOpAction,
                          success := true, done := false, possible := o' :: rest } ∧
          out.env.rng = e.rng ∧ out.micro = []) ∨
       (∃ act, ((a = .accept ∧ act = { transitions := e.res.possible.take 1, noOp := false, tm := .jumpToEvent }) ∨
            (a = .decline ∧ e.res.possible.length = 1 ∧
              act = { transitions := [], noOp := true, tm := .forceJump })) ∧
          smStep orc inst ec.sm ec.fuel e.res.state e.rng act = .ok (out.env.res, out.env.rng, out.micro) ∧
          (out.env.res.possible ≠ [] ∨ isDone inst out.env.res.state = true))) := by
  cases hp : e.res.possible with
  | nil => exact absurd hp hne
  | cons o rest =>
    rcases ha with rfl | rfl
    · -- accept
      have hk : (AgentAct.accept = .accept ∧
          ({ transitions := [o], noOp := false, tm := .jumpToEvent } : Action) =
            { transitions := e.res.possible.take 1, noOp := false, tm := .jumpToEvent }) := ⟨rfl, by rw [hp]; rfl⟩
      obtain ⟨res', r', mic, hs, hsuc, hlive⟩ := hstep _ (Or.inl hk)
      have hm := mwStep_accept_of_smStep (mc := ec.mw) (m := e.mw) hp hs
      obtain ⟨out, hout, e1, e2, e3, e4, e5, e6, e7, e8, _, e10, e11⟩ :=
        envStep_of_mwStep (st := st) hd hm hsuc hj hops hden
      subst e1 e6 e7
      exact ⟨out, hout, hsuc, e2, e3, e4, by rw [e5], e8, e10, e11, Or.inr ⟨_, Or.inl ⟨rfl, rfl⟩, hs, hlive⟩⟩
    · cases rest with
      | nil =>
        have hk : (AgentAct.decline = .decline ∧ e.res.possible.length = 1 ∧
            ({ transitions := [], noOp := true, tm := .forceJump } : Action) =
              { transitions := [], noOp := true, tm := .forceJump }) := ⟨rfl, by rw [hp]; rfl, rfl⟩
        obtain ⟨res', r', mic, hs, hsuc, hlive⟩ := hstep _ (Or.inr hk)
        obtain ⟨m', hm, hjm⟩ := mwStep_decline_last_of_smStep (mc := ec.mw) (m := e.mw) hp htr hs hlive
        obtain ⟨out, hout, e1, e2, e3, e4, e5, e6, e7, e8, _, e10, e11⟩ :=
          envStep_of_mwStep (st := st) hd hm hsuc (by rw [hjm]; exact hj) hops hden
        subst e1 e6 e7
        exact ⟨out, hout, hsuc, e2, e3, e4, by rw [e5, hjm], e8, e10, e11,
          Or.inr ⟨_, Or.inr ⟨rfl, rfl, rfl⟩, hs, hlive⟩⟩
      | cons o' rest' =>
        have hm := mwStep_decline_many (orc := orc) (inst := inst) (cfg := ec.sm) (mc := ec.mw) (fuel := ec.fuel)
          e.res e.mw e.rng o o' rest' hp
        obtain ⟨out, hout, e1, e2, e3, e4, e5, e6, e7, e8, _, e10, e11⟩ :=
          envStep_of_mwStep (st := st) hd hm rfl hj hops hden
        refine ⟨out, hout, by rw [e1], e2, by rw [e1]; exact e3, by rw [e1]; exact e4, by rw [e5],
          by rw [e8, e1], e10, by rw [e1]; exact e11, Or.inl ⟨o, o', rest', rfl, rfl, e1, e6, e7⟩⟩

end JSL
