import JSL.Inv.ClassicSync
import JSL.Inv.ReachListPlan
import JSL.Inv.EnvReach
import JSL.Inv.Stamp

/-!
# The clock of a terminated episode IS the latest end

`Stamped` / `lastDoneEnd_bound` (JSL/Inv/Stamp.lean) say that the clock of a finished episode is not earlier than
the end of any finished record.  Here: it is the end of some finished record (`lastDoneEnd_attained`,
`smStep_done_attained`, `envReach_terminated_attained`), hence – when the records agree with a target schedule –
the makespan of that schedule (`final_time_eq_target`, `target_of_steered`).
-/

namespace JSL

variable {orc : Oracle} {inst : Instance}

theorem lastDoneEnd_attained {s : State} {x : Option Int} (h : lastDoneEnd s = .ok x) :
    (∃ e, x = some e ∧ ∃ j ∈ s.jobs, ∃ o ∈ j.ops, o.st = .done ∧ o.stop = some e) ∨
    (x = none ∧ ∀ j ∈ s.jobs, ∀ o ∈ j.ops, o.st ≠ .done) := by
  unfold lastDoneEnd at h
  obtain ⟨ends, hm, h⟩ := except_bind_eq_ok h
  obtain ⟨hm1, hm2⟩ := mapM_ok_mem hm
  cases ends with
  | nil =>
    simp [pure, Except.pure] at h
    subst h
    refine Or.inr ⟨rfl, ?_⟩
    intro j hj o ho hd
    have hmem : o ∈ (s.jobs.flatMap (·.ops)).filter (·.st == .done) :=
      List.mem_filter.mpr ⟨List.mem_flatMap.mpr ⟨j, hj, ho⟩, by simp [hd]⟩
    obtain ⟨y, hy, _⟩ := hm1 o hmem
    cases hy
  | cons e es =>
    simp [pure, Except.pure] at h
    subst h
    refine Or.inl ⟨es.foldl max e, rfl, ?_⟩
    have hy : es.foldl max e ∈ e :: es := by
      rcases foldl_max_mem es e with h | h
      · rw [h]; simp
      · exact List.mem_cons_of_mem _ h
    obtain ⟨o, ho, e1⟩ := hm2 _ hy
    obtain ⟨hof, hst⟩ := List.mem_filter.mp ho
    obtain ⟨j, hj, hoj⟩ := List.mem_flatMap.mp hof
    refine ⟨j, hj, o, hoj, by simpa using hst, ?_⟩
    cases hs : o.stop with
    | none => rw [hs] at e1; simp [throw, throwThe, MonadExceptOf.throw] at e1
    | some b =>
      rw [hs] at e1
      simp [pure, Except.pure] at e1
      rw [e1]

theorem smStep_done_attained {cfg : SMConfig} {fuel : Nat} {s0 : State} {r : Rng} {a : Action} {res : SMResult} {r' : Rng}
    {mic : List State} (h : smStep orc inst cfg fuel s0 r a = .ok (res, r', mic)) (hd : res.done = true) :
    (∃ j ∈ res.state.jobs, ∃ o ∈ j.ops, o.st = .done ∧ o.stop = some res.state.time) ∨
    (∀ j ∈ res.state.jobs, ∀ o ∈ j.ops, o.st ≠ .done) := by
  obtain ⟨p, _, ⟨_, _, _, rfl⟩ | ⟨_, t, timed, poss, tele, out, _, _, _, _, _, _, _, hcase⟩⟩ := smStep_cases h
  · cases hd
  · rcases hcase with ⟨_, rfl⟩ | ⟨_, _, x, hl, rfl⟩ | ⟨_, _, poss', _, rfl⟩
    · cases hd
    · -- the clock is stamped with what `lastDoneEnd` returns
      rcases lastDoneEnd_attained hl with ⟨e, rfl, hex⟩ | ⟨rfl, hno⟩
      · exact Or.inl hex
      · exact Or.inr hno
    · cases hd

theorem envReach_terminated_attained {ec : EnvCfg} {st : RewardStatic} {s0 : State} {e : EnvState}
    (hst : Start orc inst s0) (h : EnvReach orc inst ec st s0 e) (ht : e.terminated = true) :
    (∃ j ∈ e.res.state.jobs, ∃ o ∈ j.ops, o.st = .done ∧ o.stop = some e.res.state.time) ∨
    (∀ j ∈ e.res.state.jobs, ∀ o ∈ j.ops, o.st ≠ .done) := by
  cases h with
  | reset hr =>
    exfalso
    obtain ⟨res, r', _, rfl⟩ := envReset_ok hr
    cases ht
  | @step e0 a out hprev hs =>
    have hi := envReach_inv hst hprev
    obtain ⟨_, res', mw, r, mic, rew, cnt, _, hm, rfl, _, rfl⟩ := envStep_ok hs
    by_cases hsuc : res'.success = true
    · simp only [hsuc, if_true] at ht ⊢
      rcases mwStep_cases hm with ⟨o, o', rest, _, hp, e1, _⟩ | ⟨act, _, _, hstep⟩
      · exfalso
        simp only at e1
        rw [e1, hi.notDone (by rw [hp]; simp)] at ht
        cases ht
      · simp only at hstep
        rcases (smStep_spec hstep).2 with h1 | h1 | h1
        · rw [h1.1] at hsuc; cases hsuc
        · exact smStep_done_attained hstep h1.2.1
        · rw [h1.2.2.1] at ht; cases ht
    · simp [hsuc] at ht

theorem envReach_terminated_success {ec : EnvCfg} {st : RewardStatic} {s0 : State} {e : EnvState} (h : EnvReach orc inst ec st s0 e) (ht : e.terminated = true) :
    e.res.success = true := by
  cases h with
  | reset hr =>
    obtain ⟨res, r', _, rfl⟩ := envReset_ok hr
    cases ht
  | step hprev hs =>
    obtain ⟨_, res', mw, r, mic, rew, cnt, _, _, rfl, _, rfl⟩ := envStep_ok hs
    by_cases hsuc : res'.success = true
    · simp [hsuc]
    · simp [hsuc] at ht

theorem done_end_eq (hC : Classic inst) {S : Nat → Nat → Int} {s : State} (hD : DurInv inst s)
    (hstart : ∀ j ∈ s.jobs, ∀ o ∈ j.ops, o.start = some (S o.job o.idx))
    {j : JobState} (hj : j ∈ s.jobs) {o : OpState} (ho : o ∈ j.ops) (hst : o.st = .done)
    {oc : OpCfg} (hoc : oc ∈ allOps inst) (k1 : oc.job = o.job) (k2 : oc.idx = o.idx) :
    o.stop = some (S o.job o.idx + oc.d) := by
  obtain ⟨d, hd, _⟩ := hC.posDur oc hoc
  obtain ⟨a, b, ha, hb, _, heq⟩ := hD.done j hj o ho hst d ⟨oc, hoc, k1, k2, hd⟩
  have := heq (fun mc hmc _ => hC.noOutM mc hmc)
  rw [hstart j hj o ho] at ha
  simp at ha
  rw [hb, d_of_det hd, this, ha]

/-- `final_time_eq_target`, assuming of the clock only that it is not negative -/
theorem final_time_eq_target_of_nonneg (w : WF inst) (hC : Classic inst) {S : Nat → Nat → Int} {s : State}
    (hI : StructInv inst s) (hD : DurInv inst s) (hdone : ∀ j ∈ s.jobs, ∀ o ∈ j.ops, o.st = .done)
    (hstart : ∀ j ∈ s.jobs, ∀ o ∈ j.ops, o.start = some (S o.job o.idx))
    (hstamp : Stamped s)
    (hatt : (∃ j ∈ s.jobs, ∃ o ∈ j.ops, o.st = .done ∧ o.stop = some s.time) ∨ (∀ j ∈ s.jobs, ∀ o ∈ j.ops, o.st ≠ .done))
    (hne : allOps inst ≠ []) (h0 : 0 ≤ s.time) : s.time = targetMakespan inst S := by
  have hs := hI.shape
  apply Int.le_antisymm
  · rcases hatt with ⟨j, hj, o, ho, hst, hstop⟩ | hno
    · obtain ⟨oc, hoc, k1, k2, _⟩ := rec_cfg w hs hj ho
      have e := done_end_eq hC hD hstart hj ho hst hoc k1 k2
      rw [hstop] at e
      simp at e
      rw [e, ← k1, ← k2]
      exact le_targetMakespan S hoc
    · exfalso
      cases hl : allOps inst with
      | nil => exact hne hl
      | cons oc rest =>
        obtain ⟨j, hj, o, ho, _⟩ := cfg_rec hs (oc := oc) (by rw [hl]; simp)
        exact hno j hj o ho (hdone j hj o ho)
  · apply targetMakespan_le h0
    intro oc hoc
    obtain ⟨j, hj, o, ho, k1, k2⟩ := cfg_rec hs hoc
    have hst := hdone j hj o ho
    have e := done_end_eq hC hD hstart hj ho hst hoc k1.symm k2.symm
    rw [← k1, ← k2]
    exact hstamp j hj o ho hst _ e

/-- **the clock of a terminated episode whose records agree with the target schedule is the target makespan** -/
theorem final_time_eq_target (w : WF inst) (hC : Classic inst) {S : Nat → Nat → Int} {s : State} (hI : StructInv inst s)
    (hD : DurInv inst s) (hdone : ∀ j ∈ s.jobs, ∀ o ∈ j.ops, o.st = .done)
    (hstart : ∀ j ∈ s.jobs, ∀ o ∈ j.ops, o.start = some (S o.job o.idx))
    (hstamp : Stamped s)
    (hatt : (∃ j ∈ s.jobs, ∃ o ∈ j.ops, o.st = .done ∧ o.stop = some s.time) ∨ (∀ j ∈ s.jobs, ∀ o ∈ j.ops, o.st ≠ .done))
    (hne : allOps inst ≠ []) (hS0 : ∀ oc ∈ allOps inst, 0 ≤ S oc.job oc.idx) : s.time = targetMakespan inst S := by
  refine final_time_eq_target_of_nonneg w hC hI hD hdone hstart hstamp hatt hne ?_
  have hs := hI.shape
  cases hl : allOps inst with
  | nil => exact absurd hl hne
  | cons oc rest =>
    have hoc : oc ∈ allOps inst := by rw [hl]; simp
    obtain ⟨j, hj, o, ho, k1, k2⟩ := cfg_rec hs hoc
    have hst := hdone j hj o ho
    have e := done_end_eq hC hD hstart hj ho hst hoc k1.symm k2.symm
    have h1 := hstamp j hj o ho hst _ e
    have h2 := hS0 oc hoc
    have h3 := d_nonneg_of_det hC.posDur oc hoc
    rw [k1, k2] at h1
    omega

theorem allOps_ne_nil (hC : Classic inst) (hjobs : inst.jobs ≠ []) : allOps inst ≠ [] := by
  obtain ⟨jc, hjc⟩ := List.exists_mem_of_ne_nil _ hjobs
  obtain ⟨oc, hoc⟩ := List.exists_mem_of_ne_nil _ (hC.jobsNonempty jc hjc)
  exact List.ne_nil_of_mem (List.mem_flatMap.mpr ⟨jc, hjc, hoc⟩)

/-- **a terminated episode whose finished shop is in step with the target schedule `S`** (up to the
final stamp of the clock) has recorded the schedule `S`, and its clock is the makespan of `S` -/
theorem target_of_steered {ec : EnvCfg} {st : RewardStatic} {s0 : State} (hst : Start orc inst s0) (hC : Classic inst)
    (hjobs : inst.jobs ≠ []) {S : Nat → Nat → Int} (hT : TargetOK inst S) {e : EnvState}
    (hreach : EnvReach orc inst ec st s0 e) (hterm : e.terminated = true) (hdone : isDone inst e.res.state = true)
    {t : Int} (hsync : SyncL inst S { e.res.state with time := t }) :
    planOf inst e.res.state = planOfTarget inst S ∧ e.res.state.time = targetMakespan inst S := by
  have hi := envReach_inv hst hreach
  have w := (initOKB_sound hst.init).1
  have hall : ∀ j ∈ e.res.state.jobs, ∀ o ∈ j.ops, o.st = .done := by
    intro j hj
    exact hi.full.route.delivered j hj (isDone_iff.mp hdone j hj)
  have hstart : ∀ j ∈ e.res.state.jobs, ∀ o ∈ j.ops, o.start = some (S o.job o.idx) := by
    intro j hj o ho
    exact hsync.started j hj o ho (by rw [hall j hj o ho]; simp)
  constructor
  · exact planOf_eq_target w hi.struct.shape (fun oc hoc => by
      obtain ⟨d, hd, _⟩ := hC.posDur oc hoc; exact ⟨d, hd⟩) hstart
  · exact final_time_eq_target w hC hi.struct hi.dur hall hstart
      (hi.stamp (envReach_terminated_success hreach hterm) hdone)
      (envReach_terminated_attained hst hreach hterm) (allOps_ne_nil hC hjobs) hT.nonneg

end JSL
