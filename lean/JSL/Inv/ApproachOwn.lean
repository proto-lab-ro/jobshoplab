import JSL.Inv.ApproachTrace
import JSL.Inv.EnvPass

/-!
# `DepOwn` for instances with a single AGV

A `TimeDependency` is created by `_get_waiting_time` with the transition being handled, or copied
from the AGV assigned to the job at the release position.  With one AGV the copy is the AGV's own,
so every parked transition addresses the AGV it is parked at – in every exposed state.
-/

namespace JSL

variable {orc : Oracle} {inst : Instance}

/-- where a time dependency returned by `_get_waiting_time` comes from -/
theorem ap_getWaitingTime_dep_src {s : State} {tr : Transition} {b j : Nat} {tr' : Transition}
    (h : getWaitingTime inst s tr = .ok (.dep b j tr')) :
    tr' = tr ∨ ∃ t2 ∈ s.transports, t2.occ = .dep b j tr' := by
  obtain ⟨j0, _, hcase⟩ := getWaitingTime_spec h
  rcases hcase with e | ⟨bc, mid, ms, _, _, _, ⟨_, _, nxt, _, ⟨_, e⟩ | ⟨t2, htb, e⟩⟩ | ⟨_, op, _, e⟩⟩
  · cases e
  · cases e
    exact Or.inl rfl
  · unfold transportByJob at htb
    exact Or.inr ⟨t2, List.mem_of_find?_eq_some htb, e.symm⟩
  · cases hs : op.stop <;> rw [hs] at e <;> cases e

theorem ap_dep_src (w : WF inst) {s s' : State} {r r' : Rng} {tr : Transition}
    (hI : StructInv inst s) (h : applyTransition orc inst s r tr = .ok (s', r')) :
    ∀ t' ∈ s'.transports, t' ∈ s.transports ∨ (tr.comp = .t t'.id ∧ (∃ t0 ∈ s.transports, t'.id = t0.id) ∧
      ∀ b j tr', t'.occ = .dep b j tr' → tr' = tr ∨ ∃ t2 ∈ s.transports, t2.occ = .dep b j tr') := by
  have htn := hI.shape.trNodup w
  cases applyTransition_ran h with
  | m m hc =>
    have htr := (machine_effect w hI hc h).2.1
    exact fun t' ht' => Or.inl (by rw [htr] at ht'; exact ht')
  | t t0 hc hmem hd ns hn hah h =>
    have key : ∀ (t' : TransportState), t'.id = t0.id → s'.transports = (s.replaceTransport t').transports →
        (∀ b j tr', t'.occ = .dep b j tr' → tr' = tr ∨ ∃ t2 ∈ s.transports, t2.occ = .dep b j tr') →
        ∀ x ∈ s'.transports, x ∈ s.transports ∨ (tr.comp = .t x.id ∧ (∃ t0 ∈ s.transports, x.id = t0.id) ∧
          ∀ b j tr', x.occ = .dep b j tr' → tr' = tr ∨ ∃ t2 ∈ s.transports, t2.occ = .dep b j tr') := by
      intro t' hid htr hocc x hx
      rw [htr] at hx
      rcases (mem_replaceTransport htn hmem hid x).mp hx with rfl | ⟨hx0, _⟩
      · exact Or.inr ⟨by rw [hc, hid], ⟨t0, hmem, hid⟩, hocc⟩
      · exact Or.inl hx0
    cases hd with
    | idleToWorking =>
      obtain ⟨j, cur, target, src, bc, c, _, _, _, _, _, _, _, _, _, rfl⟩ := idleToWorking_spec h
      exact key (t0.toPickup cur bc.id target (s.time + c.cur orc r) j.id) rfl rfl
        (fun b j tr' ho => by simp [TransportState.toPickup] at ho)
    | pickupToWaitingpickup =>
      obtain ⟨occ, hocc, _, _, rfl⟩ := pickupToWaiting_spec h
      exact key (t0.toWaiting occ) rfl rfl (fun b j tr' ho => by
        simp only [TransportState.toWaiting] at ho; subst ho; exact ap_getWaitingTime_dep_src hocc)
    | waitingPickupToWaitingPickup =>
      obtain ⟨occ, hocc, _, rfl⟩ := waitingToWaiting_spec h
      exact key (t0.toWaiting occ) rfl rfl (fun b j tr' ho => by
        simp only [TransportState.toWaiting] at ho; subst ho; exact ap_getWaitingTime_dep_src hocc)
    | outageToIdle =>
      obtain ⟨_, rfl⟩ := agvOutageToIdle_spec h
      exact key t0.toIdle rfl rfl (fun b j tr' ho => Or.inr ⟨t0, hmem, by simpa [TransportState.toIdle] using ho⟩)
    | pickupToTransit =>
      obtain ⟨j, src, dst, tt, bss1, bss2, _, _, _, _, _, hcase⟩ := pickupToTransit_spec h
      refine key (t0.toTransit (s.time + tt) j.id bss2) rfl ?_
        (fun b j tr' ho => by simp [TransportState.toTransit] at ho)
      rcases hcase with ⟨fb, _, _, _, _, _, rfl⟩ | ⟨mid, ms, bs, ms', _, _, _, _, _, _, _, rfl⟩ <;> rfl
    | transitToOutage =>
      obtain ⟨j, cur, pick, drop, tc, outs, bss1, bss2, _, _, _, _, _, _, _, hcase⟩ := transitToOutage_spec h
      refine key (t0.toOutage j.id bss1 outs (s.time + occupiedFor outs) drop) rfl ?_
        (fun b j tr' ho => by simp [TransportState.toOutage] at ho)
      rcases hcase with ⟨mid, ms, _, _, _, _, rfl⟩ | ⟨bid, b, _, _, _, _, rfl⟩ <;> rfl

theorem ap_depOwn_step (w : WF inst) (hone : inst.transports.length ≤ 1) {s s' : State} {r r' : Rng} {tr : Transition}
    (hI : StructInv inst s) (hd : DepOwn s) (h : applyTransition orc inst s r tr = .ok (s', r')) : DepOwn s' := by
  have hlen : s.transports.length ≤ 1 := by
    have := congrArg List.length hI.shape.transports
    simp only [List.length_map] at this
    omega
  have huniq : ∀ x ∈ s.transports, ∀ y ∈ s.transports, x = y := by
    intro x hx y hy
    match hs : s.transports, hlen with
    | [], _ => rw [hs] at hx; cases hx
    | [z], _ => rw [hs] at hx hy; simp at hx hy; rw [hx, hy]
    | _ :: _ :: _, hl => simp at hl
  intro t' ht' b j tr' ho
  rcases ap_dep_src w hI h t' ht' with ht0 | ⟨hcomp, ⟨t0, ht0, hid0⟩, hsrc⟩
  · exact hd t' ht0 b j tr' ho
  · rcases hsrc b j tr' ho with rfl | ⟨t2, ht2, ho2⟩
    · exact hcomp
    · have hc2 := hd t2 ht2 b j tr' ho2
      rw [hc2, hid0, huniq t2 ht2 t0 ht0]

def DepOwnPass (orc : Oracle) (inst : Instance) (cfg : SMConfig) (w : WF inst) (hone : inst.transports.length ≤ 1) :
    Pass orc inst cfg where
  P := DepOwn
  GS := fun _ _ => True
  Adm := fun _ _ => True
  tail := fun _ => trivial
  step := fun hI _ hP _ _ _ _ ha => ⟨ap_depOwn_step w hone hI hP ha, trivial⟩
  advance := fun _ _ hP _ _ => hP
  timed := fun _ _ _ _ _ _ => trivial
  timedOnly := fun _ _ _ _ => trivial
  action := fun _ _ _ _ => trivial

theorem ap_exposed_depOwn {ec : EnvCfg} {st : RewardStatic} {s0 σ : State} (hst : Start orc inst s0)
    (hone : inst.transports.length ≤ 1) (h : Exposed orc inst ec st s0 σ) : DepOwn σ := by
  obtain ⟨w, _⟩ := initOKB_sound hst.init
  obtain ⟨t, ht⟩ := exposed_pass (DepOwnPass orc inst ec.sm w hone) hst (ap_depOwn_rest hst.rest) (fun _ _ _ => trivial) h
  exact ht

end JSL
