import JSL.Inv.SchedDefs

/-! Lemmas about `OpsOK` under the four ways handlers rewrite an operation record, and under
time advance. -/

namespace JSL

theorem OpsOK_allIdle (now : Int) (prev : Option Int) : ∀ l, allIdle l → OpsOK now prev l
  | [], _ => trivial
  | o :: os, h => by
    have ho : o.st = .idle := h o (by simp)
    simp only [OpsOK, ho]
    intro x hx; exact h x (by simp [hx])

theorem map_replace_split {α} {key : α → Nat × Nat} (l1 : List α) (x x' : α) (l2 : List α)
    (hnd : ((l1 ++ x :: l2).map key).Nodup) (hk : key x' = key x) :
    (l1 ++ x :: l2).map (fun y => if key y = key x' then x' else y) = l1 ++ x' :: l2 := by
  simp only [List.map_append, List.map_cons, hk, if_true]
  rw [List.map_append, List.map_cons] at hnd
  have h1 : ∀ y ∈ l1, key y ≠ key x := by
    intro y hy
    have := (List.nodup_append.mp hnd).2.2 (key y) (List.mem_map.mpr ⟨y, hy, rfl⟩) (key x) (by simp)
    exact this
  have h2 : ∀ y ∈ l2, key y ≠ key x := by
    intro y hy he
    have := (List.nodup_cons.mp (List.nodup_append.mp hnd).2.1).1
    exact this (he ▸ List.mem_map.mpr ⟨y, hy, rfl⟩)
  congr 1
  · conv => rhs; rw [← List.map_id l1]
    apply List.map_congr_left; intro y hy; simp [h1 y hy]
  · congr 1
    conv => rhs; rw [← List.map_id l2]
    apply List.map_congr_left; intro y hy; simp [h2 y hy]

theorem replaceOp_split (j : JobState) (l1 : List OpState) (op op' : OpState) (l2 : List OpState)
    (hops : j.ops = l1 ++ op :: l2) (hnd : (j.ops.map (fun o => (o.job, o.idx))).Nodup)
    (hk : op'.job = op.job ∧ op'.idx = op.idx) : (j.replaceOp op').ops = l1 ++ op' :: l2 := by
  have := map_replace_split (key := fun (o : OpState) => (o.job, o.idx)) l1 op op' l2 (hops ▸ hnd)
    (by simp [hk.1, hk.2])
  simp only [JobState.replaceOp, hops]
  rw [← this]
  apply List.map_congr_left
  intro y _
  by_cases h : y.job = op'.job ∧ y.idx = op'.idx
  · simp [h.1, h.2]
  · have : ¬ ((y.job, y.idx) = (op'.job, op'.idx)) := by simpa using h
    have h' : ¬ ((y.job == op'.job && y.idx == op'.idx) = true) := by simpa using h
    simp [this, h']

/-- Below a done prefix `l1` the rest `l` of a well-ordered list is well-ordered from the end `prev'` of
the prefix, and any list well-ordered from there may take its place. -/
theorem OpsOK_below_done {now : Int} (l : List OpState) : ∀ (l1 : List OpState) (prev : Option Int),
    (∀ x ∈ l1, x.st = .done) → OpsOK now prev (l1 ++ l) →
    ∃ prev', ((∀ p, prev = some p → p ≤ now) → ∀ p, prev' = some p → p ≤ now) ∧ OpsOK now prev' l ∧
      ∀ l', OpsOK now prev' l' → OpsOK now prev (l1 ++ l')
  | [], prev, _, h => ⟨prev, id, h, fun _ h' => h'⟩
  | x :: xs, prev, hd, h => by
    have hx : x.st = .done := hd x (by simp)
    simp only [List.cons_append, OpsOK, hx] at h ⊢
    obtain ⟨a, c, h1, h2, h3, h4, h5, h6⟩ := h
    obtain ⟨prev', hp', hok, back⟩ := OpsOK_below_done l xs (some c) (fun y hy => hd y (by simp [hy])) h6
    exact ⟨prev', fun _ => hp' (fun p e => Option.some.inj e ▸ h4), hok,
      fun l' h' => ⟨a, c, h1, h2, h3, h4, h5, back l' h'⟩⟩

theorem OpsOK_after {now : Int} (op : OpState) (hop : op.st ≠ .done) (l2 : List OpState)
    (l1 : List OpState) (prev : Option Int) (hd : ∀ x ∈ l1, x.st = .done) (h : OpsOK now prev (l1 ++ op :: l2)) :
    allIdle l2 := by
  obtain ⟨prev', _, h, _⟩ := OpsOK_below_done _ l1 prev hd h
  cases hst : op.st with
  | done => exact absurd hst hop
  | processing => simp only [OpsOK, hst] at h; obtain ⟨_, _, _, _, _, _, _, _, hi⟩ := h; exact hi
  | idle => simpa [OpsOK, hst] using h
  | transport => simp [OpsOK, hst] at h

theorem OpsOK_start {now b : Int} (hb : now ≤ b) (o' : OpState) (ho' : o'.st = .processing)
    (hs : o'.start = some now) (he : o'.stop = some b) (op : OpState) (hop : op.st ≠ .done) (l2 : List OpState)
    (l1 : List OpState) (prev : Option Int) (hd : ∀ x ∈ l1, x.st = .done) (hp : ∀ p, prev = some p → p ≤ now)
    (h : OpsOK now prev (l1 ++ op :: l2)) : OpsOK now prev (l1 ++ o' :: l2) := by
  obtain ⟨prev', hp', h, back⟩ := OpsOK_below_done _ l1 prev hd h
  apply back
  simp only [OpsOK, ho']
  exact ⟨now, b, hs, he, hb, Int.le_refl _, hb, hp' hp, OpsOK_after op hop l2 [] prev' (by simp) h⟩

/-- extend the end of the running operation (outage) -/
theorem OpsOK_extend {now b' : Int} (hb : now ≤ b') (op : OpState) (hop : op.st = .processing) (l2 : List OpState)
    (l1 : List OpState) (prev : Option Int) (hd : ∀ x ∈ l1, x.st = .done) (h : OpsOK now prev (l1 ++ op :: l2)) :
    OpsOK now prev (l1 ++ { op with stop := some b' } :: l2) := by
  obtain ⟨prev', _, h, back⟩ := OpsOK_below_done _ l1 prev hd h
  apply back
  simp only [OpsOK, hop] at h ⊢
  obtain ⟨a, c, h1, h2, h3, h4, h5, h6, h7⟩ := h
  exact ⟨a, b', h1, rfl, by omega, h4, hb, h6, h7⟩

theorem OpsOK_finish {now : Int} (op : OpState) (hop : op.st = .processing) (l2 : List OpState)
    (l1 : List OpState) (prev : Option Int) (hd : ∀ x ∈ l1, x.st = .done) (h : OpsOK now prev (l1 ++ op :: l2)) :
    OpsOK now prev (l1 ++ { op with stop := some now, st := .done } :: l2) := by
  obtain ⟨prev', _, h, back⟩ := OpsOK_below_done _ l1 prev hd h
  apply back
  simp only [OpsOK, hop] at h ⊢
  obtain ⟨a, c, h1, h2, h3, h4, h5, h6, h7⟩ := h
  exact ⟨a, now, h1, rfl, h4, Int.le_refl _, h6, OpsOK_allIdle _ _ _ h7⟩

/-- time may advance up to the earliest pending end -/
theorem OpsOK_time {now now' : Int} (hle : now ≤ now') :
    ∀ (l : List OpState) (prev : Option Int),
      (∀ o ∈ l, o.st = .processing → ∀ b, o.stop = some b → now' ≤ b) → OpsOK now prev l → OpsOK now' prev l
  | [], _, _, _ => trivial
  | o :: os, prev, hp, h => by
    cases hst : o.st with
    | done =>
      simp only [OpsOK, hst] at h ⊢
      obtain ⟨a, c, h1, h2, h3, h4, h5, h6⟩ := h
      exact ⟨a, c, h1, h2, h3, by omega, h5, OpsOK_time hle os (some c) (fun x hx => hp x (by simp [hx])) h6⟩
    | processing =>
      simp only [OpsOK, hst] at h ⊢
      obtain ⟨a, c, h1, h2, h3, h4, h5, h6, h7⟩ := h
      exact ⟨a, c, h1, h2, h3, by omega, hp o (by simp) hst c h2, h6, h7⟩
    | idle => simp only [OpsOK, hst] at h ⊢; exact h
    | transport => simp [OpsOK, hst] at h

/-- time may also be set back to any instant not before the latest recorded time of the list
(used for the done-stamp, where no operation is running any more) -/
theorem OpsOK_allDone_time {now now' : Int} :
    ∀ (l : List OpState) (prev : Option Int), (∀ o ∈ l, o.st = .done) →
      (∀ o ∈ l, ∀ b, o.stop = some b → b ≤ now') → OpsOK now prev l → OpsOK now' prev l
  | [], _, _, _, _ => trivial
  | o :: os, prev, hd, hb, h => by
    have hst := hd o (by simp)
    simp only [OpsOK, hst] at h ⊢
    obtain ⟨a, c, h1, h2, h3, h4, h5, h6⟩ := h
    exact ⟨a, c, h1, h2, h3, hb o (by simp) c h2, h5,
      OpsOK_allDone_time os (some c) (fun x hx => hd x (by simp [hx])) (fun x hx => hb x (by simp [hx])) h6⟩

theorem OpsOK_prefix_done {now : Int} (op : OpState) (hop : op.st ≠ .idle) (l2 : List OpState) :
    ∀ (l1 : List OpState) (prev : Option Int), OpsOK now prev (l1 ++ op :: l2) → ∀ x ∈ l1, x.st = .done
  | [], _, _ => by simp
  | y :: ys, prev, h => by
    intro x hx
    cases hst : y.st with
    | done =>
      simp only [List.cons_append, OpsOK, hst] at h
      obtain ⟨a, c, _, _, _, _, _, h6⟩ := h
      rcases List.mem_cons.mp hx with rfl | hx'
      · exact hst
      · exact OpsOK_prefix_done op hop l2 ys (some c) h6 x hx'
    | processing =>
      simp only [List.cons_append, OpsOK, hst] at h
      obtain ⟨_, _, _, _, _, _, _, _, hi⟩ := h
      exact absurd (hi op (by simp)) hop
    | idle =>
      simp only [List.cons_append, OpsOK, hst] at h
      exact absurd (h op (by simp)) hop
    | transport => simp [OpsOK, hst] at h

theorem OpsOK_mem {now : Int} : ∀ (l : List OpState) (prev : Option Int), OpsOK now prev l → ∀ o ∈ l,
    (o.st = .done → ∃ a b, o.start = some a ∧ o.stop = some b ∧ a ≤ b ∧ b ≤ now) ∧
    (o.st = .processing → ∃ a b, o.start = some a ∧ o.stop = some b ∧ a ≤ b ∧ a ≤ now ∧ now ≤ b) ∧
    o.st ≠ .transport
  | [], _, _, _, ho => nomatch ho
  | x :: xs, prev, h, o, ho => by
    have idle {P Q : Prop} (e : o.st = .idle) : (o.st = .done → P) ∧ (o.st = .processing → Q) ∧ o.st ≠ .transport :=
      ⟨fun e' => OSt.noConfusion (e.symm.trans e'), fun e' => OSt.noConfusion (e.symm.trans e'), fun e' => OSt.noConfusion (e.symm.trans e')⟩
    unfold OpsOK at h
    cases hst : x.st with
    | done =>
      rw [hst] at h
      obtain ⟨a, c, h1, h2, h3, h4, _, h6⟩ := h
      rcases List.mem_cons.mp ho with rfl | ho'
      · exact ⟨fun _ => ⟨a, c, h1, h2, h3, h4⟩, fun e => OSt.noConfusion (hst.symm.trans e), fun e => OSt.noConfusion (hst.symm.trans e)⟩
      · exact OpsOK_mem xs (some c) h6 o ho'
    | processing =>
      rw [hst] at h
      obtain ⟨a, c, h1, h2, h3, h4, h5, _, hi⟩ := h
      rcases List.mem_cons.mp ho with rfl | ho'
      · exact ⟨fun e => OSt.noConfusion (hst.symm.trans e), fun _ => ⟨a, c, h1, h2, h3, h4, h5⟩, fun e => OSt.noConfusion (hst.symm.trans e)⟩
      · exact idle (hi o ho')
    | idle =>
      rw [hst] at h
      rcases List.mem_cons.mp ho with rfl | ho'
      · exact idle hst
      · exact idle (h o ho')
    | transport => rw [hst] at h; exact h.elim

theorem OpsOK_one_processing {now : Int} : ∀ (l : List OpState) (prev : Option Int), OpsOK now prev l →
    ∀ o₁ ∈ l, ∀ o₂ ∈ l, o₁.st = .processing → o₂.st = .processing → o₁ = o₂
  | [], _, _, _, h, _, _, _, _ => by cases h
  | x :: xs, prev, h, o₁, h₁, o₂, h₂, p₁, p₂ => by
    cases hst : x.st with
    | done =>
      simp only [OpsOK, hst] at h
      obtain ⟨_, c, _, _, _, _, _, h6⟩ := h
      have e1 : o₁ ∈ xs := by
        rcases List.mem_cons.mp h₁ with rfl | h; · rw [hst] at p₁; cases p₁
        exact h
      have e2 : o₂ ∈ xs := by
        rcases List.mem_cons.mp h₂ with rfl | h; · rw [hst] at p₂; cases p₂
        exact h
      exact OpsOK_one_processing xs (some c) h6 o₁ e1 o₂ e2 p₁ p₂
    | processing =>
      simp only [OpsOK, hst] at h
      obtain ⟨_, _, _, _, _, _, _, _, hi⟩ := h
      have e1 : o₁ = x := by
        rcases List.mem_cons.mp h₁ with rfl | h; · rfl
        exact absurd (hi o₁ h) (by rw [p₁]; simp)
      have e2 : o₂ = x := by
        rcases List.mem_cons.mp h₂ with rfl | h; · rfl
        exact absurd (hi o₂ h) (by rw [p₂]; simp)
      rw [e1, e2]
    | idle =>
      simp only [OpsOK, hst] at h
      rcases List.mem_cons.mp h₁ with rfl | h'
      · rw [hst] at p₁; cases p₁
      · exact absurd (h o₁ h') (by rw [p₁]; simp)
    | transport => simp [OpsOK, hst] at h

end JSL
