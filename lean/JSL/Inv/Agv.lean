import JSL.Inv.Dur

/-!
# What the AGVs hold and claim
-/

namespace JSL

variable {orc : Oracle} {inst : Instance}

theorem takeFromMachine {ms ms' : MachineState} {i x : Nat} {bs : BufState} {bss : BSS}
    (hne : ms.pre.id ≠ ms.buffer.id ∧ ms.pre.id ≠ ms.post.id ∧ ms.buffer.id ≠ ms.post.id)
    (hbs : bufOfMachine ms i = .ok bs) (hms' : replaceBufInMachine ms (bs.without x bss) = .ok ms') :
    (bs = ms.pre ∧ ms' = { ms with pre := ms.pre.without x bss }) ∨
    (bs = ms.buffer ∧ ms' = { ms with buffer := ms.buffer.without x bss }) ∨
    (bs = ms.post ∧ ms' = { ms with post := ms.post.without x bss }) := by
  unfold replaceBufInMachine at hms'
  rcases (bufOfMachine_ok hbs).2 with rfl | rfl | rfl
  · simp at hms'; exact Or.inl ⟨rfl, hms'.symm⟩
  · simp [hne.1.symm] at hms'; exact Or.inr (Or.inl ⟨rfl, hms'.symm⟩)
  · simp [hne.2.1.symm, hne.2.2.symm] at hms'; exact Or.inr (Or.inr ⟨rfl, hms'.symm⟩)

/-- What one AGV transition does: the new record `t'` of the AGV, and the jobs and machines of the
new state.  One case per handler (the two that keep an AGV waiting share one); a delivery goes to
the pre-buffer of a machine or to a stand-alone buffer. -/
inductive AgvEffect (orc : Oracle) (inst : Instance) (s s' : State) (r r' : Rng) (tr : Transition)
    (t0 t' : TransportState) : Prop
  | dispatch (j : JobState) (cur drop : Loc) (pick : Nat) (occ : Int) : tr.new = .t .working → t0.st = .idle →
      j ∈ s.jobs → tr.job = some j.id → dropOK inst j JobState.nextIdle? drop →
      t' = t0.toPickup cur pick drop occ j.id → s'.jobs = s.jobs → s'.machines = s.machines →
      AgvEffect orc inst s s' r r' tr t0 t'
  | wait (occ : Occ) : tr.new = .t .waitingpickup → (t0.st = .pickup ∨ t0.st = .waitingpickup) →
      t' = t0.toWaiting occ → s'.jobs = s.jobs → s'.machines = s.machines → AgvEffect orc inst s s' r r' tr t0 t'
  | release : tr.new = .t .idle → t0.st = .outage → t' = t0.toIdle → s'.jobs = s.jobs → s'.machines = s.machines →
      AgvEffect orc inst s s' r r' tr t0 t'
  | pickup (j : JobState) (src dst : Loc) (tt : Int) (bss : BSS) : tr.new = .t .transit →
      (t0.st = .pickup ∨ t0.st = .waitingpickup) → j ∈ s.jobs → tr.job = some j.id →
      dropOK inst j JobState.nextNotDone? dst → travelTimeFromSpec orc inst r src dst = .ok (tt, r') →
      ((∃ fb ∈ s.buffers, fb.id = j.loc) ∨
        (∃ ms ∈ s.machines, src = .m ms.id ∧ (j.loc = ms.pre.id ∨ j.loc = ms.buffer.id ∨ j.loc = ms.post.id))) →
      t' = t0.toTransit (s.time + tt) j.id bss → s'.jobs = (s.replaceJob (j.at t0.buffer.id)).jobs →
      (∀ m' ∈ s'.machines, ∃ m ∈ s.machines, m'.id = m.id ∧ m'.st = m.st ∧ m'.tool = m.tool ∧
        ∀ x ∈ m'.pre.store, x ∈ m.pre.store) →
      AgvEffect orc inst s s' r r' tr t0 t'
  | deliverM (j : JobState) (cur : Loc) (pick : Nat) (ms : MachineState) (bss1 bss2 : BSS) (outs : List OutageState)
      (occ : Int) : tr.new = .t .outage → (t0.st = .transit ∨ t0.st = .working) →
      t0.loc = .route cur pick (.m ms.id) → ms ∈ s.machines → j ∈ s.jobs → j.id ∈ t0.buffer.store →
      t' = t0.toOutage j.id bss1 outs occ (.m ms.id) → s'.jobs = (s.replaceJob (j.at ms.pre.id)).jobs →
      s'.machines = (s.replaceMachine (ms.withPre j.id bss2)).machines → AgvEffect orc inst s s' r r' tr t0 t'
  | deliverB (j : JobState) (cur : Loc) (pick : Nat) (b : BufState) (bss1 bss2 : BSS) (outs : List OutageState)
      (occ : Int) : tr.new = .t .outage → (t0.st = .transit ∨ t0.st = .working) →
      t0.loc = .route cur pick (.b b.id) → b ∈ s.buffers → j ∈ s.jobs → j.id ∈ t0.buffer.store →
      t' = t0.toOutage j.id bss1 outs occ (.b b.id) → s'.jobs = (s.replaceJob (j.at b.id)).jobs →
      s'.machines = s.machines → s'.buffers = (s.replaceBuffer (b.withBack j.id bss2)).buffers →
      AgvEffect orc inst s s' r r' tr t0 t'

theorem agv_transport_effect (w : WF inst) {s s' : State} {r r' : Rng} {tr : Transition} {tid : Nat} (hI : StructInv inst s)
    (hc : tr.comp = .t tid) (h : applyTransition orc inst s r tr = .ok (s', r')) :
    ∃ t0 t', t0 ∈ s.transports ∧ t0.id = tid ∧ t'.id = t0.id ∧ t'.buffer.id = t0.buffer.id ∧
      s'.transports = (s.replaceTransport t').transports ∧ AgvEffect orc inst s s' r r' tr t0 t' := by
  have hs := hI.shape
  have same : ∀ m' ∈ s.machines, ∃ m ∈ s.machines, m'.id = m.id ∧ m'.st = m.st ∧ m'.tool = m.tool ∧
      ∀ x ∈ m'.pre.store, x ∈ m.pre.store := fun m' hm' => ⟨m', hm', rfl, rfl, rfl, fun _ hx => hx⟩
  cases applyTransition_ran h with
  | m _ hc' _ _ _ _ _ _ => rw [hc] at hc'; cases hc'
  | t t0 hc' ht0 hd ns hn hah run =>
    have hid0 : t0.id = tid := by rw [hc] at hc'; cases hc'; rfl
    have hi := agvHandler_inv hah
    cases hd with
    | idleToWorking =>
      obtain ⟨j, cur, target, src, bc, c, hj, htj, _, hdrop, _, _, _, _, _, rfl⟩ := idleToWorking_spec run
      exact ⟨t0, t0.toPickup cur bc.id target (s.time + c.cur orc r) j.id, ht0, hid0, rfl, rfl, rfl, .dispatch j cur target bc.id _ (by rw [hn, hi.2]) hi.1 hj htj hdrop rfl rfl rfl⟩
    | pickupToWaitingpickup =>
      obtain ⟨occ, _, _, _, rfl⟩ := pickupToWaiting_spec run
      exact ⟨t0, t0.toWaiting occ, ht0, hid0, rfl, rfl, rfl, .wait occ (by rw [hn, hi.1]) (Or.inl hi.2) rfl rfl rfl⟩
    | waitingPickupToWaitingPickup =>
      obtain ⟨occ, _, _, rfl⟩ := waitingToWaiting_spec run
      exact ⟨t0, t0.toWaiting occ, ht0, hid0, rfl, rfl, rfl, .wait occ (by rw [hn, hi.1]) (Or.inr hi.2) rfl rfl rfl⟩
    | outageToIdle =>
      obtain ⟨_, rfl⟩ := agvOutageToIdle_spec run
      exact ⟨t0, t0.toIdle, ht0, hid0, rfl, rfl, rfl, .release (by rw [hn, hi.2]) hi.1 rfl rfl rfl⟩
    | pickupToTransit =>
      obtain ⟨j, src, dst, tt, bss1, bss2, hj, htj, hdrop, htt, _, hcase⟩ := pickupToTransit_spec run
      refine ⟨t0, t0.toTransit (s.time + tt) j.id bss2, ht0, hid0, rfl, rfl, ?_, ?_⟩
      · rcases hcase with ⟨fb, _, _, _, _, _, rfl⟩ | ⟨mid, ms, bs, ms', _, _, _, _, _, _, _, rfl⟩ <;> rfl
      · rcases hcase with ⟨fb, _, _, hfb, hfid, _, rfl⟩ | ⟨mid, ms, bs, ms', e1, _, hms, e2, hbs, _, hms', rfl⟩
        · exact .pickup j src dst tt bss2 (by rw [hn, hi.1]) hi.2 hj htj hdrop htt (Or.inl ⟨fb, hfb, hfid⟩) rfl rfl same
        · have hbid := (bufOfMachine_ok hbs).1
          refine .pickup j src dst tt bss2 (by rw [hn, hi.1]) hi.2 hj htj hdrop htt (Or.inr ⟨ms, hms, by rw [e1, e2], ?_⟩)
            rfl rfl ?_
          · rcases (bufOfMachine_ok hbs).2 with e | e | e <;> rw [e] at hbid
            · exact Or.inl hbid.symm
            · exact Or.inr (Or.inl hbid.symm)
            · exact Or.inr (Or.inr hbid.symm)
          · have hms'eq : ms'.id = ms.id ∧ ms'.st = ms.st ∧ ms'.tool = ms.tool ∧ ∀ x ∈ ms'.pre.store, x ∈ ms.pre.store := by
              rcases takeFromMachine (machine_buf_ids_ne hs w hms) hbs hms' with ⟨_, rfl⟩ | ⟨_, rfl⟩ | ⟨_, rfl⟩
              · exact ⟨rfl, rfl, rfl, fun x hx => (List.mem_filter.mp hx).1⟩
              · exact ⟨rfl, rfl, rfl, fun _ hx => hx⟩
              · exact ⟨rfl, rfl, rfl, fun _ hx => hx⟩
            intro m1 hm1
            rcases (mem_replaceMachine (hs.machNodup w) hms hms'eq.1 m1).mp hm1 with rfl | ⟨hy0, _⟩
            · exact ⟨ms, hms, hms'eq⟩
            · exact same m1 hy0
    | transitToOutage =>
      obtain ⟨j, cur, pick, drop, tc, outs, bss1, bss2, hj, _, hloc, hin, _, _, _, hcase⟩ := transitToOutage_spec run
      refine ⟨t0, t0.toOutage j.id bss1 outs (s.time + occupiedFor outs) drop, ht0, hid0, rfl, rfl, ?_, ?_⟩
      · rcases hcase with ⟨mid, ms, _, _, _, _, rfl⟩ | ⟨bid, b, _, _, _, _, rfl⟩ <;> rfl
      · rcases hcase with ⟨mid, ms, rfl, hms, rfl, _, rfl⟩ | ⟨bid, b, rfl, hb, rfl, _, rfl⟩
        · exact .deliverM j cur pick ms bss1 bss2 outs _ (by rw [hn, hi.1]) hi.2 hloc hms hj hin rfl rfl rfl
        · exact .deliverB j cur pick b bss1 bss2 outs _ (by rw [hn, hi.1]) hi.2 hloc hb hj hin rfl rfl rfl rfl
theorem AgvEffect.transit {s s' : State} {r r' : Rng} {tr : Transition} {t0 t' : TransportState}
    (h : AgvEffect orc inst s s' r r' tr t0 t') (hst : t'.st = .transit) : tr.new = .t .transit := by
  cases h with
  | dispatch _ _ _ _ _ _ _ _ _ _ e _ _ => subst e; cases hst
  | wait _ _ _ e _ _ => subst e; cases hst
  | release _ _ e _ _ => subst e; cases hst
  | pickup _ _ _ _ _ hn _ _ _ _ _ _ _ _ _ => exact hn
  | deliverM _ _ _ _ _ _ _ _ _ _ _ _ _ _ e _ _ => subst e; cases hst
  | deliverB _ _ _ _ _ _ _ _ _ _ _ _ _ _ e _ _ _ => subst e; cases hst

structure AgvInv (s : State) : Prop where
  empty : ∀ t ∈ s.transports, t.st ≠ .transit → t.buffer.store = []
  holds : ∀ t ∈ s.transports, t.st = .transit → ∃ j ∈ s.jobs, t.buffer.store = [j.id]
  unique : ∀ t1 ∈ s.transports, ∀ t2 ∈ s.transports, ∀ x, t1.job = some x → t2.job = some x → t1.id = t2.id
  claimed : ∀ t ∈ s.transports, ∀ x, t.job = some x → ∃ j ∈ s.jobs, j.id = x

/-- batch side condition: dispatches in the batch are for jobs nobody has claimed, pairwise different -/
structure ClaimGS (s : State) (L : List Transition) : Prop where
  free : ∀ tr ∈ L, tr.new = .t .working → ∀ x, tr.job = some x → ∀ t ∈ s.transports, t.job ≠ some x
  distinct : L.Pairwise (fun a b => a.new = .t .working → b.new = .t .working → ∀ x, a.job = some x → b.job ≠ some x)

theorem ClaimGS.tail {s : State} {tr : Transition} {R : List Transition} (h : ClaimGS s (tr :: R)) : ClaimGS s R :=
  ⟨fun t ht => h.free t (by simp [ht]), (List.pairwise_cons.mp h.distinct).2⟩

theorem job_ids_same {s s' : State} (hI : StructInv inst s) (hI' : StructInv inst s') (x : Nat) :
    (∃ j ∈ s.jobs, j.id = x) ↔ (∃ j ∈ s'.jobs, j.id = x) := by
  have e : s.jobs.map (·.id) = s'.jobs.map (·.id) := by rw [hI.shape.jobIds, hI'.shape.jobIds]
  constructor
  · rintro ⟨j, hj, rfl⟩
    have : j.id ∈ s'.jobs.map (·.id) := by rw [← e]; exact List.mem_map.mpr ⟨j, hj, rfl⟩
    obtain ⟨j', hj', e'⟩ := List.mem_map.mp this
    exact ⟨j', hj', e'⟩
  · rintro ⟨j, hj, rfl⟩
    have : j.id ∈ s.jobs.map (·.id) := by rw [e]; exact List.mem_map.mpr ⟨j, hj, rfl⟩
    obtain ⟨j', hj', e'⟩ := List.mem_map.mp this
    exact ⟨j', hj', e'⟩


theorem applyTransition_agv (w : WF inst) {s s' : State} {r r' : Rng} {tr : Transition} {R : List Transition}
    (hI : StructInv inst s) (hP : AgvInv s) (hv : transitionValid s tr = .ok true)
    (hgs : ClaimGS s (tr :: R)) (h : applyTransition orc inst s r tr = .ok (s', r')) :
    AgvInv s' ∧ ClaimGS s' R := by
  have hI' := applyTransition_struct w hI hv h
  have hjobs := job_ids_same hI hI'
  have htn := hI.shape.trNodup w
  cases applyTransition_ran h with
  | m m0 hc _ _ _ _ _ _ =>
    have htr := (machine_effect w hI hc h).2.1
    constructor
    · exact {
        empty := fun t ht => hP.empty t (htr ▸ ht)
        holds := fun t ht hst => by
          obtain ⟨j, hj, e⟩ := hP.holds t (htr ▸ ht) hst
          obtain ⟨j', hj', e'⟩ := (hjobs j.id).mp ⟨j, hj, rfl⟩
          exact ⟨j', hj', by rw [e, e']⟩
        unique := fun t1 h1 t2 h2 => hP.unique t1 (htr ▸ h1) t2 (htr ▸ h2)
        claimed := fun t ht x hx => (hjobs x).mp (hP.claimed t (htr ▸ ht) x hx) }
    · exact ⟨fun t ht hn x hx t2 ht2 => hgs.free t (by simp [ht]) hn x hx t2 (htr ▸ ht2), (List.pairwise_cons.mp hgs.distinct).2⟩
  | t t1 hc _ _ _ _ _ _ =>
    obtain ⟨t0, t', ht0, _, hid', _, htrs, heff⟩ := agv_transport_effect w hI hc h
    have hmemT : ∀ x, x ∈ s'.transports ↔ (x = t' ∨ (x ∈ s.transports ∧ x.id ≠ t0.id)) := by
      intro x; rw [htrs]; exact mem_replaceTransport htn ht0 hid' x
    have key : (t'.st ≠ .transit → t'.buffer.store = []) ∧
        (t'.st = .transit → ∃ j ∈ s'.jobs, t'.buffer.store = [j.id]) ∧
        (∀ x, t'.job = some x → (t0.job = some x ∨ (tr.new = .t .working ∧ tr.job = some x)) ∧ ∃ j ∈ s.jobs, j.id = x) := by
      have hnt := hP.empty t0 ht0
      have hold : ∀ x, t0.job = some x →
          (t0.job = some x ∨ (tr.new = .t .working ∧ tr.job = some x)) ∧ ∃ j ∈ s.jobs, j.id = x :=
        fun x hx => ⟨Or.inl hx, hP.claimed t0 ht0 x hx⟩
      -- an AGV in transit holds one job, any other none: after the delivery it is empty
      have hout : ∀ x, (t0.st = .transit ∨ t0.st = .working) → x ∈ t0.buffer.store →
          t0.buffer.store.filter (· != x) = [] := by
        intro x h1 hin
        rcases h1 with e | e
        · obtain ⟨j0, _, hst⟩ := hP.holds t0 ht0 e
          rw [hst] at hin ⊢
          simp at hin
          simp [hin]
        · rw [hnt (by rw [e]; simp)] at hin; cases hin
      cases heff with
      | dispatch j cur drop pick occ hn h1 hj htj _ e _ _ =>
        subst e
        exact ⟨fun _ => hnt (by rw [h1]; simp), fun e => (by cases e),
          fun x hx => (by cases hx; exact ⟨Or.inr ⟨hn, htj⟩, j, hj, rfl⟩)⟩
      | wait occ _ h1 e _ _ =>
        subst e
        exact ⟨fun _ => hnt (by rcases h1 with e | e <;> rw [e] <;> simp), fun e => (by cases e), hold⟩
      | release _ h1 e _ _ =>
        subst e
        exact ⟨fun _ => hnt (by rw [h1]; simp), fun e => (by cases e), hold⟩
      | pickup j src dst tt bss _ h1 hj _ _ _ _ e _ _ =>
        subst e
        refine ⟨fun e => absurd rfl e, fun _ => ?_, hold⟩
        obtain ⟨j', hj', e'⟩ := (hjobs j.id).mp ⟨j, hj, rfl⟩
        exact ⟨j', hj', by
          simp [TransportState.toTransit, hnt (by rcases h1 with e | e <;> rw [e] <;> simp), e']⟩
      | deliverM j cur pick ms bss1 bss2 outs occ _ h1 _ _ _ hin e _ _ =>
        subst e
        exact ⟨fun _ => hout j.id h1 hin, fun e => (by cases e), fun x hx => (by cases hx)⟩
      | deliverB j cur pick b bss1 bss2 outs occ _ h1 _ _ _ hin e _ _ _ =>
        subst e
        exact ⟨fun _ => hout j.id h1 hin, fun e => (by cases e), fun x hx => (by cases hx)⟩
    have hfree0 : ∀ x, tr.new = .t .working → tr.job = some x → ∀ t ∈ s.transports, t.job ≠ some x :=
      fun x hn hx => hgs.free tr (by simp) hn x hx
    constructor
    · constructor
      · intro t ht hst
        rcases (hmemT t).mp ht with rfl | ⟨ht', _⟩
        · exact key.1 hst
        · exact hP.empty t ht' hst
      · intro t ht hst
        rcases (hmemT t).mp ht with rfl | ⟨ht', _⟩
        · exact key.2.1 hst
        · obtain ⟨j, hj, e⟩ := hP.holds t ht' hst
          obtain ⟨j', hj', e'⟩ := (hjobs j.id).mp ⟨j, hj, rfl⟩
          exact ⟨j', hj', by rw [e, e']⟩
      · intro t1 h1 t2 h2 x hx1 hx2
        rcases (hmemT t1).mp h1 with rfl | ⟨h1', hne1⟩
        · rcases (hmemT t2).mp h2 with rfl | ⟨h2', hne2⟩
          · rfl
          · rcases (key.2.2 x hx1).1 with e | ⟨hn, hj⟩
            · rw [hid']; exact hP.unique t0 ht0 t2 h2' x e hx2
            · exact absurd hx2 (hfree0 x hn hj t2 h2')
        · rcases (hmemT t2).mp h2 with rfl | ⟨h2', hne2⟩
          · rcases (key.2.2 x hx2).1 with e | ⟨hn, hj⟩
            · rw [hid']; exact hP.unique t1 h1' t0 ht0 x hx1 e
            · exact absurd hx1 (hfree0 x hn hj t1 h1')
          · exact hP.unique t1 h1' t2 h2' x hx1 hx2
      · intro t ht x hx
        rcases (hmemT t).mp ht with rfl | ⟨ht', _⟩
        · exact (hjobs x).mp (key.2.2 x hx).2
        · exact (hjobs x).mp (hP.claimed t ht' x hx)
    · refine ⟨?_, (List.pairwise_cons.mp hgs.distinct).2⟩
      intro b hb hnb x hxb t ht
      rcases (hmemT t).mp ht with rfl | ⟨ht', _⟩
      · intro hx
        rcases (key.2.2 x hx).1 with e | ⟨hn, hj⟩
        · exact hgs.free b (by simp [hb]) hnb x hxb t0 ht0 e
        · exact (List.pairwise_cons.mp hgs.distinct).1 b hb hn hnb x hj hxb
      · exact hgs.free b (by simp [hb]) hnb x hxb t ht'

end JSL
