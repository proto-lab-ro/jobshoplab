import JSL.Inv.ClassicTotal
import JSL.Inv.ClassicStart
import JSL.Inv.ClassicSync
import JSL.Inv.ClassicEnvDefs
import JSL.Inv.EnvPass

/-!
# Classic runs: from a pass with the totality interface to `env.step`

`PassRun`: the run hypotheses on a classic instance together with a pass that admits offers, holds at
the start state and implies the AGV invariants the offer lemmas need.  For such a pass with an instance
`TotalHypR ps μ B Q RW` of the totality interface and fuel `≥ B + 2`:

* `PassRun.live`, `PassRun.fin` – the pass invariant at every state the environment holds;
* `PassRun.stateStep` – `state.step` returns successfully, keeps `Q`, and its result holds offers or has
  the shop finished;
* `PassRun.reset`, `PassRun.step` – `reset` and every `env.step` of a running episode return, and
  keep `Q` when the caller shows that the accepted offer resp. the forced jump keeps it
  (`PassRun.resetReturns`, `PassRun.stepReturns`: no `Q`);
* `PassRun.syncReset`, `PassRun.syncStep` – the case `Q :=` "in step with the target schedule": the
  fields `reset` and `step` of the interfaces `StepIface` / `StepIfaceG`.
-/

namespace JSL

variable {orc : Oracle} {inst : Instance} {ec : EnvCfg} {st : RewardStatic} {s0 : State}

structure PassRun (orc : Oracle) (inst : Instance) (ec : EnvCfg) (st : RewardStatic) (s0 : State)
    (ps : Pass orc inst ec.sm) : Prop where
  start : Start orc inst s0
  classic : Classic inst
  startOK : classicStartB inst s0 = true
  trunc : ec.mw.truncActive = false
  joker : 0 ≤ ec.mw.jokerInit
  numOps : st.numOps ≠ 0
  norm : st.tmax - st.lb ≠ 0
  jobs : inst.jobs ≠ []
  adm : ∀ s a, Admissible a → AdmOffer inst ec.sm s a → ps.Adm s a
  init : ps.P s0
  agv : ∀ {s}, ps.P s → AgvFull inst s ∧ NoDep s

variable {ps : Pass orc inst ec.sm}

theorem PassRun.wf (hK : PassRun orc inst ec st s0 ps) : WF inst := (initOKB_sound hK.start.init).1
theorem PassRun.struct0 (hK : PassRun orc inst ec st s0 ps) : StructInv inst s0 := (initOKB_sound hK.start.init).2
theorem PassRun.nn (hK : PassRun orc inst ec st s0 ps) : NonNeg orc inst :=
  nonnegB_sound hK.start.samples hK.start.nonneg
theorem PassRun.sched0 (hK : PassRun orc inst ec st s0 ps) : SchedInv s0 := restB_sound hK.start.rest

theorem PassRun.live (hK : PassRun orc inst ec st s0 ps) {e : EnvState} (h : EnvReach orc inst ec st s0 e)
    (hne : e.res.possible ≠ []) : StructInv inst e.res.state ∧ SchedInv e.res.state ∧ ps.P e.res.state := by
  have hi := envReach_inv hK.start h
  obtain ⟨_, hI, hS⟩ := occursA_inv hK.start (hi.live hne).1
  exact ⟨hI, hS, occursF_pass ps hK.start hK.init hK.adm (hi.liveF hne)⟩

theorem PassRun.fin (hK : PassRun orc inst ec st s0 ps) {e : EnvState} (h : EnvReach orc inst ec st s0 e) :
    ∃ t, ps.P { e.res.state with time := t } :=
  ((resPass_lift ps hK.start hK.init hK.adm).reach hK.start h).fin

theorem process_nil_state {s : State} {r : Rng} {p : ProcOut}
    (h : processTransitions orc inst (sortedByTransport []) s r = .ok p) : p.state = s := by
  rw [sortedByTransport_nil, processTransitions_nil] at h
  cases h; rfl

theorem process_single_state {s s' : State} {r r' : Rng} {tr : Transition} {p : ProcOut}
    (hv : transitionValid s tr = .ok true) (ha : applyTransition orc inst s r tr = .ok (s', r'))
    (h : processTransitions orc inst (sortedByTransport [tr]) s r = .ok p) : p.state = s' := by
  rw [sortedByTransport_single, processTransitions_cons_applied hv ha (processTransitions_nil s' r')] at h
  cases h; rfl

section
variable {μ : State → Nat} {B : Nat} {Q : State → Prop} {RW : State → Transition → Prop}

theorem PassRun.stateStep (hK : PassRun orc inst ec st s0 ps) (hT : TotalHypR ps μ B Q RW) (hfuel : B + 2 ≤ ec.fuel)
    {s : State} (hI : StructInv inst s) (hS : SchedInv s) (hP : ps.P s) {r : Rng} {a : Action}
    (ha : Admissible a) (hadm : AdmOffer inst ec.sm s a)
    (hact : a.transitions = [] ∨ ∃ tr, a.transitions = [tr] ∧ transitionValid s tr = .ok true ∧
        ∃ s' r', applyTransition orc inst s r tr = .ok (s', r'))
    (hQa : a.tm = .jumpToEvent → ∀ p, processTransitions orc inst (sortedByTransport a.transitions) s r = .ok p →
        Q p.state)
    (hQb : a.tm = .forceJump → ∀ p t, processTransitions orc inst (sortedByTransport a.transitions) s r = .ok p →
        forceJump p.state = .ok t → Q { p.state with time := t }) :
    ∃ res r' mic, smStep orc inst ec.sm ec.fuel s r a = .ok (res, r', mic) ∧ res.success = true ∧
      (∃ t, Q { res.state with time := t }) ∧ (isDone inst res.state = false → Q res.state) ∧
      (res.possible ≠ [] ∨ isDone inst res.state = true) := by
  have hC := hK.classic
  obtain ⟨res, r', mic, hs, hsuc, hfin, hlive, _, _⟩ :=
    smStep_totalR ps hT hK.wf hK.nn hI hS hP ha (hK.adm s a ha hadm) hfuel hact hQa hQb
  refine ⟨res, r', mic, hs, hsuc, hfin, ?_, ?_⟩
  · intro hnd
    apply hlive
    rcases (smStep_spec hs).2 with h1 | h1 | h1
    · exact h1.2.1
    · rw [h1.2.2.2] at hnd; cases hnd
    · exact h1.2.1
  · rcases (smStep_spec hs).2 with h1 | h1 | h1
    · rw [h1.1] at hsuc; cases hsuc
    · exact Or.inr h1.2.2.2
    · exact Or.inl (smStep_offers hK.wf hK.nn hC.flex.pick hC.hasAgv hI hS (hK.agv hP) ha hadm hs hsuc h1.2.1)

/-- **`reset` returns**, successfully, with the episode open and the shop not finished; `Q` carries over
from the start state -/
theorem PassRun.reset (hK : PassRun orc inst ec st s0 ps) (hT : TotalHypR ps μ B Q RW) (hfuel : B + 2 ≤ ec.fuel)
    (hQ0 : Q s0) (r0 : Rng) :
    ∃ e0 mic, envReset orc inst ec s0 r0 = .ok (e0, mic) ∧ e0.res.success = true ∧ e0.done = false ∧
      0 ≤ e0.mw.joker ∧ Q e0.res.state := by
  obtain ⟨res, r', mic, hs, hsuc, _, hlive, _⟩ :=
    hK.stateStep hT hfuel hK.struct0 hK.sched0 hK.init (r := r0) admissible_noOp (Or.inl rfl) (Or.inl rfl)
      (fun _ p hp => by rw [process_nil_state hp]; exact hQ0)
      (fun h => by simp [noOpAction] at h)
  have hreset : envReset orc inst ec s0 r0 =
      .ok ({ res := res, histLen := 0, histNoOps := 0, lastNoOp := false, terminated := false, truncated := false,
             done := false, mw := { joker := ec.mw.jokerInit, noOpCnt := 0, actCnt := 0 }, rng := r', rwCnt := 0 },
           mic) := by
    simp [envReset, mwReset, hs]
  exact ⟨_, _, hreset, hsuc, rfl, hK.joker, hlive (reset_not_done hK.start hK.classic hK.jobs hreset)⟩

/-- **every `env.step` of a running episode returns.**  The episode is not truncated, it terminates
exactly when the shop is finished, the allowance is untouched; `Q` carries over when applying the
accepted offer resp. the forced jump of the last decline keeps it.  The last conjunct says which
`state.step`, if any, produced the result. -/
theorem PassRun.step (hK : PassRun orc inst ec st s0 ps) (hT : TotalHypR ps μ B Q RW) (hfuel : B + 2 ≤ ec.fuel)
    {e : EnvState} (h : EnvReach orc inst ec st s0 e) (hd : e.done = false) (hs : e.res.success = true)
    (hj : 0 ≤ e.mw.joker) {a : AgentAct} (ha : a = .accept ∨ a = .decline) (hQ : Q e.res.state)
    (hQacc : a = .accept → ∀ tr ∈ e.res.possible.head?, ∀ s1 r1,
      applyTransition orc inst e.res.state e.rng tr = .ok (s1, r1) → Q s1)
    (hQdec : a = .decline → e.res.possible.length = 1 → ∀ t, forceJump e.res.state = .ok t →
      Q { e.res.state with time := t }) :
    ∃ out, envStep orc inst ec st e a = .ok out ∧ out.env.res.success = true ∧ out.env.truncated = false ∧
      out.env.terminated = isDone inst out.env.res.state ∧ out.env.done = isDone inst out.env.res.state ∧
      out.env.mw.joker = e.mw.joker ∧ out.obsRes = out.env.res ∧
      (∃ t, Q { out.env.res.state with time := t }) ∧ (out.env.done = false → Q out.env.res.state) ∧
      ((∃ o o' rest, a = .decline ∧ e.res.possible = o :: o' :: rest ∧ out.env.res.state = e.res.state) ∨
       (∃ act, ((a = .accept ∧ act = { transitions := e.res.possible.take 1, noOp := false, tm := .jumpToEvent }) ∨
            (a = .decline ∧ e.res.possible.length = 1 ∧
              act = { transitions := [], noOp := true, tm := .forceJump })) ∧
          smStep orc inst ec.sm ec.fuel e.res.state e.rng act = .ok (out.env.res, out.env.rng, out.micro))) := by
  have hne := envReach_offers hK.start hK.classic hK.jobs h hd hs
  obtain ⟨hI, hS, hP⟩ := hK.live h hne
  have hi := envReach_inv hK.start h
  -- the `state.step` the middleware runs for this answer
  have key : ∀ act : Action,
      (a = .accept ∧ act = { transitions := e.res.possible.take 1, noOp := false, tm := .jumpToEvent }) ∨
      (a = .decline ∧ e.res.possible.length = 1 ∧ act = { transitions := [], noOp := true, tm := .forceJump }) →
      ∃ res' r' mic, smStep orc inst ec.sm ec.fuel e.res.state e.rng act = .ok (res', r', mic) ∧
        res'.success = true ∧ (∃ t, Q { res'.state with time := t }) ∧
        (isDone inst res'.state = false → Q res'.state) ∧ (res'.possible ≠ [] ∨ isDone inst res'.state = true) := by
    intro act hk
    rcases hk with ⟨hacc, rfl⟩ | ⟨hdec, hlen, rfl⟩
    · cases hp : e.res.possible with
      | nil => exact absurd hp hne
      | cons tr rest =>
        have htr : tr ∈ e.res.possible := by rw [hp]; simp
        obtain ⟨poss, hposs, hsub⟩ := hi.offersFrom hne
        have hv := offers_valid hK.wf hI hS hposs tr (hsub tr htr)
        obtain ⟨s1, r1, happ⟩ :=
          env_offer_applies hK.start hK.classic.tables (readyB_sound (classicStartB_facts hK.startOK).1) h tr htr
        exact hK.stateStep hT hfuel hI hS hP
          ⟨fun x hx => by simp at hx; subst hx; exact (hi.live hne).2 x htr, by simp⟩
          (Or.inr ⟨poss, hposs, tr, hsub tr htr, rfl⟩) (Or.inr ⟨tr, rfl, hv, s1, r1, happ⟩)
          (fun _ p hp' => by
            rw [process_single_state hv happ hp']
            exact hQacc hacc tr (by rw [hp]; rfl) s1 r1 happ)
          (fun h => by simp at h)
    · exact hK.stateStep hT hfuel hI hS hP ⟨fun x hx => by simp at hx, by simp⟩ (Or.inl rfl) (Or.inl rfl)
        (fun h => by simp at h)
        (fun _ p t hp' hf => by
          rw [process_nil_state hp'] at hf ⊢
          exact hQdec hdec hlen t hf)
  obtain ⟨out, hout, e1, e2, e3, e4, e5, e6, _, _, hrun⟩ :=
    envStep_of_smStep (st := st) hd hne hK.numOps hK.norm hK.trunc hj ha
      (fun act hk => by
        obtain ⟨res', r', mic, h1, h2, _, _, h5⟩ := key act hk
        exact ⟨res', r', mic, h1, h2, h5⟩)
  refine ⟨out, hout, e1, e2, e3, e4, e5, e6, ?_⟩
  rcases hrun with ⟨o, o', rest, hdec, hp, hres, _, _⟩ | ⟨act, hk, hsm, _⟩
  · have hst : out.env.res.state = e.res.state := by rw [hres]
    exact ⟨⟨e.res.state.time, by rw [hst]; exact hQ⟩, fun _ => by rw [hst]; exact hQ,
      Or.inl ⟨o, o', rest, hdec, hp, hst⟩⟩
  · obtain ⟨res', r', mic, h1, _, hfin, hlive, _⟩ := key act hk
    rw [hsm] at h1
    cases h1
    exact ⟨hfin, fun hdn => hlive (by rw [← e4]; exact hdn), Or.inr ⟨act, hk, hsm⟩⟩

/-- `PassRun.reset` when nothing is carried along (`Q` true everywhere) -/
theorem PassRun.resetReturns (hK : PassRun orc inst ec st s0 ps) (hT : TotalHypR ps μ B (fun _ => True) RW)
    (hfuel : B + 2 ≤ ec.fuel) (r0 : Rng) :
    ∃ e0 mic, envReset orc inst ec s0 r0 = .ok (e0, mic) ∧ e0.res.success = true ∧ e0.done = false ∧
      0 ≤ e0.mw.joker := by
  obtain ⟨e0, mic, h, hs, hd, hj, _⟩ := hK.reset hT hfuel trivial r0
  exact ⟨e0, mic, h, hs, hd, hj⟩

/-- `PassRun.step` when nothing is carried along (`Q` true everywhere) -/
theorem PassRun.stepReturns (hK : PassRun orc inst ec st s0 ps) (hT : TotalHypR ps μ B (fun _ => True) RW)
    (hfuel : B + 2 ≤ ec.fuel) {e : EnvState} (h : EnvReach orc inst ec st s0 e) (hd : e.done = false)
    (hs : e.res.success = true) (hj : 0 ≤ e.mw.joker) {a : AgentAct} (ha : a = .accept ∨ a = .decline) :
    ∃ out, envStep orc inst ec st e a = .ok out ∧ out.env.res.success = true ∧ out.env.truncated = false ∧
      out.env.done = isDone inst out.env.res.state ∧ out.env.mw.joker = e.mw.joker ∧
      ((∃ o o' rest, a = .decline ∧ e.res.possible = o :: o' :: rest ∧ out.env.res.state = e.res.state) ∨
       (∃ act, ((a = .accept ∧ act = { transitions := e.res.possible.take 1, noOp := false, tm := .jumpToEvent }) ∨
            (a = .decline ∧ e.res.possible.length = 1 ∧
              act = { transitions := [], noOp := true, tm := .forceJump })) ∧
          smStep orc inst ec.sm ec.fuel e.res.state e.rng act = .ok (out.env.res, out.env.rng, out.micro))) := by
  obtain ⟨out, hout, e1, e2, _, e4, e5, _, _, _, hrun⟩ :=
    hK.step hT hfuel h hd hs hj ha trivial (fun _ _ _ _ _ _ => trivial) (fun _ _ _ _ => trivial)
  exact ⟨out, hout, e1, e2, e4, e5, hrun⟩

end


section
variable {μ : State → Nat} {B : Nat} {RW : State → Transition → Prop} {S : Nat → Nat → Int}

theorem PassRun.sync0 (hK : PassRun orc inst ec st s0 ps) (hT : TargetOK inst S) : SyncL inst S s0 := by
  have h0 := (classicStartB_facts hK.startOK).2.2
  have hidle := (restB_facts hK.start.rest).2.1
  refine ⟨by omega, fun j hj o ho hne => absurd (hidle j hj o ho) hne, ?_⟩
  intro j hj o ho hlt
  exfalso
  obtain ⟨oc, hoc, k1, k2, _⟩ := rec_cfg hK.wf hK.struct0.shape hj ho
  have := hT.nonneg oc hoc
  rw [k1, k2] at this
  omega

theorem PassRun.syncReset (hK : PassRun orc inst ec st s0 ps) (hT : TargetOK inst S)
    (hH : TotalHypR ps μ B (SyncL inst S) RW) (hfuel : B + 2 ≤ ec.fuel) (r0 : Rng) :
    ∃ e0 mic, envReset orc inst ec s0 r0 = .ok (e0, mic) ∧ e0.res.success = true ∧ SyncL inst S e0.res.state := by
  obtain ⟨e0, mic, h, hs, _, _, hQ⟩ := hK.reset hH hfuel (hK.sync0 hT) r0
  exact ⟨e0, mic, h, hs, hQ⟩

/-- a step of an agent that respects the target schedule (`StepOK`) keeps the run in step with it, given
that applying an offer other than a machine start does, and so does the forced jump when no operation
that could start is due -/
theorem PassRun.syncStep (hK : PassRun orc inst ec st s0 ps) (hH : TotalHypR ps μ B (SyncL inst S) RW)
    (hfuel : B + 2 ≤ ec.fuel)
    (hoffer : ∀ {s poss tr r s1 r1}, StructInv inst s → SchedInv s → ps.P s →
      possibleTransitions inst ec.sm s = .ok poss → tr ∈ poss → tr.new ≠ .m .setup →
      applyTransition orc inst s r tr = .ok (s1, r1) → SyncL inst S s → SyncL inst S s1)
    (hjump : ∀ {s t}, StructInv inst s → SchedInv s → ps.P s → SyncL inst S s → NoneDueNow S s →
      forceJump s = .ok t → SyncL inst S { s with time := t })
    {e : EnvState} (hreach : EnvReach orc inst ec st s0 e) (hd : e.done = false) (hsuc : e.res.success = true)
    (hjok : 0 ≤ e.mw.joker) (hQ : SyncL inst S e.res.state) (a : AgentAct) (ha : a = .accept ∨ a = .decline)
    (hok : StepOK S e a) :
    ∃ out, envStep orc inst ec st e a = .ok out ∧ out.env.res.success = true ∧ out.obsRes.success = true ∧
      out.env.truncated = false ∧ out.env.mw.joker = e.mw.joker ∧
      out.env.terminated = isDone inst out.env.res.state ∧ out.env.done = isDone inst out.env.res.state ∧
      (∃ t, SyncL inst S { out.env.res.state with time := t }) ∧
      (out.env.done = false → SyncL inst S out.env.res.state) := by
  have hne := envReach_offers hK.start hK.classic hK.jobs hreach hd hsuc
  obtain ⟨hI, hS, hP⟩ := hK.live hreach hne
  obtain ⟨poss, hposs, hsub⟩ := (envReach_inv hK.start hreach).offersFrom hne
  obtain ⟨out, hout, e1, e2, e3, e4, e5, e6, hfin, hlive, _⟩ :=
    hK.step hH hfuel hreach hd hsuc hjok ha hQ
      (fun hacc tr htr s1 r1 happ => by
        have htr' : tr ∈ e.res.possible := List.mem_of_mem_head? htr
        by_cases hnew : tr.new = .m .setup
        · rcases mem_possibleTransitions hposs (hsub tr htr') with ⟨j, hj, o, _, _, rfl⟩ | ⟨pt, hpt, hin⟩
          · refine sync_start hK.wf hI hS hQ happ ?_
            intro j' hj' hid o' ho'
            exact hok.1 hacc _ htr rfl j' hj' (by simp [hid]) o' ho'
          · obtain ⟨t, _, j, _, rfl, _⟩ := possibleTransport_facts hpt tr hin
            simp at hnew
        · exact hoffer hI hS hP hposs (hsub tr htr') hnew happ hQ)
      (fun hdec hlen t hf => hjump hI hS hP hQ (hok.2 hdec hlen) hf)
  exact ⟨out, hout, e1, by rw [e6]; exact e1, e2, e5, e3, e4, hfin, hlive⟩

end

end JSL
