import JSL.Inv.TotalEnv
import JSL.Inv.StartOnly

/-!
# An environment state that is not done holds an offer

`envStep` raises `InvalidValue` when the result held has no offer.  For an instance of the class
this cannot happen while `done = false`, provided `reset` does not finish the shop (`ResetLive`):

* after a step, `done = false` means the result is successful and the shop is not finished, so by
  the progress theorem (`envReach_good`) an offer is held;
* after `reset` the result is successful (`envReset_of_stepTotal`).

With unordered pre-buffers and at least one job `ResetLive` holds: the timed loop never starts a setup
on its own (`smStep_starts_nothing`), a job that lies in an output buffer has all its operations done
(`RouteInv.delivered`), and every job has an operation.  With ordered pre-buffers operations can start
inside `reset` (teleports, then the machine takes the job); there it stays a hypothesis.
-/

namespace JSL

variable {orc : Oracle} {inst : Instance}

theorem FlexInst.preFlex (h : FlexInst inst) : PreFlex inst :=
  fun _ hmc => h _ (mem_allBufCfgs_of_machine hmc).1

def ResetLive (orc : Oracle) (inst : Instance) (ec : EnvCfg) (s0 : State) : Prop :=
  ∀ r e mic, envReset orc inst ec s0 r = .ok (e, mic) → isDone inst e.res.state = false

theorem reset_not_doneT {cfg : SMConfig} {fuel : Nat} {s0 : State} (hst : Start orc inst s0) (hO : JobsHaveOps inst)
    (hflex : PreFlex inst) (hJ : inst.jobs ≠ []) {r r' : Rng} {res : SMResult} {mic : List State}
    (h : smStep orc inst cfg fuel s0 r noOpAction = .ok (res, r', mic)) : isDone inst res.state = false := by
  obtain ⟨w, hI0⟩ := initOKB_sound hst.init
  have nn := nonnegB_sound hst.samples hst.nonneg
  have hidle0 : ∀ j ∈ s0.jobs, ∀ o ∈ j.ops, o.st = .idle := by
    have := hst.rest
    simp only [restB, Bool.and_eq_true, List.all_eq_true, beq_iff_eq] at this
    exact this.1.2
  -- nothing has been started
  have hidle : ∀ j ∈ res.state.jobs, ∀ o ∈ j.ops, o.st = .idle := by
    intro j hj o ho
    apply Classical.byContradiction
    intro hn
    obtain ⟨j0, hj0, _, o0, ho0, _, _, hn0⟩ :=
      (smStep_starts_nothing w nn hflex hI0 (restB_sound hst.rest) admissible_noOp NoSetup.nil h).1 j hj o ho hn
    exact hn0 (hidle0 j0 hj0 o0 ho0)
  have hri := (smStep_resInv hst OccursF.init admissible_noOp (Or.inl rfl) h).1
  have hs := hri.struct.shape
  cases hjobs : res.state.jobs with
  | nil =>
    exfalso
    have := hs.jobIds
    rw [hjobs] at this
    simp at this
    exact hJ this
  | cons j js =>
    have hj : j ∈ res.state.jobs := by rw [hjobs]; simp
    obtain ⟨jc, hjc, hk⟩ := hs.job_cfg hj
    simp only [jKey, jcKey, Prod.mk.injEq] at hk
    cases hops : j.ops with
    | nil =>
      exfalso
      have := hk.2
      rw [hops] at this
      simp at this
      exact hO jc hjc this
    | cons o os =>
      have ho : o ∈ j.ops := by rw [hops]; simp
      have hoi : o.st = .idle := hidle j hj o ho
      have hnot : j.loc ∉ outputIds inst := by
        intro hout
        have := hri.full.route.delivered j hj hout o ho
        rw [hoi] at this
        cases this
      exact Bool.eq_false_iff.mpr fun hd => hnot (isDone_iff.mp hd j hj)

theorem resetLive_of_preFlex {ec : EnvCfg} {s0 : State} (hst : Start orc inst s0) (hO : JobsHaveOps inst)
    (hflex : PreFlex inst) (hJ : inst.jobs ≠ []) : ResetLive orc inst ec s0 := by
  intro r e mic hr
  obtain ⟨res, r', h, rfl⟩ := envReset_ok hr
  exact reset_not_doneT hst hO hflex hJ h

theorem envReach_live {ec : EnvCfg} {st : RewardStatic} {s0 : State} {E : Prop} (H : StepTotal orc inst ec.sm ec.fuel s0 E)
    (hL : ResetLive orc inst ec s0) {e : EnvState} (h : EnvReach orc inst ec st s0 e) (hd : e.done = false) :
    e.res.success = true ∧ isDone inst e.res.state = false := by
  cases h with
  | @reset r e mic hr =>
    refine ⟨?_, hL r e mic hr⟩
    rcases envReset_of_stepTotal H r with ⟨e', mic', hr', hsuc⟩ | ⟨_, herr⟩
    · rw [hr] at hr'
      simp only [Except.ok.injEq, Prod.mk.injEq] at hr'
      rw [hr'.1]; exact hsuc
    · rw [hr] at herr; cases herr
  | @step e0 a out _ hs =>
    obtain ⟨_, res', mw, r, mic, rew, cnt, _, _, rfl, _, rfl⟩ := envStep_ok hs
    by_cases hsuc : res'.success = true
    · simp only [hsuc, if_true, Bool.or_eq_false_iff] at hd ⊢
      exact ⟨trivial, hd.1⟩
    · simp [hsuc] at hd

theorem envReach_has_offer {ec : EnvCfg} {st : RewardStatic} {s0 : State} {E : Prop} (hst : Start orc inst s0)
    (hF : PickFlex inst) (hA : HasAgv inst) (H : StepTotal orc inst ec.sm ec.fuel s0 E) (hL : ResetLive orc inst ec s0)
    {e : EnvState} (h : EnvReach orc inst ec st s0 e) (hd : e.done = false) : e.res.possible ≠ [] := by
  obtain ⟨hs, hnd⟩ := envReach_live H hL h hd
  exact (envReach_good hst hF hA h).offers hs hnd

end JSL
