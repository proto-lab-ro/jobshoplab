import JSL.Inv.Feasible
import JSL.Inv.TimeStep
import JSL.Inv.RoutePass
import JSL.Inv.TravelPass
import JSL.Lib.StepSpec
import JSL.Inv.StartGe
import JSL.Inv.Stamp

/-!
# Environment-level reachability

`EnvReach` are the environment states of all episodes: `reset`, then any sequence of agent
actions (0, 1 or anything outside the action space – those raise and leave the episode where it
was).  Everything the middleware submits to the state machine is admissible, so the schedule and
structure invariants hold at every state the environment exposes.
-/

namespace JSL

variable {orc : Oracle} {inst : Instance}

/-- what a middleware step returns: the offers without their head and nothing else; or the result
of one state-machine step on the current state, with the head offer, or with nothing and a forced
jump, and the counters of the middleware accordingly -/
theorem mwStep_spec {cfg : SMConfig} {mc : MwCfg} {fuel : Nat} {res : SMResult} {m : MwState} {r : Rng}
    {a : AgentAct} {out : SMResult × MwState × Rng × List State}
    (h : mwStep orc inst cfg mc fuel res m r a = .ok out) :
    (∃ o o' rest, a = .decline ∧ res.possible = o :: o' :: rest ∧
      out = ({ res with action := noOpAction, success := true, done := false, possible := o' :: rest },
        m.addOp noOpAction, r, [])) ∨
    (∃ o rest res' r' mic, a = .accept ∧ res.possible = o :: rest ∧
      smStep orc inst cfg fuel res.state r { transitions := [o], noOp := false, tm := .jumpToEvent } = .ok (res', r', mic) ∧
      out = (res', { m with actCnt := m.actCnt + 1 }, r', mic)) ∨
    (∃ o res' r' mic, a = .decline ∧ res.possible = [o] ∧
      smStep orc inst cfg fuel res.state r { noOpAction with tm := .forceJump } = .ok (res', r', mic) ∧
      (res'.possible = [] → isDone inst res'.state = true) ∧
      out = (res', if res'.possible = [] then m.addOp noOpAction else
        { joker := if mc.truncActive = true ∧ m.actCnt = 0 then m.joker - 1 else m.joker, noOpCnt := 1, actCnt := 0 },
        r', mic)) := by
  unfold mwStep interpret at h
  cases hp : res.possible with
  | nil => simp [hp] at h
  | cons o rest =>
    cases a with
    | outside => simp [hp] at h
    | accept =>
      simp only [hp, except_pure, except_bind_ok, MwState.addOp] at h
      obtain ⟨⟨res', r', mic⟩, hs, h⟩ := except_bind_eq_ok h
      simp at h; subst h
      exact Or.inr (Or.inl ⟨o, rest, res', r', mic, rfl, rfl, hs, rfl⟩)
    | decline =>
      simp only [hp, except_pure, except_bind_ok, noOpAction, MwState.addOp, if_true, noOpResult] at h
      cases rest with
      | cons o' rest' =>
        simp at h; subst h
        exact Or.inl ⟨o, o', rest', rfl, rfl, rfl⟩
      | nil =>
        simp only at h
        obtain ⟨⟨res', r', mic⟩, hs, h⟩ := except_bind_eq_ok h
        refine Or.inr (Or.inr ⟨o, res', r', mic, rfl, rfl, hs, ?_⟩)
        simp only [List.isEmpty_iff] at h
        by_cases he : res'.possible = []
        · simp only [he, if_true] at h
          split at h
          · simp at h; subst h; simp [*, noOpAction, MwState.addOp]
          · simp at h
        · simp only [he, if_false] at h
          simp at h; subst h
          simp [he, apply_ite MwState.joker]

/-- the same without the counters: the head offer dropped, or one state-machine step with an
action that is the head offer, or nothing with a forced jump -/
theorem mwStep_cases {cfg : SMConfig} {mc : MwCfg} {fuel : Nat} {res : SMResult} {m : MwState} {r : Rng}
    {a : AgentAct} {out : SMResult × MwState × Rng × List State}
    (h : mwStep orc inst cfg mc fuel res m r a = .ok out) :
    (∃ o o' rest, a = .decline ∧ res.possible = o :: o' :: rest ∧ out.1.state = res.state ∧
        out.1.subStates = res.subStates ∧ out.1.possible = o' :: rest ∧ out.1.success = true ∧
        out.1.done = false ∧ out.2.2.2 = [] ∧ out.2.2.1 = r) ∨
    (∃ act, (∀ tr ∈ act.transitions, tr ∈ res.possible.head?) ∧
        ((a = .accept ∧ act.tm = .jumpToEvent ∧ act.transitions = res.possible.take 1 ∧ res.possible ≠ []) ∨
         (a = .decline ∧ act.tm = .forceJump ∧ act.transitions = [] ∧ res.possible.length = 1)) ∧
        smStep orc inst cfg fuel res.state r act = .ok (out.1, out.2.2.1, out.2.2.2)) := by
  rcases mwStep_spec h with ⟨o, o', rest, ha, hp, rfl⟩ | ⟨o, rest, res', r', mic, ha, hp, hs, rfl⟩ |
    ⟨o, res', r', mic, ha, hp, hs, _, rfl⟩
  · exact Or.inl ⟨o, o', rest, ha, hp, rfl, rfl, rfl, rfl, rfl, rfl, rfl⟩
  · exact Or.inr ⟨_, by simp [hp], Or.inl ⟨ha, rfl, by simp [hp], by simp [hp]⟩, hs⟩
  · exact Or.inr ⟨_, by simp [noOpAction], Or.inr ⟨ha, rfl, rfl, by simp [hp]⟩, hs⟩

inductive EnvReach (orc : Oracle) (inst : Instance) (ec : EnvCfg) (st : RewardStatic) (s0 : State) :
    EnvState → Prop
  | reset {r e mic} : envReset orc inst ec s0 r = .ok (e, mic) → EnvReach orc inst ec st s0 e
  | step {e a out} : EnvReach orc inst ec st s0 e → envStep orc inst ec st e a = .ok out →
      EnvReach orc inst ec st s0 out.env

/-- states exposed during an episode: the state of every environment state, its sub-states, and
the post-state of every transition applied inside a step -/
inductive Exposed (orc : Oracle) (inst : Instance) (ec : EnvCfg) (st : RewardStatic) (s0 : State) :
    State → Prop
  | state {e} : EnvReach orc inst ec st s0 e → Exposed orc inst ec st s0 e.res.state
  | sub {e σ} : EnvReach orc inst ec st s0 e → σ ∈ e.res.subStates → Exposed orc inst ec st s0 σ
  | resetMicro {r e mic σ} : envReset orc inst ec s0 r = .ok (e, mic) → σ ∈ mic → Exposed orc inst ec st s0 σ
  | micro {e a out σ} : EnvReach orc inst ec st s0 e → envStep orc inst ec st e a = .ok out → σ ∈ out.micro →
      Exposed orc inst ec st s0 σ

variable {cfg : SMConfig}

/-- what a pass gives for a result: its invariant in the state up to the final stamp of the clock,
and in every sub-state -/
structure ResPass (ps : Pass orc inst cfg) (res : SMResult) : Prop where
  fin : ∃ t, ps.P { res.state with time := t }
  subs : ∀ σ ∈ res.subStates, ps.P σ

theorem smStep_resPass (ps : Pass orc inst cfg) {s0 s : State} (hst : Start orc inst s0) (h0 : ps.P s0)
    (hadm : ∀ s a, Admissible a → AdmOffer inst cfg s a → ps.Adm s a) (h : OccursF orc inst cfg s0 s)
    {a : Action} (ha : Admissible a) (ho : AdmOffer inst cfg s a) {fuel : Nat} {r r' : Rng} {res : SMResult}
    {mic : List State} (hstep : smStep orc inst cfg fuel s r a = .ok (res, r', mic)) :
    ResPass ps res ∧ ∀ σ ∈ mic, ps.P σ := by
  obtain ⟨w, hI, hS⟩ := occursA_inv hst h.toA
  have hs := ps.smStep w hst.nn hI hS (occursF_pass ps hst h0 hadm h) ha (hadm _ _ ha ho) hstep
  exact ⟨⟨hs.2.2.1, hs.2.1⟩, hs.1⟩

/-- what is known about a result the environment holds -/
structure ResInv (orc : Oracle) (inst : Instance) (cfg : SMConfig) (s0 : State) (res : SMResult) : Prop where
  struct : StructInv inst res.state
  sched : ∃ t, SchedInv { res.state with time := t }
  subs : ∀ σ ∈ res.subStates, StructInv inst σ ∧ SchedInv σ
  dur : DurInv inst res.state
  subsDur : ∀ σ ∈ res.subStates, DurInv inst σ
  agv : AgvInv res.state
  subsAgv : ∀ σ ∈ res.subStates, AgvInv σ
  full : AgvFull inst res.state
  subsFull : ∀ σ ∈ res.subStates, AgvFull inst σ
  travel : TravelStart inst res.state
  subsTravel : ∀ σ ∈ res.subStates, TravelStart inst σ
  /-- no recorded start lies before the start of the episode -/
  starts : ∀ j ∈ res.state.jobs, ∀ o ∈ j.ops, o.st ≠ .idle → ∀ a, o.start = some a → s0.time ≤ a
  /-- a successful result with every job delivered has its clock at the last end -/
  stamp : res.success = true → isDone inst res.state = true → Stamped res.state
  /-- while there are offers, not every job is delivered -/
  notDone : res.possible ≠ [] → isDone inst res.state = false
  liveF : res.possible ≠ [] → OccursF orc inst cfg s0 res.state
  live : res.possible ≠ [] → OccursA orc inst cfg s0 res.state ∧ (∀ tr ∈ res.possible, OfferShaped tr)
  /-- while there are offers, nothing is due -/
  quiet : res.possible ≠ [] → Quiet inst res.state
  /-- the offers held are (a rest of) the offers computed from the state held -/
  offersFrom : res.possible ≠ [] → ∃ poss, possibleTransitions inst cfg res.state = .ok poss ∧
    ∀ tr ∈ res.possible, tr ∈ poss

theorem smStep_resInv {s0 s : State} (hst : Start orc inst s0) (hF : OccursF orc inst cfg s0 s)
    {a : Action} (ha : Admissible a) (hadm : AdmOffer inst cfg s a) {fuel : Nat} {r r' : Rng}
    {res : SMResult} {mic : List State} (hstep : smStep orc inst cfg fuel s r a = .ok (res, r', mic)) :
    ResInv orc inst cfg s0 res ∧ ∀ σ ∈ mic, StructInv inst σ ∧ SchedInv σ ∧ DurInv inst σ ∧ AgvFull inst σ ∧ TravelStart inst σ := by
  have h := hF.toA
  obtain ⟨w, hI0, hS0⟩ := occursA_inv hst h
  have nn := hst.nn
  obtain ⟨hI, hS⟩ := final_inv hst h ha hstep
  obtain ⟨⟨⟨_, hD⟩, hDs⟩, hDm⟩ := smStep_resPass (DurPass orc inst cfg w nn) hst (DurInv.of_rest hst.rest)
    (fun _ _ ha _ => ha.shaped) hF ha hadm hstep
  obtain ⟨⟨⟨_, hT⟩, hTs⟩, hTm⟩ := smStep_resPass (TravelPass orc inst cfg w) hst
    ⟨AgvFull.of_rest hst.rest hst.placed, TravelInv.of_rest hst.rest⟩ (fun _ _ _ ho => ho) hF ha hadm hstep
  obtain ⟨⟨⟨_, hG⟩, _⟩, _⟩ := smStep_resPass (StartPass orc inst cfg w s0.time) hst (StartGe.of_rest hst.rest)
    (fun _ _ _ _ => trivial) hF ha hadm hstep
  have hfull := AgvFull.of_time hT.full
  have hoff : res.possible ≠ [] → res.success = true ∧ res.done = false ∧ isDone inst res.state = false ∧
      possibleTransitions inst cfg res.state = .ok res.possible := by
    intro hne
    rcases (smStep_spec hstep).2 with h1 | h1 | h1
    · exact absurd h1.2.2.2 hne
    · exact absurd h1.2.2.1 hne
    · exact h1
  refine ⟨⟨hI, hS, fun σ hσ => (occursA_inv hst (OccursA.sub h ha hstep hσ)).2, DurInv.of_time hD, hDs,
      hfull.agv, fun σ hσ => (hTs σ hσ).full.agv, hfull, fun σ hσ => (hTs σ hσ).full,
      fun j hj => (hT.travel j hj).start, fun σ hσ => (hTs σ hσ).travel.toStart, hG.starts, ?_,
      fun hne => (hoff hne).2.2.1, fun hne => OccursF.result hF ha hadm hstep (hoff hne).2.1,
      fun hne => ⟨OccursA.result h ha hstep (hoff hne).2.1, offers_offerShaped (hoff hne).2.2.2⟩,
      fun hne => (smStep_clock w nn hI0 hS0 ha hstep).2.2.2.1 (hoff hne).1 (hoff hne).2.1,
      fun hne => ⟨res.possible, (hoff hne).2.2.2, fun _ htr => htr⟩⟩,
    fun σ hσ => ⟨(occursA_inv hst (OccursA.micro h ha hstep hσ)).2.1, (occursA_inv hst (OccursA.micro h ha hstep hσ)).2.2,
      hDm σ hσ, (hTm σ hσ).full, (hTm σ hσ).travel.toStart⟩⟩
  intro hsuc hd
  rcases (smStep_spec hstep).2 with h1 | h1 | h1
  · rw [h1.1] at hsuc; cases hsuc
  · exact smStep_done_stamp hstep h1.2.1
  · rw [h1.2.2.1] at hd; cases hd

theorem admissible_noOp : Admissible noOpAction := ⟨fun _ h => by simp [noOpAction] at h, by simp [noOpAction]⟩

theorem ResInv.drop {s0 : State} {res : SMResult} (hi : ResInv orc inst cfg s0 res) {o o' : Transition}
    {rest : List Transition} (hp : res.possible = o :: o' :: rest) :
    ResInv orc inst cfg s0 { res with action := noOpAction, success := true, done := false, possible := o' :: rest } := by
  have hne : res.possible ≠ [] := by rw [hp]; simp
  have hsub : ∀ tr ∈ o' :: rest, tr ∈ res.possible := fun tr htr => by rw [hp]; exact List.mem_cons_of_mem _ htr
  have hnd := hi.notDone hne
  obtain ⟨poss, hposs, hfrom⟩ := hi.offersFrom hne
  exact ⟨hi.struct, hi.sched, hi.subs, hi.dur, hi.subsDur, hi.agv, hi.subsAgv, hi.full, hi.subsFull, hi.travel,
    hi.subsTravel, hi.starts, fun _ hd => (by rw [hnd] at hd; cases hd), fun _ => hnd, fun _ => hi.liveF hne,
    fun _ => ⟨(hi.live hne).1, fun tr htr => (hi.live hne).2 tr (hsub tr htr)⟩, fun _ => hi.quiet hne,
    fun _ => ⟨poss, hposs, fun tr htr => hfrom tr (hsub tr htr)⟩⟩

/-- a middleware step from a result the environment holds: it held offers, and either the head
offer is dropped and nothing else happens, or the state machine takes one step with an admissible
action that is empty or on offer -/
theorem mwStep_adm {s0 : State} {mc : MwCfg} {fuel : Nat} {res : SMResult} {m : MwState} {r : Rng} {a : AgentAct}
    {out : SMResult × MwState × Rng × List State} (hi : ResInv orc inst cfg s0 res)
    (h : mwStep orc inst cfg mc fuel res m r a = .ok out) :
    res.possible ≠ [] ∧
    ((∃ o o' rest, res.possible = o :: o' :: rest ∧
        out = ({ res with action := noOpAction, success := true, done := false, possible := o' :: rest },
          m.addOp noOpAction, r, [])) ∨
     ∃ act, Admissible act ∧ AdmOffer inst cfg res.state act ∧
        smStep orc inst cfg fuel res.state r act = .ok (out.1, out.2.2.1, out.2.2.2)) := by
  rcases mwStep_spec h with ⟨o, o', rest, _, hp, rfl⟩ | ⟨o, rest, res', r', mic, _, hp, hs, rfl⟩ |
    ⟨o, res', r', mic, _, hp, hs, _, rfl⟩
  · exact ⟨by rw [hp]; simp, Or.inl ⟨o, o', rest, hp, rfl⟩⟩
  · have hne : res.possible ≠ [] := by rw [hp]; simp
    obtain ⟨poss, hposs, hfrom⟩ := hi.offersFrom hne
    have ho : o ∈ res.possible := by rw [hp]; simp
    refine ⟨hne, Or.inr ⟨_, ⟨fun tr htr => ?_, by simp⟩, Or.inr ⟨poss, hposs, o, hfrom o ho, rfl⟩, hs⟩⟩
    rw [List.mem_singleton.mp htr]
    exact (hi.live hne).2 o ho
  · exact ⟨by rw [hp]; simp, Or.inr ⟨_, ⟨fun _ htr => (by cases htr), by simp [noOpAction]⟩, Or.inl rfl, hs⟩⟩

/-- how a predicate `R` on results, with a predicate `Q` on the states passed through, is carried by a
step of the environment: dropping the head offer keeps it, and so does a state-machine step with an
admissible action that is empty or on offer -/
structure EnvStepLift (orc : Oracle) (inst : Instance) (cfg : SMConfig) (s0 : State) (R : SMResult → Prop)
    (Q : State → Prop) : Prop where
  drop : ∀ {res o o' rest}, R res → res.possible = o :: o' :: rest →
    R { res with action := noOpAction, success := true, done := false, possible := o' :: rest }
  step : ∀ {res a fuel r res' r' mic}, ResInv orc inst cfg s0 res → R res → res.possible ≠ [] → Admissible a →
    AdmOffer inst cfg res.state a → smStep orc inst cfg fuel res.state r a = .ok (res', r', mic) →
    R res' ∧ ∀ σ ∈ mic, Q σ

/-- … and along the episodes: `reset` establishes it -/
structure EnvLift (orc : Oracle) (inst : Instance) (cfg : SMConfig) (s0 : State) (R : SMResult → Prop)
    (Q : State → Prop) : Prop extends EnvStepLift orc inst cfg s0 R Q where
  init : ∀ {fuel r res r' mic}, smStep orc inst cfg fuel s0 r noOpAction = .ok (res, r', mic) → R res ∧ ∀ σ ∈ mic, Q σ

section
variable {ec : EnvCfg} {st : RewardStatic} {s0 : State} {R : SMResult → Prop} {Q : State → Prop}

theorem EnvLift.reset (L : EnvLift orc inst ec.sm s0 R Q) {r : Rng} {e : EnvState} {mic : List State}
    (h : envReset orc inst ec s0 r = .ok (e, mic)) : R e.res ∧ ∀ σ ∈ mic, Q σ := by
  obtain ⟨res, r', hs, rfl⟩ := envReset_ok h
  exact L.init hs

theorem EnvStepLift.envStep (L : EnvStepLift orc inst ec.sm s0 R Q) {e : EnvState} (hi : ResInv orc inst ec.sm s0 e.res)
    (hr : R e.res) {a : AgentAct} {out : StepOut} (h : envStep orc inst ec st e a = .ok out) :
    R out.env.res ∧ ∀ σ ∈ out.micro, Q σ := by
  obtain ⟨_, res', mw, r, mic, rew, cnt, _, hm, rfl, _, rfl⟩ := envStep_ok h
  have key : R res' ∧ ∀ σ ∈ mic, Q σ := by
    obtain ⟨hne, ⟨o, o', rest, hp, ⟨⟩⟩ | ⟨act, ha, hadm, hs⟩⟩ := mwStep_adm hi hm
    · exact ⟨L.drop hr hp, fun _ hσ => by cases hσ⟩
    · exact L.step hi hr hne ha hadm hs
  -- a failed step leaves the result held as it was
  by_cases hsuc : res'.success = true
  · simp only [hsuc, if_true]; exact key
  · simp only [hsuc]
    exact ⟨hr, key.2⟩

end

theorem resInv_lift {s0 : State} (hst : Start orc inst s0) : EnvLift orc inst cfg s0 (ResInv orc inst cfg s0)
    (fun σ => StructInv inst σ ∧ SchedInv σ ∧ DurInv inst σ ∧ AgvFull inst σ ∧ TravelStart inst σ) where
  init := smStep_resInv hst OccursF.init admissible_noOp (Or.inl rfl)
  drop := fun hi hp => hi.drop hp
  step := fun hi _ hne ha hadm hs => smStep_resInv hst (hi.liveF hne) ha hadm hs

theorem envReset_inv {ec : EnvCfg} {s0 : State} (hst : Start orc inst s0) {r : Rng} {e : EnvState} {mic : List State}
    (h : envReset orc inst ec s0 r = .ok (e, mic)) :
    ResInv orc inst ec.sm s0 e.res ∧ ∀ σ ∈ mic, StructInv inst σ ∧ SchedInv σ ∧ DurInv inst σ ∧ AgvFull inst σ ∧ TravelStart inst σ :=
  (resInv_lift hst).reset h

theorem envReach_inv {ec : EnvCfg} {st : RewardStatic} {s0 : State} (hst : Start orc inst s0) {e : EnvState}
    (h : EnvReach orc inst ec st s0 e) : ResInv orc inst ec.sm s0 e.res := by
  induction h with
  | reset h => exact ((resInv_lift hst).reset h).1
  | step _ h ih => exact ((resInv_lift hst).envStep ih ih h).1

section
variable {ec : EnvCfg} {st : RewardStatic} {s0 : State} {R : SMResult → Prop} {Q : State → Prop}

theorem EnvLift.reach (L : EnvLift orc inst ec.sm s0 R Q) (hst : Start orc inst s0) {e : EnvState}
    (h : EnvReach orc inst ec st s0 e) : R e.res := by
  induction h with
  | reset h => exact (L.reset h).1
  | step he h ih => exact (L.envStep (envReach_inv hst he) ih h).1

theorem EnvLift.exposed (L : EnvLift orc inst ec.sm s0 R Q) (hst : Start orc inst s0)
    (hsub : ∀ res, R res → ∀ σ ∈ res.subStates, Q σ) {σ : State} (h : Exposed orc inst ec st s0 σ) :
    (∃ res, R res ∧ σ = res.state) ∨ Q σ := by
  cases h with
  | state he => exact Or.inl ⟨_, L.reach hst he, rfl⟩
  | sub he hσ => exact Or.inr (hsub _ (L.reach hst he) σ hσ)
  | resetMicro hr hσ => exact Or.inr ((L.reset hr).2 σ hσ)
  | micro he hs hσ => exact Or.inr ((L.envStep (envReach_inv hst he) (L.reach hst he) hs).2 σ hσ)

end

/-- **Every exposed state** satisfies the structural invariants, the duration, AGV, route and travel
invariants and, up to the final stamp of the clock, the schedule invariant. -/
theorem exposed_all {ec : EnvCfg} {st : RewardStatic} {s0 σ : State} (hst : Start orc inst s0)
    (h : Exposed orc inst ec st s0 σ) :
    StructInv inst σ ∧ (∃ t, SchedInv { σ with time := t }) ∧ DurInv inst σ ∧ AgvFull inst σ ∧ TravelStart inst σ := by
  rcases (resInv_lift hst).exposed hst (fun _ hi σ hσ =>
    ⟨(hi.subs σ hσ).1, (hi.subs σ hσ).2, hi.subsDur σ hσ, hi.subsFull σ hσ, hi.subsTravel σ hσ⟩) h with ⟨_, hi, rfl⟩ | hq
  · exact ⟨hi.struct, hi.sched, hi.dur, hi.full, hi.travel⟩
  · exact ⟨hq.1, ⟨σ.time, hq.2.1⟩, hq.2.2⟩

theorem exposed_inv {ec : EnvCfg} {st : RewardStatic} {s0 σ : State} (hst : Start orc inst s0)
    (h : Exposed orc inst ec st s0 σ) : WF inst ∧ StructInv inst σ ∧ ∃ t, SchedInv { σ with time := t } :=
  ⟨hst.wf, (exposed_all hst h).1, (exposed_all hst h).2.1⟩

theorem exposed_dur {ec : EnvCfg} {st : RewardStatic} {s0 σ : State} (hst : Start orc inst s0)
    (h : Exposed orc inst ec st s0 σ) : DurInv inst σ :=
  (exposed_all hst h).2.2.1

theorem exposed_agv {ec : EnvCfg} {st : RewardStatic} {s0 σ : State} (hst : Start orc inst s0)
    (h : Exposed orc inst ec st s0 σ) : AgvInv σ :=
  (exposed_all hst h).2.2.2.1.agv

theorem exposed_route {ec : EnvCfg} {st : RewardStatic} {s0 σ : State} (hst : Start orc inst s0)
    (h : Exposed orc inst ec st s0 σ) : RouteInv inst σ :=
  (exposed_all hst h).2.2.2.1.route

end JSL
