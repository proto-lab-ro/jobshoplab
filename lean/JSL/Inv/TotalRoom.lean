import JSL.Inv.TotalDefs

/-!
# Room: a buffer that does not hold job `j` holds fewer jobs than the instance has

Conservation (`StructInv`): the ids in a store are pairwise different ids of jobs located there.  So
a buffer that does not hold `j` – in particular one other than the buffer `j` lies in – holds at most all the
other jobs, and a buffer whose capacity is at least the number of jobs takes `j`.

Also here, for all the totality proofs: the configuration with a given buffer id is unique (`cfg_of_id`), and the
machine an operation record is routed to exists in the instance and in the state (`op_machine`).
-/

namespace JSL

variable {inst : Instance}

theorem store_room (w : WF inst) {s : State} (hI : StructInv inst s) {b : BufState} (hb : b ∈ allBufStates s)
    {x : Nat} (hx : ∃ j ∈ s.jobs, j.id = x) (hnot : x ∉ b.store) : (b.store.length : Int) < (inst.jobs.length : Int) := by
  have hst : storeAt s b.id = b.store := storeAt_of_mem (hI.shape.bufNodup w) hb
  have hnd : b.store.Nodup := by rw [← hst]; exact hI.cons.nodup b.id
  have hsub : (x :: b.store) ⊆ s.jobs.map (·.id) := by
    intro a ha
    rcases List.mem_cons.mp ha with rfl | ha
    · obtain ⟨j, hj, e⟩ := hx; exact List.mem_map.mpr ⟨j, hj, e⟩
    · have := hI.cons.stored b.id a (by rw [hst]; exact ha)
      rw [← locs_fst]
      exact List.mem_map.mpr ⟨(a, b.id), this, rfl⟩
  have hlen := List.Nodup.length_le_of_subset (List.nodup_cons.mpr ⟨hnot, hnd⟩) hsub
  have hjl : (s.jobs.map (·.id)).length = inst.jobs.length := by rw [hI.shape.jobIds]; simp
  simp only [List.length_cons] at hlen
  omega

theorem room_for (w : WF inst) {s : State} (hI : StructInv inst s) {j : JobState} (hj : j ∈ s.jobs)
    {b : BufState} (hb : b ∈ allBufStates s) (hne : j.loc ≠ b.id) :
    (b.store.length : Int) < (inst.jobs.length : Int) := by
  refine store_room w hI hb ⟨j, hj, rfl⟩ (fun hin => hne ?_)
  rw [← storeAt_of_mem (hI.shape.bufNodup w) hb] at hin
  exact unique_loc (hI.shape.jobsNodup w) (List.mem_map.mpr ⟨j, hj, rfl⟩) (hI.cons.stored _ _ hin)

theorem cfg_of_id (w : WF inst) {c c' : BufCfg} (hc : c ∈ allBufCfgs inst) (hc' : c' ∈ allBufCfgs inst)
    (hid : c.id = c'.id) : c = c' :=
  eq_of_mem_of_key_eq (key := fun (y : BufCfg) => y.id) w.bufNodup hc hc' hid

theorem op_machine (w : WF inst) {s : State} (hs : Shape inst s) {j : JobState} (hj : j ∈ s.jobs)
    {o : OpState} (ho : o ∈ j.ops) :
    ∃ mc ∈ inst.machines, ∃ ms ∈ s.machines, mc.id = o.machine ∧ ms.id = o.machine ∧ mKey ms = mcKey mc := by
  obtain ⟨oc, _, hoc, hm⟩ := getOpCfg_of_mem w hs hj ho
  unfold allOps at hoc
  obtain ⟨jc, hjc, hocj⟩ := List.mem_flatMap.mp hoc
  obtain ⟨mc, hmc, hid⟩ := w.opMachine jc hjc oc hocj
  obtain ⟨ms, hms, hk⟩ := mem_of_map_eq hs.machines.symm hmc
  have hk' := hk
  simp only [mKey, mcKey, Prod.mk.injEq] at hk'
  exact ⟨mc, hmc, ms, hms, by rw [hid, hm], by rw [← hk'.1, hid, hm], hk.symm⟩

end JSL
