import JSL.Inv.FuelMeasure

/-!
# One applied transition and the measure `fbM`

* `fb_wait_not_late` – after `_get_waiting_time` has been read, the AGV is not behind the machine
  that holds the job it claimed (it waits exactly until the recorded end of the operation);
* `fb_step` – a transition that is neither a machine start nor a dispatch does not raise `fbM`, and
  lowers it unless it is a `WAITINGPICKUP → WAITINGPICKUP` of an AGV that is not behind.
-/

namespace JSL

variable {orc : Oracle} {inst : Instance}

theorem fb_pick_machine_keep {ms ms' : MachineState} {i x : Nat} {bss : BSS} {bs : BufState}
    (hne : ms.pre.id ≠ ms.buffer.id ∧ ms.pre.id ≠ ms.post.id ∧ ms.buffer.id ≠ ms.post.id)
    (hb : bufOfMachine ms i = .ok bs) (h : replaceBufInMachine ms (bs.without x bss) = .ok ms') :
    ms'.id = ms.id ∧ ms'.st = ms.st ∧ ms'.occ = ms.occ ∧ ∀ y ∈ ms'.buffer.store, y ∈ ms.buffer.store := by
  rcases takeFromMachine hne hb h with ⟨_, rfl⟩ | ⟨_, rfl⟩ | ⟨_, rfl⟩
  · exact ⟨rfl, rfl, rfl, fun _ hy => hy⟩
  · exact ⟨rfl, rfl, rfl, fun _ hy => (List.mem_filter.mp hy).1⟩
  · exact ⟨rfl, rfl, rfl, fun _ hy => hy⟩

/-- **after `_get_waiting_time` the AGV is not behind**: if the job it claimed lies in the internal
buffer of a machine, the time it waits until afterwards is the machine's `occupied_till` -/
theorem fb_wait_not_late (w : WF inst) (P : Parents inst) {s : State} (hI : StructInv inst s) (hS : SchedInv s)
    {t0 : TransportState} {tr : Transition} (hjob : tr.job = t0.job) {occ : Occ}
    (hocc : getWaitingTime inst s tr = .ok occ) : fbLate s.machines (t0.toWaiting occ) = false := by
  cases hl : fbLate s.machines (t0.toWaiting occ) with
  | false => rfl
  | true =>
    exfalso
    obtain ⟨_, m, hm, x, e', e, hj', hoc', hmo, hx, hlt⟩ := fbLate_elim hl
    have hj : t0.job = some x := hj'
    have hoc : occ = .at e' := hoc'
    -- the job the transition names is the one `m` holds
    obtain ⟨j, hgj, _⟩ := getWaitingTime_spec hocc
    obtain ⟨hjm, hjx⟩ := getJobOpt_ok hgj
    rw [hjob, hj] at hjx
    cases hjx
    obtain ⟨e2, hmo2, h⟩ := getWaitingTime_held w P hI hS hm hjm hx hgj
    rw [h, hoc] at hocc
    rw [hmo] at hmo2
    cases hocc
    cases hmo2
    exact Int.lt_irrefl _ hlt

/-- the handler an AGV transition of a well-aimed batch runs reads the job the AGV claimed -/
theorem fb_aim_job {s : State} (htn : (s.transports.map (·.id)).Nodup) {tr : Transition} (haim : Aim inst s tr)
    {t0 : TransportState} (ht0 : t0 ∈ s.transports) (hc : tr.comp = .t t0.id)
    (hst : t0.st = .pickup ∨ t0.st = .waitingpickup) (hn : tr.new = .t .waitingpickup) : tr.job = t0.job := by
  obtain ⟨t, ht, hid, ns, hd, hn', hah, _, hw, _⟩ := haim.agv t0.id hc
  have : t = t0 := eq_of_mem_of_key_eq (key := fun (y : TransportState) => y.id) htn ht ht0 hid
  subst this
  rw [hn] at hn'
  injection hn' with hn'
  subst hn'
  apply hw
  rcases hst with e | e <;> rw [e] at hah <;> simp [agvHandler] at hah <;> subst hah <;> simp

/-- **one applied transition**: neither a machine start nor a dispatch.  The measure does not go up;
it goes down unless the transition is a `WAITINGPICKUP → WAITINGPICKUP` of an AGV that is not behind. -/
theorem fb_step (w : WF inst) (P : Parents inst) {s s' : State} {r r' : Rng} {tr : Transition}
    (hI : StructInv inst s) (hS : SchedInv s)
    (hu : ∀ t1 ∈ s.transports, ∀ t2 ∈ s.transports, ∀ x, t1.job = some x → t2.job = some x → t1.id = t2.id)
    (haim : Aim inst s tr) (hns : tr.new ≠ .m .setup)
    (hnd : tr.new ≠ .t .working) (h : applyTransition orc inst s r tr = .ok (s', r')) :
    fbM s' ≤ fbM s ∧
      ((∀ tid, tr.comp = .t tid → tr.new = .t .waitingpickup → ∀ t0 ∈ s.transports, t0.id = tid →
          t0.st = .waitingpickup → fbLate s.machines t0 = true) → fbM s' + 1 ≤ fbM s) := by
  have hs := hI.shape
  have hmn := hs.machNodup w
  have htn := hs.trNodup w
  have hnuOf : ∀ m0 ∈ s.machines, ∀ (M : MachineState), M.id = m0.id → m0.st ≠ .idle →
      (∀ x ∈ M.buffer.store, x ∈ m0.buffer.store) →
      s'.machines = (s.replaceMachine M).machines → s'.transports = s.transports → fbNu s' ≤ fbNu s + 1 := by
    intro m0 hm0 M hid hbusy hsub hM hT
    obtain ⟨j, _, hstore, _⟩ := hS.busyHolds m0 hm0 hbusy
    exact fbNu_machine hmn htn hm0 hid hM hT (jid := j.id)
      (fun x hx => by have := hsub x hx; rw [hstore] at this; simpa using this) hu
  have same : ∀ t, fbLate s.machines t = true → fbLate s.machines t = true := fun _ h => h
  cases applyTransition_cases h with
  | idleToSetup _ _ _ _ hn _ => exact absurd hn hns
  | setupToWorking m0 hm0 _ hst _ hh =>
    obtain ⟨j, op, oc, d, _, _, _, _, _, _, _, _, hs'⟩ := setupToWorking_spec hh
    have key := fbM_machine (S := s') (M := m0.toWorking (s.time + d)) hmn hm0 (by rfl) (by subst hs'; rfl)
      (by subst hs'; rfl) (by simp [MachineState.toWorking, hst, stageM])
      (hnuOf m0 hm0 (m0.toWorking (s.time + d)) (by rfl) (by rw [hst]; decide) (fun x hx => hx) (by subst hs'; rfl)
        (by subst hs'; rfl))
    exact ⟨by omega, fun _ => key⟩
  | workingToOutage m0 hm0 _ hst _ hh =>
    obtain ⟨mc, outs, j, op, _, _, _, _, _, _, hs'⟩ := workingToOutage_spec hh
    have key := fbM_machine (S := s') (M := m0.toOutage outs (s.time + occupiedFor outs)) hmn hm0 (by rfl)
      (by subst hs'; rfl) (by subst hs'; rfl) (by simp [MachineState.toOutage, hst, stageM])
      (hnuOf m0 hm0 (m0.toOutage outs (s.time + occupiedFor outs)) (by rfl) (by rw [hst]; decide) (fun x hx => hx)
        (by subst hs'; rfl) (by subst hs'; rfl))
    exact ⟨by omega, fun _ => key⟩
  | outageToIdle m0 hm0 _ hst _ hh =>
    obtain ⟨j, op, mc, rest, bss1, bss2, _, _, _, _, _, _, _, hs'⟩ := outageToIdle_spec hh
    have key := fbM_machine (S := s') (M := m0.toIdle j.id bss1 bss2) hmn hm0 (by rfl) (by subst hs'; rfl)
      (by subst hs'; rfl) (by simp [MachineState.toIdle, hst, stageM])
      (hnuOf m0 hm0 (m0.toIdle j.id bss1 bss2) (by rfl) (by rw [hst]; decide)
        (fun x hx => by
          simp only [MachineState.toIdle, BufState.without_store] at hx
          exact (List.mem_filter.mp hx).1) (by subst hs'; rfl) (by subst hs'; rfl))
    exact ⟨by omega, fun _ => key⟩
  | idleToWorking _ _ _ _ hn _ => exact absurd hn hnd
  | pickupToWaiting t0 ht0 hc hst hn hh =>
    obtain ⟨occ, hocc, _, _, rfl⟩ := pickupToWaiting_spec hh
    have hjob := fb_aim_job htn haim ht0 hc (Or.inl hst) hn
    have key := fbM_transport_down (T := t0.toWaiting occ) htn ht0 rfl rfl rfl same
      (by rw [hst]; exact Nat.le_refl 4) (fb_wait_not_late w P hI hS hjob hocc)
    exact ⟨by omega, fun _ => key⟩
  | waitingToWaiting t0 ht0 hc hst hn hh =>
    obtain ⟨occ, hocc, _, rfl⟩ := waitingToWaiting_spec hh
    have hjob := fb_aim_job htn haim ht0 hc (Or.inr hst) hn
    -- the stage stays; the AGV is not behind afterwards
    have := fbM_transport (T := t0.toWaiting occ) htn ht0 rfl rfl rfl same
    have hnl : fbLate (s.replaceTransport (t0.toWaiting occ)).machines (t0.toWaiting occ) = false :=
      fb_wait_not_late w P hI hS hjob hocc
    have e2 : fbStageT (t0.toWaiting occ).st = fbStageT TSt.waitingpickup := rfl
    rw [hnl, hst, e2, Bool.toNat_false] at this
    refine ⟨by omega, fun hl => ?_⟩
    rw [hl t0.id hc hn t0 ht0 rfl hst, Bool.toNat_true] at this
    omega
  | pickupToTransit t0 ht0 _ hst _ hh =>
    obtain ⟨j2, src, dst, tt, bss1, bss2, _, _, _, _, _, hcase⟩ := pickupToTransit_spec hh
    have h3 : 3 ≤ fbStageT t0.st := by rcases hst with e | e <;> rw [e] <;> decide
    have key : fbM s' + 1 ≤ fbM s := by
      rcases hcase with ⟨fb, _, _, _, _, _, rfl⟩ | ⟨mid, ms, bs, ms', _, _, hms, _, hbuf, _, hrep, rfl⟩
      · exact fbM_transport_down (T := t0.toTransit (s.time + tt) j2.id bss2) htn ht0 rfl rfl rfl same h3
          (fbLate_off nofun)
      · obtain ⟨k1, k2, k3, k4⟩ := fb_pick_machine_keep (machine_buf_ids_ne hs w hms) hbuf hrep
        obtain ⟨hM1, hM2⟩ := fb_machines_keep hmn hms k1 k2 k3 k4 rfl
        exact fbM_transport_down (T := t0.toTransit (s.time + tt) j2.id bss2) htn ht0 rfl rfl hM1 hM2 h3
          (fbLate_off nofun)
    exact ⟨by omega, fun _ => key⟩
  | transitToOutage t0 ht0 _ hst _ hh =>
    obtain ⟨j2, cur, pick, drop, tc, outs, bss1, bss2, _, _, _, _, _, _, _, hcase⟩ := transitToOutage_spec hh
    have h2 : 2 ≤ fbStageT t0.st := by rcases hst with e | e <;> rw [e] <;> decide
    have key : fbM s' + 1 ≤ fbM s := by
      rcases hcase with ⟨mid, ms, _, hms, _, _, rfl⟩ | ⟨bid, b, _, _, _, _, rfl⟩
      · obtain ⟨hM1, hM2⟩ := fb_machines_keep (ms' := ms.withPre j2.id bss2) hmn hms rfl rfl rfl (fun y hy => hy) rfl
        exact fbM_transport_down (T := t0.toOutage j2.id bss1 outs (s.time + occupiedFor outs) drop) htn ht0 rfl rfl
          hM1 hM2 h2 (fbLate_off nofun)
      · exact fbM_transport_down (T := t0.toOutage j2.id bss1 outs (s.time + occupiedFor outs) drop) htn ht0 rfl rfl
          rfl same h2 (fbLate_off nofun)
    exact ⟨by omega, fun _ => key⟩
  | agvOutageToIdle t0 ht0 _ hst _ hh =>
    obtain ⟨_, rfl⟩ := agvOutageToIdle_spec hh
    have key := fbM_transport_down (T := t0.toIdle) htn ht0 rfl rfl rfl same
      (by rw [hst]; exact Nat.le_refl 1) (fbLate_off nofun)
    exact ⟨by omega, fun _ => key⟩

end JSL
