import JSL.Inv.SchedStep

/-! The time machines `force_jump_to_event` / `jump_to_event` move time to an instant that is not
before now and not after any pending end – exactly the earliest pending end when something is
pending, one unit ahead when nothing is. -/

namespace JSL

variable {inst : Instance}

/-- `force_jump_to_event` returns the earliest pending end – the end of a running operation or the
fixed time of a busy AGV – and the next instant when nothing is pending -/
theorem forceJump_ok {s : State} {t : Int} (h : forceJump s = .ok t) : ∃ ends : List Int,
    (∀ b, b ∈ ends ↔ (∃ j ∈ s.jobs, ∃ o ∈ j.ops, o.st = .processing ∧ o.stop = some b) ∨
      (∃ x ∈ s.transports, x.st ≠ .idle ∧ x.occ = .at b)) ∧
    ((ends = [] ∧ t = s.time + 1) ∨ (t ∈ ends ∧ ∀ b ∈ ends, t ≤ b)) := by
  unfold forceJump at h
  obtain ⟨pe, hpe, h⟩ := except_bind_eq_ok h
  obtain ⟨te, hte, h⟩ := except_bind_eq_ok h
  refine ⟨pe ++ te, fun b => ?_, ?_⟩
  · rw [List.mem_append, mem_mapM_ok hpe, mem_mapM_ok hte]
    apply or_congr
    · constructor
      · rintro ⟨o, ho, e⟩
        obtain ⟨ho, hst⟩ := List.mem_filter.mp ho
        obtain ⟨j, hj, hoj⟩ := List.mem_flatMap.mp ho
        cases hs : o.stop with
        | none => simp [hs] at e
        | some c => simp [hs] at e; exact ⟨j, hj, o, hoj, by simpa using hst, e ▸ hs⟩
      · rintro ⟨j, hj, o, ho, hst, hs⟩
        exact ⟨o, List.mem_filter.mpr ⟨List.mem_flatMap.mpr ⟨j, hj, ho⟩, by simp [hst]⟩, by simp [hs]⟩
    · constructor
      · rintro ⟨x, hx, e⟩
        obtain ⟨hx, hc⟩ := List.mem_filter.mp hx
        simp only [Bool.and_eq_true, bne_iff_ne, ne_eq] at hc
        cases hocc : x.occ with
        | none => simp [hocc] at e
        | dep a b c => simp [hocc] at e
        | «at» c => simp [hocc] at e; exact ⟨x, hx, hc.1, e ▸ hocc⟩
      · rintro ⟨x, hx, hst, hocc⟩
        exact ⟨x, List.mem_filter.mpr ⟨hx, by simp [hst, hocc]⟩, by simp [hocc]⟩
  · cases hm1 : minList pe with
    | none =>
      rw [minList_none hm1]
      cases hm2 : minList te with
      | none => simp [hm1, hm2] at h; exact Or.inl ⟨by rw [minList_none hm2]; rfl, h.symm⟩
      | some b => simp [hm1, hm2] at h; subst h; exact Or.inr (minList_iff.mp hm2)
    | some a =>
      obtain ⟨ha, hamin⟩ := minList_iff.mp hm1
      cases hm2 : minList te with
      | none =>
        simp [hm1, hm2] at h; subst h
        rw [minList_none hm2, List.append_nil]
        exact Or.inr ⟨ha, hamin⟩
      | some b =>
        obtain ⟨hb, hbmin⟩ := minList_iff.mp hm2
        simp [hm1, hm2] at h; subst h
        refine Or.inr ⟨?_, fun c hc => ?_⟩
        · rcases Int.le_total a b with hle | hle
          · rw [Int.min_eq_left hle]; exact List.mem_append_left _ ha
          · rw [Int.min_eq_right hle]; exact List.mem_append_right _ hb
        · rcases List.mem_append.mp hc with hc | hc
          · exact Int.le_trans (Int.min_le_left a b) (hamin c hc)
          · exact Int.le_trans (Int.min_le_right a b) (hbmin c hc)

theorem SchedInv.pendingNow {s : State} (hS : SchedInv s) : PendingGe s s.time := by
  constructor
  · intro j hj o ho hst b hb
    obtain ⟨_, c, _, hc, _, _, hle⟩ := (OpsOK_mem _ _ (hS.ops j hj) o ho).2.1 hst
    rw [hb] at hc; simp at hc; subst hc; exact hle
  · exact hS.agvPending

/-- `force_jump_to_event` -/
theorem forceJump_spec {s : State} (hS : SchedInv s) {t : Int} (h : forceJump s = .ok t) :
    s.time ≤ t ∧ PendingGe s t ∧
      ((∃ j ∈ s.jobs, ∃ o ∈ j.ops, o.st = .processing ∧ o.stop = some t) ∨
       (∃ x ∈ s.transports, x.st ≠ .idle ∧ x.occ = .at t) ∨
       ((∀ j ∈ s.jobs, ∀ o ∈ j.ops, o.st ≠ .processing) ∧ (∀ x ∈ s.transports, x.st ≠ .idle → ∀ o, x.occ ≠ .at o) ∧
          t = s.time + 1)) := by
  obtain ⟨ends, hmem, hcase⟩ := forceJump_ok h
  have pe_in : ∀ j ∈ s.jobs, ∀ o ∈ j.ops, o.st = .processing → ∀ b, o.stop = some b → b ∈ ends :=
    fun j hj o ho hst b hb => (hmem b).mpr (Or.inl ⟨j, hj, o, ho, hst, hb⟩)
  have te_in : ∀ x ∈ s.transports, x.st ≠ .idle → ∀ o, x.occ = .at o → o ∈ ends :=
    fun x hx hst o ho => (hmem o).mpr (Or.inr ⟨x, hx, hst, ho⟩)
  rcases hcase with ⟨rfl, rfl⟩ | ⟨ht, hmin⟩
  · refine ⟨by omega, ⟨?_, ?_⟩, Or.inr (Or.inr ⟨?_, ?_, rfl⟩)⟩
    · intro j hj o ho hst b hb; cases pe_in j hj o ho hst b hb
    · intro x hx hst o ho; cases te_in x hx hst o ho
    · intro j hj o ho hst
      obtain ⟨_, c, _, hc, _⟩ := (OpsOK_mem _ _ (hS.ops j hj) o ho).2.1 hst
      cases pe_in j hj o ho hst c hc
    · intro x hx hst o ho; cases te_in x hx hst o ho
  · refine ⟨?_, ⟨fun j hj o ho hst b hb => hmin b (pe_in j hj o ho hst b hb),
      fun x hx hst o ho => hmin o (te_in x hx hst o ho)⟩, ?_⟩
    · rcases (hmem t).mp ht with ⟨j, hj, o, ho, hst, hs⟩ | ⟨x, hx, hst, hocc⟩
      · exact hS.pendingNow.1 j hj o ho hst t hs
      · exact hS.pendingNow.2 x hx hst t hocc
    · exact ((hmem t).mp ht).imp id Or.inl
/-- the two time machines the environment and the middleware use -/
theorem runTimeMachine_spec {cfg : SMConfig} {s : State} (hS : SchedInv s) {tm : TimeMachine} {t : Int}
    (htm : tm ≠ .jumpByOne) (h : runTimeMachine inst cfg s tm = .ok t) : s.time ≤ t ∧ PendingGe s t := by
  cases tm with
  | jumpByOne => exact absurd rfl htm
  | forceJump => simp [runTimeMachine] at h; exact ⟨(forceJump_spec hS h).1, (forceJump_spec hS h).2.1⟩
  | jumpToEvent =>
    simp only [runTimeMachine, jumpToEvent] at h
    obtain ⟨n, _, h⟩ := except_bind_eq_ok h
    split at h
    · simp at h; subst h; exact ⟨Int.le_refl _, hS.pendingNow⟩
    · exact ⟨(forceJump_spec hS h).1, (forceJump_spec hS h).2.1⟩

theorem jumpToEvent_spec {cfg : SMConfig} {s : State} (hS : SchedInv s) {t : Int}
    (h : jumpToEvent inst cfg s = .ok t) : s.time ≤ t ∧ PendingGe s t :=
  runTimeMachine_spec (tm := .jumpToEvent) hS (by simp) (by simpa [runTimeMachine] using h)

end JSL
