import JSL.Inv.ApproachDefs

/-!
# The approach leg, one transition at a time

* `AgvFx` – what one applied transition does to the AGV records: nothing, a dispatch (IDLE → PICKUP,
  `occupied_till := now + matrix entry (where the AGV stands → pickup source)`), or a transition that
  ends in a state other than PICKUP and – when it starts in PICKUP – is a `→ WAITINGPICKUP/TRANSIT`.
* `ApDueGS` – the batch side condition: a transition that makes an AGV leave PICKUP is applied only
  when that AGV's `occupied_till` has been reached.  The timed batch built from a state meets it
  provided every parked transition (`TimeDependency`) is parked at the AGV it addresses (`DepOwn`).
-/

namespace JSL

variable {orc : Oracle} {inst : Instance}

def Leaving (tr : Transition) : Prop := tr.new = .t .waitingpickup ∨ tr.new = .t .transit

def DepOwn (s : State) : Prop :=
  ∀ t ∈ s.transports, ∀ b j tr, t.occ = .dep b j tr → tr.comp = .t t.id

/-- the record `t'` is the record `t0` right after the dispatch `tr` applied in `s`: it travels
`v` = the current value of the matrix entry (where it stands → the component holding the job) -/
def Dispatched (orc : Oracle) (inst : Instance) (s : State) (tr : Transition) (t0 t' : TransportState) : Prop :=
  ∃ (j : JobState) (cur target src : Loc) (bc : BufCfg) (c : TimeCfg) (v : Int),
    j ∈ s.jobs ∧ tr.job = some j.id ∧ t0.loc = .at cur ∧ bc ∈ allBufCfgs inst ∧ bc.id = j.loc ∧
    (bc.parent = none ∧ src = .b j.loc ∨ ∃ mid, bc.parent = some (.m mid) ∧ src = .m mid) ∧
    travelCfg inst cur src = some c ∧ t'.occ = .at (s.time + v) ∧ t'.loc = .route cur bc.id target ∧
    0 ≤ v ∧ (∀ d, c = .det d → v = d) ∧ (∀ sid, c = .stoch sid → ∃ k, v = orc sid k)

/-- the record `t'` is an AGV record right after the pickup `tr` applied in `s`: it arrives after
`tt` = the value of the matrix entry (component holding the job → destination), freshly sampled if
stochastic -/
def Loaded (orc : Oracle) (inst : Instance) (s : State) (tr : Transition) (t' : TransportState) : Prop :=
  ∃ (j : JobState) (src dst : Loc) (c : TimeCfg) (tt : Int), j ∈ s.jobs ∧ tr.job = some j.id ∧
    (src = .b j.loc ∧ machineIdOfBuffer inst.machines j.loc = none ∨
      ∃ mid, src = .m mid ∧ machineIdOfBuffer inst.machines j.loc = some mid) ∧
    dropOK inst j JobState.nextNotDone? dst ∧ travelCfg inst src dst = some c ∧ t'.occ = .at (s.time + tt) ∧
    (∀ d, c = .det d → tt = d) ∧ (∀ sid, c = .stoch sid → ∃ k, 1 ≤ k ∧ tt = orc sid k)

structure AgvFx (orc : Oracle) (inst : Instance) (s : State) (tr : Transition) (s' : State) : Prop where
  time : s'.time = s.time
  ex : ∀ tid, tr.comp = .t tid → ∃ t' ∈ s'.transports, t'.id = tid
  fx : ∀ t' ∈ s'.transports, (t' ∈ s.transports ∧ tr.comp ≠ .t t'.id) ∨
    ∃ t0 ∈ s.transports, tr.comp = .t t0.id ∧ t'.id = t0.id ∧
    ((tr.new = .t .working ∧ t0.st = .idle ∧ t'.st = .pickup ∧ Dispatched orc inst s tr t0 t') ∨
     (tr.new ≠ .t .working ∧ t'.st ≠ .pickup ∧ (t0.st = .pickup → Leaving tr) ∧
       (tr.new = .t .transit → Loaded orc inst s tr t')))

theorem ap_fx_of_replace {s s' : State} {tr : Transition} {t0 t' : TransportState}
    (htn : (s.transports.map (·.id)).Nodup) (ht0 : t0 ∈ s.transports) (hc : tr.comp = .t t0.id) (hid : t'.id = t0.id)
    (htime : s'.time = s.time) (htr : s'.transports = (s.replaceTransport t').transports)
    (hcase : (tr.new = .t .working ∧ t0.st = .idle ∧ t'.st = .pickup ∧ Dispatched orc inst s tr t0 t') ∨
     (tr.new ≠ .t .working ∧ t'.st ≠ .pickup ∧ (t0.st = .pickup → Leaving tr) ∧
       (tr.new = .t .transit → Loaded orc inst s tr t'))) : AgvFx orc inst s tr s' := by
  refine ⟨htime, ?_, ?_⟩
  · intro tid htid
    rw [hc] at htid
    simp at htid
    exact ⟨t', by rw [htr]; exact replaceTransport_mem ht0 hid, by rw [hid, htid]⟩
  · intro x hx
    rw [htr] at hx
    rcases (mem_replaceTransport htn ht0 hid x).mp hx with rfl | ⟨hx0, hne⟩
    · exact Or.inr ⟨t0, ht0, hc, hid, hcase⟩
    · exact Or.inl ⟨hx0, by rw [hc]; simpa using fun e => hne e.symm⟩

theorem ap_agv_fx (w : WF inst) (nn : NonNeg orc inst) {s s' : State} {r r' : Rng} {tr : Transition}
    (hI : StructInv inst s) (h : applyTransition orc inst s r tr = .ok (s', r')) : AgvFx orc inst s tr s' := by
  have htime := applyTransition_time h
  have htn := hI.shape.trNodup w
  cases applyTransition_ran h with
  | m m hc =>
    have htr := (machine_effect w hI hc h).2.1
    exact ⟨htime, fun tid e => (by rw [hc] at e; cases e), fun t' ht' => Or.inl ⟨by rw [htr] at ht'; exact ht', by rw [hc]; simp⟩⟩
  | t t0 hc' hmem hd ns hn hah h =>
    cases hd with
    | idleToWorking =>
      have hst := agvHandler_idleToWorking hah
      obtain ⟨j, cur, target, src, bc, c, h1, h2, h3, _, h5, h6, h7, h8, _, rfl⟩ := idleToWorking_spec h
      refine ap_fx_of_replace (t' := t0.toPickup cur bc.id target (s.time + c.cur orc r) j.id) htn hmem hc' rfl
        htime rfl (Or.inl ⟨by rw [hn, hst.2], hst.1, rfl, ?_⟩)
      refine ⟨j, cur, target, src, bc, c, c.cur orc r, h1, h2, h3, h5, h6, h7, h8, rfl, rfl, ?_, ?_, ?_⟩
      · exact TimeCfg.cur_nonneg nn.orc r c (nn.travel _ (lookup_mem (by simpa [travelCfg] using h8)))
      · intro d e; subst e; rfl
      · intro sid e; subst e; exact ⟨r sid, rfl⟩
    | pickupToWaitingpickup =>
      have hst := agvHandler_pickupToWaiting hah
      obtain ⟨occ, _, _, _, rfl⟩ := pickupToWaiting_spec h
      exact ap_fx_of_replace (t' := t0.toWaiting occ) htn hmem hc' rfl htime rfl
        (Or.inr ⟨by rw [hn, hst.1]; simp, by simp [TransportState.toWaiting], fun _ => Or.inl (by rw [hn, hst.1]), fun e => (by rw [hn, hst.1] at e; cases e)⟩)
    | waitingPickupToWaitingPickup =>
      have hst := agvHandler_waitingToWaiting hah
      obtain ⟨occ, _, _, rfl⟩ := waitingToWaiting_spec h
      exact ap_fx_of_replace (t' := t0.toWaiting occ) htn hmem hc' rfl htime rfl
        (Or.inr ⟨by rw [hn, hst.1]; simp, by simp [TransportState.toWaiting], fun _ => Or.inl (by rw [hn, hst.1]), fun e => (by rw [hn, hst.1] at e; cases e)⟩)
    | outageToIdle =>
      have hst := agvHandler_outageToIdle hah
      obtain ⟨_, rfl⟩ := agvOutageToIdle_spec h
      exact ap_fx_of_replace (t' := t0.toIdle) htn hmem hc' rfl htime rfl
        (Or.inr ⟨by rw [hn, hst.2]; simp, by simp [TransportState.toIdle], (fun e => by rw [hst.1] at e; cases e),
          (fun e => by rw [hn, hst.2] at e; cases e)⟩)
    | pickupToTransit =>
      have hst := agvHandler_pickupToTransit hah
      obtain ⟨j, src, dst, tt, bss1, bss2, hj, htj, hdrop, htt, _, hcase⟩ := pickupToTransit_spec h
      refine ap_fx_of_replace (t' := t0.toTransit (s.time + tt) j.id bss2) htn hmem hc' rfl htime ?_
        (Or.inr ⟨by rw [hn, hst.1]; simp, by simp [TransportState.toTransit], fun _ => Or.inr (by rw [hn, hst.1]), fun _ => ?_⟩)
      · rcases hcase with ⟨fb, _, _, _, _, _, rfl⟩ | ⟨mid, ms, bs, ms', _, _, _, _, _, _, _, rfl⟩ <;> rfl
      · obtain ⟨c, hc1, hread⟩ := travelTimeFromSpec_ok htt
        have hc2 : ∀ d, c = .det d → tt = d := by
          intro d e; subst e; exact congrArg Prod.fst hread
        have hc3 : ∀ sid, c = .stoch sid → ∃ k, 1 ≤ k ∧ tt = orc sid k := by
          intro sid e; subst e; exact ⟨r sid + 1, by omega, congrArg Prod.fst hread⟩
        have hsrc : (src = .b j.loc ∧ machineIdOfBuffer inst.machines j.loc = none ∨
            ∃ mid, src = .m mid ∧ machineIdOfBuffer inst.machines j.loc = some mid) := by
          rcases hcase with ⟨fb, e1, e2, _⟩ | ⟨mid, ms, bs, ms', e1, e2, _⟩
          · exact Or.inl ⟨e1, e2⟩
          · exact Or.inr ⟨mid, e1, e2⟩
        exact ⟨j, src, dst, c, tt, hj, htj, hsrc, hdrop, hc1, rfl, hc2, hc3⟩
    | transitToOutage =>
      have hst := agvHandler_transitToOutage hah
      obtain ⟨j, cur, pick, drop, tc, outs, bss1, bss2, hj, _, hloc, hin, _, _, _, hcase⟩ := transitToOutage_spec h
      refine ap_fx_of_replace (t' := t0.toOutage j.id bss1 outs (s.time + occupiedFor outs) drop) htn hmem hc' rfl
        htime ?_ (Or.inr ⟨by rw [hn, hst.1]; simp, by simp [TransportState.toOutage], fun e => ?_,
          (fun e => by rw [hn, hst.1] at e; cases e)⟩)
      · rcases hcase with ⟨mid, ms, _, _, _, _, rfl⟩ | ⟨bid, b, _, _, _, _, rfl⟩ <;> rfl
      · rcases hst.2 with e' | e' <;> rw [e'] at e <;> cases e

structure ApDueGS (s : State) (L : List Transition) : Prop where
  due : ∀ tr ∈ L, Leaving tr → ∀ t ∈ s.transports, tr.comp = .t t.id → t.st = .pickup →
    ∀ o, t.occ = .at o → o ≤ s.time
  order : L.Pairwise (fun a b => Leaving b → a.new ≠ .t .working)

theorem ApDueGS.tail {s : State} {tr : Transition} {R : List Transition} (h : ApDueGS s (tr :: R)) : ApDueGS s R :=
  ⟨fun t ht => h.due t (by simp [ht]), (List.pairwise_cons.mp h.order).2⟩


theorem ApDueGS.step {s s' : State} {tr : Transition} {R : List Transition} (h : ApDueGS s (tr :: R))
    (hfx : AgvFx orc inst s tr s') : ApDueGS s' R := by
  refine ⟨?_, h.tail.order⟩
  intro b hb hl t ht hcb hst o ho
  rw [hfx.time]
  rcases hfx.fx t ht with ⟨ht0, _⟩ | ⟨t0, _, _, _, hcase⟩
  · exact h.due b (by simp [hb]) hl t ht0 hcb hst o ho
  · rcases hcase with ⟨hw, _⟩ | ⟨_, hnp, _⟩
    · exact absurd hw ((List.pairwise_cons.mp h.order).1 b hb hl)
    · exact absurd hst hnp

/-- offers (machine → SETUP, AGV → WORKING) end no approach -/
theorem ap_dueGS_offers {s : State} {L : List Transition} (h : ∀ tr ∈ L, OfferShaped tr) : ApDueGS s L := by
  have hnl : ∀ tr ∈ L, ¬ Leaving tr := by
    intro tr htr hl
    rcases h tr htr with e | e <;> rcases hl with e' | e' <;> rw [e] at e' <;> cases e'
  refine ⟨fun tr htr hl => absurd hl (hnl tr htr), ?_⟩
  apply List.pairwise_of_forall_mem_list
  intro a _ b hb hl
  exact absurd hl (hnl b hb)

/-- what `create_timed_transport_transitions` produces for one AGV whose parked transition, if any,
is its own: a transition for this AGV, no dispatch, and – unless parked – due -/
theorem ap_timedTransport_due {s : State} {t : TransportState}
    (hown : ∀ b j tr, t.occ = .dep b j tr → tr.comp = .t t.id)
    (hwait : ∀ b j tr, t.occ = .dep b j tr → tr.new = .t .waitingpickup) {tr : Transition}
    (h : timedTransport inst s t = .ok (some tr)) :
    tr.comp = .t t.id ∧ tr.new ≠ .t .working ∧ ∀ o, t.occ = .at o → o ≤ s.time := by
  rcases timedTransport_ok h with ⟨b, j, hocc, _⟩ | ⟨o, hocc, hle, hc, hcase⟩
  · exact ⟨hown b j tr hocc, by rw [hwait b j tr hocc]; simp, fun o ho => by rw [hocc] at ho; cases ho⟩
  · refine ⟨hc, ?_, fun o' ho' => ?_⟩
    · rcases hcase with ⟨j, _, rdy, _, _, _, ⟨_, e⟩ | ⟨_, e⟩⟩ | ⟨_, e, _⟩ | ⟨_, e, _⟩
      · rw [e]; simp
      · rw [e]; cases rdy <;> simp
      · rw [e]; simp
      · rw [e]; simp
    · rw [hocc] at ho'
      cases ho'
      exact hle

theorem ap_timedTransports_due {s : State} (hS : SchedInv s) (hown : DepOwn s) {rb : List (Option Transition)}
    (h : s.transports.mapM (timedTransport inst s) = .ok rb) :
    ∀ tr ∈ rb.filterMap id, tr.new ≠ .t .working ∧
      ∃ t ∈ s.transports, tr.comp = .t t.id ∧ ∀ o, t.occ = .at o → o ≤ s.time := by
  intro tr htr
  obtain ⟨t, ht, e⟩ := (mem_mapM_filterMap h tr).mp htr
  have := ap_timedTransport_due (hown t ht) (hS.depWaiting t ht) e
  exact ⟨this.2.1, t, ht, this.1, this.2.2⟩

theorem ap_timed_due (w : WF inst) {s : State} (hI : StructInv inst s) (hS : SchedInv s) (hown : DepOwn s)
    {tt tele : List Transition} (htt : timedTransitions inst s = .ok tt) (htele : ∀ tr ∈ tele, tr.new = .t .working) :
    ApDueGS s (tt ++ tele) := by
  have hs := hI.shape
  obtain ⟨ra, rb, hra, hrb, rfl⟩ := timedTransitions_ok htt
  have hA := timedMachines_spec (inst := inst) s.machines (fun m hm => hm) (hs.machNodup w) ra hra
  have hB := ap_timedTransports_due (inst := inst) hS hown hrb
  have hM : ∀ tr ∈ ra.filterMap id, ∃ ns, tr.new = .m ns := by
    intro tr htr
    obtain ⟨⟨m, _, hc, hcase⟩, _⟩ := hA.1 tr htr
    rcases hcase with ⟨ns, _, e, _⟩ | ⟨_, e, _⟩
    · exact ⟨ns, e⟩
    · exact ⟨.setup, e⟩
  have hnl : ∀ tr ∈ tele, ¬ Leaving tr := by
    intro tr htr hl
    rcases hl with e' | e' <;> rw [htele tr htr] at e' <;> cases e'
  have hnw : ∀ tr ∈ ra.filterMap id ++ rb.filterMap id, tr.new ≠ .t .working := by
    intro tr htr
    rcases List.mem_append.mp htr with h | h
    · obtain ⟨ns, e⟩ := hM tr h
      rw [e]; simp
    · exact (hB tr h).1
  constructor
  · intro tr htr hl t ht hc hst o ho
    rcases List.mem_append.mp htr with h | h
    · rcases List.mem_append.mp h with h | h
      · obtain ⟨ns, e⟩ := hM tr h
        rcases hl with e' | e' <;> rw [e] at e' <;> cases e'
      · obtain ⟨_, t1, ht1, hc1, hdue⟩ := hB tr h
        rw [hc1] at hc
        simp at hc
        have : t1 = t := eq_of_mem_of_key_eq (key := fun (y : TransportState) => y.id) (hs.trNodup w) ht1 ht hc
        subst this
        exact hdue o ho
    · exact absurd hl (hnl tr h)
  · apply List.pairwise_append.mpr
    refine ⟨?_, ?_, ?_⟩
    · apply List.pairwise_of_forall_mem_list
      intro x hx y _ _
      exact hnw x hx
    · apply List.pairwise_of_forall_mem_list
      intro x _ y hy hl
      exact absurd hl (hnl y hy)
    · intro x hx y hy hl
      exact absurd hl (hnl y hy)

end JSL
