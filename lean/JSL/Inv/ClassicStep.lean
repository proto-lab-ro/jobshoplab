import JSL.Inv.ClassicStepE
import JSL.Inv.ClassicFrameE

/-!
# One applied transition in a run without early dispatch

Such a run keeps, beside `CInvE`, the fact `AtPickup` (a claimed job lies at a pickup place, never in a
machine), and `CInv` is the two together.  So the lemmas about `En` and `CInv` come from those about `EnE`
and `CInvE`:

* `apply_frame` – what one enabled transition (not a machine start) leaves untouched (`EnFrame`);
* `enGS_step` – after the first transition of a batch the rest of the batch is still enabled;
* `atPickup_step` – `AtPickup` is kept: it could break only through a dispatch (which goes to a job at a
  pickup place) or through a job that moves (which is not claimed by an AGV on its way to the pickup);
* `cinv_step` – hence `CInv` is kept.
-/

namespace JSL

variable {orc : Oracle} {inst : Instance}


structure TGood (inst : Instance) (s : State) (t : TransportState) : Prop where
  noDep : ∀ b j tr, t.occ ≠ .dep b j tr
  noWorking : t.st ≠ .working
  claimed : t.st = .pickup ∨ t.st = .waitingpickup →
    ∃ j ∈ s.jobs, t.job = some j.id ∧ j.loc ∈ pickupPlaces inst
  due : t.st ≠ .idle → ∃ c, t.occ = .at c ∧ c ≤ s.time
  parked : t.st = .idle ∨ t.st = .outage → ∃ l, t.loc = .at l ∧ l ∈ locsOf inst

/-- `CInv` is needed for one fact only (`CInv.claimed`): otherwise the pickup could take the job out of the
internal buffer of a machine. -/
theorem apply_frame (w : WF inst) {s s' : State} {r r' : Rng} {a : Transition} (hI : StructInv inst s)
    (hC : CInv inst s) (hE : En inst s a) (hns : a.new ≠ .m .setup)
    (h : applyTransition orc inst s r a = .ok (s', r')) : EnFrame s s' a :=
  (apply_frameE w hI (enE_of_en w hI hC.claimed hE) hns h).toFrame

theorem enGS_step (w : WF inst) {s s' : State} {r r' : Rng} {a : Transition} {R : List Transition}
    (hI : StructInv inst s) (hA : AgvFull inst s) (hC : CInv inst s) (hgs : EnGS inst s (a :: R))
    (h : applyTransition orc inst s r a = .ok (s', r')) : EnGS inst s' R := by
  by_cases hns : a.new = .m .setup
  · have := hgs.alone a (by simp) hns
    simp at this; subst this
    exact EnGS.nil s'
  · have hE := hgs.en a (by simp)
    have F := apply_frame w hI hC hE hns h
    have hap := (List.pairwise_cons.mp hgs.apart).1
    refine ⟨?_, hgs.tail.apart, hgs.tail.alone⟩
    intro b hb
    refine en_of_frame F (hap b hb) ?_ (hgs.en b (by simp [hb]))
    intro t j hbe hj hloc hfree
    by_cases hnd : a.new = .t .working
    · have := (hap b hb).2 hnd (by rw [hbe])
      rw [hbe] at this; exact this
    · exact en_job_ne w hI hA hE hns hnd hj hloc hfree

theorem atPickup_replaceTransport {s : State} (hcl : AtPickup inst s) {T : TransportState}
    (hT : T.st = .pickup ∨ T.st = .waitingpickup → ∃ j ∈ s.jobs, T.job = some j.id ∧ j.loc ∈ pickupPlaces inst) :
    AtPickup inst (s.replaceTransport T) := by
  intro t ht hst
  rcases cs_mem_replaceTransport ht with rfl | ⟨ht', _⟩
  · exact hT hst
  · exact hcl t ht' hst

theorem atPickup_replaceJob {s s' : State} (hjn : (s.jobs.map (·.id)).Nodup) (hcl : AtPickup inst s)
    {j0 J : JobState} (hj0 : j0 ∈ s.jobs) (hloc : j0.loc ∉ pickupPlaces inst) (hJ : J.id = j0.id)
    (e1 : s'.transports = s.transports) (e2 : s'.jobs = (s.replaceJob J).jobs) : AtPickup inst s' := by
  intro t ht hst
  rw [e1] at ht
  obtain ⟨j, hj, e, hl⟩ := hcl t ht hst
  refine ⟨j, ?_, e, hl⟩
  rw [e2]
  refine cs_keep_replaceJob hj ?_
  intro hid
  have : j = j0 := eq_of_mem_of_key_eq (key := fun (y : JobState) => y.id) hjn hj hj0 (by rw [hid, hJ])
  subst this
  exact hloc hl

theorem atPickup_agv_move {s s' : State} (hA : AgvInv s) (hcl : AtPickup inst s) {t T : TransportState}
    {j0 : JobState} {l : Nat} (ht : t ∈ s.transports) (hclaim : t.job = some j0.id)
    (hTst : ¬ (T.st = .pickup ∨ T.st = .waitingpickup)) (hT : T.id = t.id)
    (e1 : s'.transports = (s.replaceTransport T).transports) (e2 : s'.jobs = (s.replaceJob (j0.at l)).jobs) :
    AtPickup inst s' := by
  intro t' ht' hst
  rw [e1] at ht'
  rcases cs_mem_replaceTransport ht' with rfl | ⟨ht', hne⟩
  · exact absurd hst hTst
  · obtain ⟨j, hj, e, hl⟩ := hcl t' ht' hst
    refine ⟨j, ?_, e, hl⟩
    rw [e2]
    refine cs_keep_replaceJob hj ?_
    intro hid
    simp only [JobState.at_id] at hid
    exact hne (by rw [hT]; exact hA.unique t' ht' t ht j0.id (by rw [e, hid]) hclaim)

theorem atPickup_step (w : WF inst) {s s' : State} {r r' : Rng} {a : Transition} (hI : StructInv inst s)
    (hA : AgvFull inst s) (hcl : AtPickup inst s) (hE : En inst s a)
    (h : applyTransition orc inst s r a = .ok (s', r')) : AtPickup inst s' := by
  have hs := hI.shape
  have hjn := hs.jobsNodup w
  -- a machine transition changes the record of a job in the pre-buffer or the internal buffer of the machine
  have mach : ∀ {m : MachineState} {j J : JobState}, m ∈ s.machines → j ∈ s.jobs →
      j.id ∈ m.pre.store ∨ j.id ∈ m.buffer.store → J.id = j.id → s'.transports = s.transports →
      s'.jobs = (s.replaceJob J).jobs → AtPickup inst s' := by
    intro m j J hm hj hin hJ e1 e2
    refine atPickup_replaceJob hjn hcl hj ?_ hJ e1 e2
    rcases hin with hin | hin
    · rw [cs_loc_of_store w hI hj (mem_allBufs_of_machine hm).1 hin]
      exact (cs_machine_not_pickup w hs hm).1
    · rw [cs_loc_of_store w hI hj (mem_allBufs_of_machine hm).2.1 hin]
      exact (cs_machine_not_pickup w hs hm).2
  by_cases hns : a.new = .m .setup
  · obtain ⟨m, hm, _, hh⟩ := apply_start hns h
    obtain ⟨j, op, oc, mc, sd, bss1, bss2, hj, _, hin, _, _, _, _, _, _, _, _, rfl⟩ := idleToSetup_spec hh
    exact mach (J := (j.replaceOp (opRec oc s.time (s.time + sd) m.id)).at m.buffer.id) hm hj (Or.inl hin) rfl rfl rfl
  by_cases hnd : a.new = .t .working
  · -- a dispatch goes to a job at a pickup place
    cases hE with
    | dispatch t j ht hst hj hloc _ =>
      obtain ⟨j2, cur, target, src, bc, c, hj2, htj, _, _, _, _, _, _, _, rfl⟩ := idleToWorking_spec (apply_agv w hs ht hst h)
      obtain rfl := eq_of_mem_of_key_eq (key := fun (y : JobState) => y.id) hjn hj2 hj (Option.some.inj htj).symm
      exact atPickup_replaceTransport hcl (fun _ => ⟨j2, hj, rfl, hloc⟩)
    | start tr hn => exact absurd hn hns
    | mWork => cases hnd
    | mOut => cases hnd
    | mIdle => cases hnd
    | wait => cases hnd
    | pick => cases hnd
    | deliver => cases hnd
    | release => cases hnd
  cases en_effect w hI hE hns hnd h with
  | machine m M j J _ _ hm _ _ hj hin hJ _ _ eJ eT => exact mach hm hj (Or.inr hin) hJ eT eJ
  | agv t T _ ht _ _ hjob hw es =>
    subst es
    exact atPickup_replaceTransport hcl (fun hT => hjob ▸ hcl t ht (Or.inl (hw hT)))
  | move t T j l _ _ ht hid _ _ hT hj hclaim eT eJ _ =>
    -- a job that moves is claimed by its AGV, which is no longer on its way to the pickup
    have hclaim : t.job = some j.id := by
      rcases hclaim with e | ⟨hst, hstore⟩
      · exact e
      · exact hA.route.transitOwn t ht hst j.id (by rw [hstore]; exact List.mem_singleton_self _)
    have hTst : ¬ (T.st = .pickup ∨ T.st = .waitingpickup) := by
      rcases hT with e | e <;> rw [e] <;> nofun
    exact atPickup_agv_move hA.agv hcl ht hclaim hTst hid eT eJ


/-- **one applied transition keeps the classic invariant**; `hdue`: a machine that goes WORKING → OUTAGE is due
(timed transitions are only created for due machines: `DueGS`) -/
theorem cinv_step (w : WF inst) (hC : Classic inst) {s s' : State} {r r' : Rng} {a : Transition}
    (hI : StructInv inst s) (hS : SchedInv s) (hB : Bundle inst s) (hE : En inst s a)
    (hdue : ∀ m ∈ s.machines, a.comp = .m m.id → a.new = .m .outage → dueAt m.occ s.time = true)
    (h : applyTransition orc inst s r a = .ok (s', r')) (hI' : StructInv inst s') (hS' : SchedInv s') : CInv inst s' :=
  cinv_of_cinvE w hI' hS'
    (cinvE_step w hC hI hS hB.toE (enE_of_en w hI hB.cinv.claimed hE) hdue h)
    (atPickup_step w hI hB.full hB.cinv.claimed hE h)

end JSL
