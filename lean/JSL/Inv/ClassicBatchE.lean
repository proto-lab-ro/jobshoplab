import JSL.Inv.ClassicTotalDefsR
import JSL.Inv.ClassicTotalsE

/-!
# Classic instances: the batches the code builds are enabled

For a classic instance run with ANY configuration (`allowEarly` true or false), in a state with the
structural, the schedule and the bundled (`BundleE`) invariants:

* `offer_enE` – every offer is enabled (`EnE`): a dispatch on offer is for an
  unclaimed job that is `Pickable` (at a pickup place, or running in a machine);
* `timed_enGSE`, `timedOnly_enGSE` – the timed batch (followed by the teleports) meets `EnGSE`;
* `action_enGSE` – so does what the middleware submits (nothing, or one offer);
* `timed_noStart`, `tele_noStart` – neither batch contains a machine start;
* `rwE_timed` – a non-empty timed batch is not made of up-to-date re-waits (`RWE`) only.
-/

namespace JSL

variable {orc : Oracle} {inst : Instance}

theorem kind_of_pickupPlace {l : Nat} (hl : l ∈ pickupPlaces inst) : pickupBufferKind inst l = true := by
  unfold pickupBufferKind
  simp only [Bool.or_eq_true, List.contains_iff_mem]
  rcases mem_pickupPlaces.mp hl with ⟨bc, hbc, _, e⟩ | h
  · exact Or.inl (List.mem_map.mpr ⟨bc, hbc, e⟩)
  · exact Or.inr (List.mem_map.mpr h)

/-- in a classic instance (all buffers FLEX) a job lying at a pickup place is ready for pickup -/
theorem ready_of_pickupPlace (w : WF inst) (hC : Classic inst) {s : State} (hI : StructInv inst s)
    {j : JobState} (hj : j ∈ s.jobs) (hloc : j.loc ∈ pickupPlaces inst) : readyForPickup inst s j = .ok true := by
  obtain ⟨b, hb, hbid, hin⟩ := job_buffer hI hj
  exact readyForPickup_flex w hC.flex.pick hI.shape hb hbid.symm hin (by rw [hbid]; exact kind_of_pickupPlace hloc)

theorem pickable_of_offeredE {s : State} (hI : StructInv inst s) (hA : AgvFull inst s) {j : JobState}
    (hj : j ∈ s.jobs) (hfree : ∀ x ∈ s.transports, x.job ≠ some j.id)
    (hkind : j.running = true ∨ transportable inst s j = .ok true)
    (hnpre : ∀ m ∈ s.machines, j.id ∉ m.pre.store) : Pickable inst j := by
  have hs := hI.shape
  obtain ⟨b, hb, hbid, hin⟩ := job_buffer hI hj
  rcases (mem_allBufs s b).mp hb with hb1 | ⟨m, hm, rfl | rfl | rfl⟩ | ⟨t, ht, rfl⟩
  · -- a standalone buffer: not an output buffer
    left
    have : b.id ∈ inst.buffers.map (·.id) := by rw [← hs.buffers]; exact List.mem_map.mpr ⟨b, hb1, rfl⟩
    obtain ⟨bc, hbc, e⟩ := List.mem_map.mp this
    refine mem_pickupPlaces.mpr (Or.inl ⟨bc, hbc, ?_, by rw [e, hbid]⟩)
    cases hrole : (bc.role == BufRole.output) with
    | false => simp [bne, hrole]
    | true =>
      exfalso
      apply not_offered_in_output hA.route hj ?_ hkind
      rw [← hbid, ← e]
      unfold outputIds outputBuffers
      exact List.mem_map.mpr ⟨bc, List.mem_filter.mpr ⟨hbc, hrole⟩, rfl⟩
  · -- a pre-buffer: impossible
    exact absurd hin (hnpre m hm)
  · -- the internal buffer of a machine
    right
    rw [← hbid]; exact cse_buffer_internal hs hm
  · -- a post-buffer
    exact Or.inl (by rw [← hbid]; exact cs_post_pickup hs hm)
  · -- on an AGV: the job would be claimed
    exfalso
    by_cases htr : t.st = .transit
    · exact hfree t ht (hA.route.transitOwn t ht htr j.id hin)
    · rw [hA.agv.empty t ht htr] at hin
      cases hin

theorem offer_enE (w : WF inst) {cfg : SMConfig} {s : State}
    (hI : StructInv inst s) (hS : SchedInv s) (hB : BundleE inst s) {poss : List Transition}
    (hp : possibleTransitions inst cfg s = .ok poss) : ∀ tr ∈ poss, EnE inst s tr := by
  intro tr htr
  rcases mem_possibleTransitions hp htr with ⟨j, _, o, _, _, rfl⟩ | ⟨pt, hpt, hin⟩
  · exact EnE.start _ rfl
  · obtain ⟨t, ht, tc, j, hj, rfl, hst, _, _, hfree, hkind, _⟩ := possibleTransport_offer hpt _ hin
    exact EnE.dispatch t j ht hst hj (pickable_of_offeredE hI hB.full hj hfree hkind
      (offers_not_in_pre w hI hS hB.full.route hp _ htr rfl j.id rfl)) hfree


theorem preFlex_of_classic (hC : Classic inst) : PreFlex inst :=
  fun _ hmc => hC.flex _ (mem_allBufCfgs_of_machine hmc).1

/-- what is known about a member of the timed batch of a classic instance -/
structure TimedEnE (inst : Instance) (s : State) (tr : Transition) : Prop where
  en : EnE inst s tr
  noDispatch : tr.new ≠ .t .working
  noStart : tr.new ≠ .m .setup
  comp : (∃ mid, tr.comp = .m mid) ∨ ∃ t ∈ s.transports, tr.comp = .t t.id ∧ t.st ≠ .idle

theorem timedMachine_enE (w : WF inst) (hC : Classic inst) {s : State} (hI : StructInv inst s) (hS : SchedInv s)
    {m : MachineState} (hm : m ∈ s.machines) {tr : Transition} (h : timedMachine inst s.time m = .ok (some tr)) :
    TimedEnE inst s tr ∧ tr.comp = .m m.id := by
  have hs := hI.shape
  have hns := timedMachine_no_setup w hs (preFlex_of_classic hC) hm h
  obtain ⟨⟨m', hm', hc, hcase⟩, hcm⟩ := timedMachine_spec hm h
  rcases hcase with ⟨ns, hnext, hnew, hjob⟩ | ⟨_, hnew, _⟩
  · have hbusy : m'.st ≠ .idle := by
      intro e; rw [e] at hnext; simp [machineTimedNext] at hnext
    obtain ⟨j, hj, hst, _⟩ := hS.busyHolds m' hm' hbusy
    rw [hst] at hjob
    simp only [List.head?_cons] at hjob
    have : tr = ⟨.m m'.id, .m ns, some j.id⟩ := by
      cases tr; simp only at hc hnew hjob; rw [hc, hnew, hjob]
    subst this
    refine ⟨⟨?_, by simp, hns, Or.inl ⟨_, rfl⟩⟩, hcm⟩
    cases hst' : m'.st with
    | idle => exact absurd hst' hbusy
    | setup =>
      rw [hst'] at hnext; simp only [machineTimedNext, Option.some.injEq] at hnext; subst hnext
      exact EnE.mWork m' j.id hm' hst' hst
    | working =>
      rw [hst'] at hnext; simp only [machineTimedNext, Option.some.injEq] at hnext; subst hnext
      exact EnE.mOut m' j.id hm' hst' hst
    | outage =>
      rw [hst'] at hnext; simp only [machineTimedNext, Option.some.injEq] at hnext; subst hnext
      exact EnE.mIdle m' j.id hm' hst' hst
  · exact absurd hnew hns

theorem pickupPlace_of_readyE (w : WF inst) {s : State} (hI : StructInv inst s) (hS : SchedInv s)
    {j : JobState} (hj : j ∈ s.jobs) (hp : Pickable inst j) (hrdy : readyForPickup inst s j = .ok true) :
    j.loc ∈ pickupPlaces inst := by
  rcases hp with h | h
  · exact h
  · exfalso
    obtain ⟨m, hm, e⟩ := internal_machine w hI.shape h
    exact ((ready_facts w hI hS hj hrdy).1 m hm).1 e

theorem timedTransport_enE (w : WF inst) {s : State} (hI : StructInv inst s) (hS : SchedInv s)
    (hB : BundleE inst s) {t : TransportState} (ht : t ∈ s.transports) {tr : Transition}
    (h : timedTransport inst s t = .ok (some tr)) : TimedEnE inst s tr ∧ tr.comp = .t t.id := by
  have busy : ∀ {st : TSt}, t.st = st → st ≠ .idle → ∃ t' ∈ s.transports, Comp.t t.id = .t t'.id ∧ t'.st ≠ .idle :=
    fun e hne => ⟨t, ht, rfl, e ▸ hne⟩
  rcases timedTransport_ok h with ⟨b, j, hocc, _⟩ | ⟨o, _, _, hc, hcase⟩
  · exact absurd hocc (hB.cinv.noDep t ht b j tr)
  obtain ⟨c, n, job⟩ := tr
  simp only at hc hcase
  subst hc
  rcases hcase with ⟨j, hj, rdy, htj, rfl, hrdy, hk⟩ | ⟨hst, rfl, j, hj, hstore, rfl⟩ | ⟨hst, rfl, rfl⟩
  · rcases hk with ⟨hst, rfl⟩ | ⟨hst, rfl⟩
    · exact ⟨⟨.wait t j ht hst hj htj, nofun, nofun, Or.inr (busy hst nofun)⟩, rfl⟩
    · cases rdy with
      | false => exact ⟨⟨.rewait t j ht hst hj htj, nofun, nofun, Or.inr (busy hst nofun)⟩, rfl⟩
      | true =>
        obtain ⟨j', hj', htj', hpk⟩ := hB.cinv.claimed t ht (Or.inr hst)
        obtain rfl : j' = j := eq_of_mem_of_key_eq (key := fun (y : JobState) => y.id) (hI.shape.jobsNodup w) hj' hj
          (Option.some.inj (htj'.symm.trans htj))
        exact ⟨⟨.pick t j' ht hst hj htj (pickupPlace_of_readyE w hI hS hj hpk hrdy), nofun, nofun,
          Or.inr (busy hst nofun)⟩, rfl⟩
  · exact ⟨⟨.deliver t j ht hst hj hstore, nofun, nofun, Or.inr (busy hst nofun)⟩, rfl⟩
  · exact ⟨⟨.release t ht hst, nofun, nofun, Or.inr (busy hst nofun)⟩, rfl⟩

theorem timed_coreE (w : WF inst) (hC : Classic inst) {s : State} (hI : StructInv inst s) (hS : SchedInv s)
    (hB : BundleE inst s) {tt : List Transition} (htt : timedTransitions inst s = .ok tt) :
    (∀ tr ∈ tt, TimedEnE inst s tr) ∧ tt.Pairwise (fun a b => a.comp ≠ b.comp) := by
  have hs := hI.shape
  constructor
  · intro tr htr
    rcases (mem_timedTransitions htt tr).mp htr with ⟨m, hm, e⟩ | ⟨t, ht, e⟩
    · exact (timedMachine_enE w hC hI hS hm e).1
    · exact (timedTransport_enE w hI hS hB ht e).1
  · obtain ⟨ra, rb, hra, hrb, rfl⟩ := timedTransitions_ok htt
    apply List.pairwise_append.mpr
    refine ⟨?_, ?_, ?_⟩
    · apply mapM_filterMap_pairwise _ _ hra
      have : s.machines.Pairwise (fun x y => x.id ≠ y.id) := List.pairwise_map.mp (hs.machNodup w)
      apply this.imp_of_mem
      intro x y hx hy hne a b ha hb
      rw [(timedMachine_enE w hC hI hS hx ha).2, (timedMachine_enE w hC hI hS hy hb).2]
      intro e
      exact hne (by simpa using e)
    · apply mapM_filterMap_pairwise _ _ hrb
      have : s.transports.Pairwise (fun x y => x.id ≠ y.id) := List.pairwise_map.mp (hs.trNodup w)
      apply this.imp_of_mem
      intro x y hx hy hne a b ha hb
      rw [(timedTransport_enE w hI hS hB hx ha).2, (timedTransport_enE w hI hS hB hy hb).2]
      intro e
      exact hne (by simpa using e)
    · intro a ha b hb
      obtain ⟨m, hm, ea⟩ := (mem_mapM_filterMap hra a).mp ha
      obtain ⟨t, ht, eb⟩ := (mem_mapM_filterMap hrb b).mp hb
      rw [(timedMachine_enE w hC hI hS hm ea).2, (timedTransport_enE w hI hS hB ht eb).2]
      simp

theorem timed_built (w : WF inst) {s : State} (hI : StructInv inst s) (hS : SchedInv s)
    (hB : BundleE inst s) {tt : List Transition} (htt : timedTransitions inst s = .ok tt) {tr : Transition}
    (htr : tr ∈ tt) {t : TransportState} (ht : t ∈ s.transports) (hc : tr.comp = .t t.id) :
    timedTransport inst s t = .ok (some tr) := by
  rcases (mem_timedTransitions htt tr).mp htr with ⟨m, hm, e⟩ | ⟨t', ht', e⟩
  · have := (timedMachine_spec hm e).2
    rw [hc] at this; cases this
  · have hc' := (timedTransport_enE w hI hS hB ht' e).2
    rw [hc] at hc'
    have : t' = t := eq_of_mem_of_key_eq (key := fun (y : TransportState) => y.id) (hI.shape.trNodup w) ht' ht
      (by simpa using hc'.symm)
    subst this
    exact e

theorem teleportGreedy_apart : ∀ (n : Nat) (l : List Transition),
    (teleportGreedy n l).Pairwise (fun a b => a.comp ≠ b.comp ∧ a.job ≠ b.job)
  | 0, _ => by simp [teleportGreedy]
  | n + 1, [] => by simp [teleportGreedy]
  | n + 1, t :: ts => by
    simp only [teleportGreedy]
    apply List.pairwise_cons.mpr
    refine ⟨?_, teleportGreedy_apart n _⟩
    intro b hb
    have := mem_teleportGreedy n _ b hb
    have hf := (List.mem_filter.mp this).2
    simp only [Bool.and_eq_true, bne_iff_ne, ne_eq] at hf
    exact ⟨fun e => hf.2 e.symm, fun e => hf.1 e.symm⟩

theorem timed_enGSE (w : WF inst) (hC : Classic inst) {cfg : SMConfig} {s : State}
    (hI : StructInv inst s) (hS : SchedInv s) (hB : BundleE inst s) {tt poss tele : List Transition} {r : Rng}
    (htt : timedTransitions inst s = .ok tt) (hp : possibleTransitions inst cfg s = .ok poss)
    (hte : filterTeleport orc inst r s poss = .ok tele) : EnGSE inst s (tt ++ tele) := by
  have hs := hI.shape
  obtain ⟨hen, hpw⟩ := timed_coreE w hC hI hS hB htt
  have hsub : ∀ tr ∈ tele, tr ∈ poss := fun tr htr => (mem_filterTeleport hte tr htr).1
  have htp : tele.Pairwise (fun a b => a.comp ≠ b.comp ∧ a.job ≠ b.job) := by
    obtain ⟨l, rfl, _⟩ := filterTeleport_ok hte
    exact teleportGreedy_apart _ _
  have hnew := filterTeleport_shape hp hte
  have hidle : ∀ tr ∈ tele, ∃ t ∈ s.transports, tr.comp = .t t.id ∧ t.st = .idle := by
    intro tr htr
    rcases mem_possibleTransitions hp (hsub tr htr) with ⟨j, _, o, _, _, e⟩ | ⟨pt, hpt, hin⟩
    · have := hnew tr htr; rw [e] at this; simp at this
    · obtain ⟨t, ht, j, _, e, hst, _⟩ := possibleTransport_facts hpt tr hin
      exact ⟨t, ht, by rw [e], hst⟩
  refine ⟨?_, ?_, ?_⟩
  · intro tr htr
    rcases List.mem_append.mp htr with h | h
    · exact (hen tr h).en
    · exact offer_enE w hI hS hB hp tr (hsub tr h)
  · apply List.pairwise_append.mpr
    refine ⟨?_, ?_, ?_⟩
    · apply hpw.imp_of_mem
      intro a b ha _ hne
      exact ⟨hne, fun hn => absurd hn (hen a ha).noDispatch⟩
    · exact htp.imp (fun {a b} hab => ⟨hab.1, fun _ _ => hab.2⟩)
    · intro a ha b hb
      refine ⟨?_, fun hn => absurd hn (hen a ha).noDispatch⟩
      obtain ⟨t', ht', ec, hst'⟩ := hidle b hb
      rcases (hen a ha).comp with ⟨mid, e⟩ | ⟨t, ht, e, hst⟩
      · rw [e, ec]; simp
      · rw [e, ec]
        intro e'
        have : t = t' := eq_of_mem_of_key_eq (key := fun (y : TransportState) => y.id) (hs.trNodup w) ht ht'
          (by simpa using e')
        subst this
        exact hst hst'
  · intro tr htr hn
    exfalso
    rcases List.mem_append.mp htr with h | h
    · exact (hen tr h).noStart hn
    · rw [hnew tr h] at hn; simp at hn

theorem timedOnly_enGSE (w : WF inst) (hC : Classic inst) {s : State}
    (hI : StructInv inst s) (hS : SchedInv s) (hB : BundleE inst s) {tt : List Transition}
    (htt : timedTransitions inst s = .ok tt) : EnGSE inst s tt := by
  obtain ⟨hen, hpw⟩ := timed_coreE w hC hI hS hB htt
  refine ⟨fun tr htr => (hen tr htr).en, ?_, fun tr htr hn => absurd hn (hen tr htr).noStart⟩
  apply hpw.imp_of_mem
  intro a b ha _ hne
  exact ⟨hne, fun hn => absurd hn (hen a ha).noDispatch⟩

theorem action_enGSE (w : WF inst) {cfg : SMConfig} {s : State}
    (hI : StructInv inst s) (hS : SchedInv s) (hB : BundleE inst s) {a : Action} (hadm : AdmOffer inst cfg s a) :
    EnGSE inst s (sortedByTransport a.transitions) := by
  rcases hadm with e | ⟨poss, hposs, tr, hp, e⟩
  · rw [e, sortedByTransport_nil]; exact EnGSE.nil s
  · rw [e, sortedByTransport_single]
    refine ⟨?_, List.pairwise_singleton _ _, fun _ _ _ => by simp⟩
    intro t ht
    simp at ht; subst ht
    exact offer_enE w hI hS hB hposs t hp

theorem timed_noDispatchE (w : WF inst) (hC : Classic inst) {s : State} (hI : StructInv inst s) (hS : SchedInv s)
    (hB : BundleE inst s) {tt : List Transition} (htt : timedTransitions inst s = .ok tt) :
    ∀ tr ∈ tt, tr.new ≠ .t .working :=
  fun tr htr => ((timed_coreE w hC hI hS hB htt).1 tr htr).noDispatch


theorem timed_noStart (w : WF inst) (hC : Classic inst) {s : State} (hI : StructInv inst s) (hS : SchedInv s)
    {tt : List Transition} (htt : timedTransitions inst s = .ok tt) : ∀ tr ∈ tt, tr.new ≠ .m .setup :=
  timed_no_setup w hI hS (preFlex_of_classic hC) htt

theorem tele_noStart {cfg : SMConfig} {s : State} {poss tele : List Transition} {r : Rng}
    (hp : possibleTransitions inst cfg s = .ok poss) (hte : filterTeleport orc inst r s poss = .ok tele) :
    ∀ tr ∈ tele, tr.new ≠ .m .setup := by
  intro tr htr
  rw [filterTeleport_shape hp hte tr htr]; simp

theorem timedTransport_rewaitE {s : State} {t : TransportState}
    (hnd : ∀ b j tr, t.occ ≠ .dep b j tr) (hst : t.st = .waitingpickup) {tr : Transition}
    (h : timedTransport inst s t = .ok (some tr)) (hnew : tr.new = .t .waitingpickup) :
    ∃ o j, t.occ = .at o ∧ o ≤ s.time ∧ j ∈ s.jobs ∧ t.job = some j.id ∧ readyForPickup inst s j = .ok false := by
  rcases timedTransport_ok h with ⟨b, j, hocc, _⟩ | ⟨o, hocc, hle, _, hcase⟩
  · exact absurd hocc (hnd b j tr)
  rcases hcase with ⟨j, hj, rdy, htj, _, hrdy, hk⟩ | ⟨hst', _⟩ | ⟨hst', _⟩
  · rcases hk with ⟨hst', _⟩ | ⟨_, hn⟩
    · rw [hst] at hst'; cases hst'
    · cases rdy with
      | true => rw [hnew, if_pos rfl] at hn; cases hn
      | false => exact ⟨o, j, hocc, hle, hj, htj, hrdy⟩
  · rw [hst] at hst'; cases hst'
  · rw [hst] at hst'; cases hst'

theorem timedMachine_dueE {s : State} {m : MachineState} (hbusy : m.st ≠ .idle) {o : Int} (hocc : m.occ = some o)
    (hle : o ≤ s.time) {x : Nat} (hstore : m.buffer.store = [x]) :
    ∃ ns, timedMachine inst s.time m = .ok (some ⟨.m m.id, .m ns, some x⟩) := by
  unfold timedMachine
  have hd : dueAt m.occ s.time = true := by simp [dueAt, hocc, hle]
  cases hst : m.st with
  | idle => exact absurd hst hbusy
  | setup => exact ⟨.working, by simp [hd, machineTimedNext, hstore]⟩
  | working => exact ⟨.outage, by simp [hd, machineTimedNext, hstore]⟩
  | outage => exact ⟨.idle, by simp [hd, machineTimedNext, hstore]⟩

theorem rwE_timed (w : WF inst) (hC : Classic inst) {s : State} (hI : StructInv inst s) (hS : SchedInv s)
    (hB : BundleE inst s) {tt : List Transition} (htt : timedTransitions inst s = .ok tt) (hne : tt ≠ []) :
    ∃ tr ∈ tt, ¬ RWE s tr := by
  have hs := hI.shape
  have hjn := hs.jobsNodup w
  apply Classical.byContradiction
  intro hall
  have hall' : ∀ tr ∈ tt, RWE s tr := by
    intro tr htr
    apply Classical.byContradiction
    intro hn
    exact hall ⟨tr, htr, hn⟩
  -- take a member: it was built for a waiting AGV `t` whose job is not ready
  obtain ⟨tr0, htr0⟩ := List.exists_mem_of_ne_nil _ hne
  obtain ⟨t, ht, hcomp, hst, hnew, hstale⟩ := hall' tr0 htr0
  obtain ⟨o, j, hocc, hle, hj, htj, hrdy⟩ :=
    timedTransport_rewaitE (hB.cinv.noDep t ht) hst (timed_built w hI hS hB htt htr0 ht hcomp) hnew
  -- the claimed job lies in the internal buffer of a machine
  obtain ⟨j', hj', htj', hpk⟩ := hB.cinv.claimed t ht (Or.inr hst)
  have : j' = j := eq_of_mem_of_key_eq (key := fun (y : JobState) => y.id) hjn hj' hj
    (by rw [htj] at htj'; simpa using htj'.symm)
  subst this
  rcases hpk with hpl | hint
  · rw [ready_of_pickupPlace w hC hI hj' hpl] at hrdy
    cases hrdy
  · obtain ⟨m, hm, hmid⟩ := internal_machine w hs hint
    obtain ⟨hbusy, hstore, _, op, e, hp, hstop, hmocc, _⟩ := running_facts w hI hS hj' hm hmid
    -- the processing record ends at `o`: the waiting time is up to date
    have hop := find?_mem_ops hp
    have hstopo : op.stop = some o := by
      unfold staleB at hstale
      simp only [hst, htj, hocc, beq_self_eq_true, Bool.true_and] at hstale
      have h1 := List.any_eq_false.mp hstale j' hj'
      simp only [beq_self_eq_true, Bool.true_and] at h1
      have h2 := List.any_eq_false.mp (Bool.eq_false_iff.mpr h1) op hop.1
      have h3 : (op.st == OSt.processing) = true := hop.2
      simp only [h3, Bool.true_and] at h2
      simpa using h2
    -- so the machine is due and contributes a machine transition
    obtain ⟨ns, hns⟩ := timedMachine_dueE (inst := inst) hbusy (by rw [hmocc, ← hstop, hstopo]) hle hstore
    obtain ⟨t2, _, hc2, _⟩ := hall' _ ((mem_timedTransitions htt _).mpr (Or.inl ⟨m, hm, hns⟩))
    simp at hc2

end JSL
