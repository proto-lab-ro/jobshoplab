import JSL.Inv.Startable
import JSL.Inv.EnvReach

/-!
# The offers the environment holds are a rest of the offers of the state it holds

`ResInv.offersFrom` says the held offers are *among* the offers computed from the held state.  More
is true (and needs no hypothesis on the instance): they are a **suffix** of that list – the offers
already declined are exactly a prefix – and they are the whole list right after every state-machine
step.  With T1 this says which operations the agent can still choose at this decision point.
-/

namespace JSL

variable {orc : Oracle} {inst : Instance}

def OffersSuffix (inst : Instance) (cfg : SMConfig) (res : SMResult) : Prop :=
  res.possible ≠ [] → ∃ poss pre, possibleTransitions inst cfg res.state = .ok poss ∧ poss = pre ++ res.possible

theorem smStep_offers_fresh {cfg : SMConfig} {fuel : Nat} {s : State} {r : Rng} {a : Action} {res : SMResult}
    {r' : Rng} {mic : List State} (h : smStep orc inst cfg fuel s r a = .ok (res, r', mic))
    (hne : res.possible ≠ []) : possibleTransitions inst cfg res.state = .ok res.possible := by
  rcases (smStep_spec h).2 with h1 | h1 | h1
  · exact absurd h1.2.2.2 hne
  · exact absurd h1.2.2.1 hne
  · exact h1.2.2.2

theorem smStep_offersSuffix {cfg : SMConfig} {fuel : Nat} {s : State} {r : Rng} {a : Action} {res : SMResult}
    {r' : Rng} {mic : List State} (h : smStep orc inst cfg fuel s r a = .ok (res, r', mic)) :
    OffersSuffix inst cfg res :=
  fun hne => ⟨res.possible, [], smStep_offers_fresh h hne, rfl⟩

theorem envReach_offersSuffix {ec : EnvCfg} {st : RewardStatic} {s0 : State} {e : EnvState}
    (h : EnvReach orc inst ec st s0 e) : OffersSuffix inst ec.sm e.res := by
  induction h with
  | reset h =>
    obtain ⟨res, r', hs, rfl⟩ := envReset_ok h
    exact smStep_offersSuffix hs
  | @step e a out _ h ih =>
    obtain ⟨_, res', mw, r, mic, rew, cnt, _, hm, rfl, _, rfl⟩ := envStep_ok h
    by_cases hsuc : res'.success = true
    · simp only [hsuc, if_true]
      rcases mwStep_spec hm with ⟨o, o', rest, _, hp, ⟨⟩⟩ | ⟨_, _, _, _, _, _, _, hs, ⟨⟩⟩ | ⟨_, _, _, _, _, _, hs, _, ⟨⟩⟩
      · -- a dropped head offer joins the prefix
        intro _
        obtain ⟨poss, pre, hposs, hpre⟩ := ih (by rw [hp]; simp)
        exact ⟨poss, pre ++ [o], hposs, by rw [hpre, hp]; simp⟩
      · exact smStep_offersSuffix hs
      · exact smStep_offersSuffix hs
    · simp only [hsuc]
      exact ih

/-- **T1 for the offers held.**  In every environment state of every episode that holds an offer, the
offers of the state held are `pre ++ e.res.possible` for some `pre` (by the proof of
`envReach_offersSuffix`: the offers declined since the last state-machine step), and a machine start
`(mid, jid)` is in that list iff job `jid` is startable on `mid` in the state held. -/
theorem envReach_held_offers {ec : EnvCfg} {st : RewardStatic} {s0 : State} (hst : Start orc inst s0) {e : EnvState}
    (h : EnvReach orc inst ec st s0 e) (hne : e.res.possible ≠ []) :
    ∃ pre, possibleTransitions inst ec.sm e.res.state = .ok (pre ++ e.res.possible) ∧
      ∀ mid jid, ({ comp := .m mid, new := .m .setup, job := some jid } : Transition) ∈ pre ++ e.res.possible ↔
        ∃ j ∈ e.res.state.jobs, j.id = jid ∧ ∃ o m, StartableOp e.res.state j o m ∧ o.machine = mid := by
  obtain ⟨poss, pre, hposs, rfl⟩ := envReach_offersSuffix h hne
  obtain ⟨_, _, hS⟩ := occursA_inv hst ((envReach_inv hst h).live hne).1
  exact ⟨pre, hposs, fun mid jid => machine_offer_iff_op hS hposs mid jid⟩

end JSL
