import JSL.Lib.StepSpec

/-!
# Well-formedness, shape and the structural invariants

* `WF inst`   – what the compiler guarantees about an instance (checked per generated instance by
                the driver and discharged for compiled instances in C17)
* `Shape`     – the state has the components of the instance, in order, with the same ids
* `Conserved` – every job is stored in exactly one buffer, the one its location names (C03)
* `CapOK`     – no buffer holds more jobs than its capacity (C08)
-/

namespace JSL

def mKey (m : MachineState) : Nat × Nat × Nat × Nat := (m.id, m.pre.id, m.buffer.id, m.post.id)
def mcKey (m : MachineCfg) : Nat × Nat × Nat × Nat := (m.id, m.pre.id, m.buf.id, m.post.id)
def tKey (t : TransportState) : Nat × Nat := (t.id, t.buffer.id)
def tcKey (t : TransportCfg) : Nat × Nat := (t.id, t.buf.id)
def opKey (o : OpState) : Nat × Nat × Nat := (o.job, o.idx, o.machine)
def ocKey (o : OpCfg) : Nat × Nat × Nat := (o.job, o.idx, o.machine)
def jKey (j : JobState) : Nat × List (Nat × Nat × Nat) := (j.id, j.ops.map opKey)
def jcKey (j : JobCfg) : Nat × List (Nat × Nat × Nat) := (j.id, j.ops.map ocKey)

structure WF (inst : Instance) : Prop where
  jobsNodup : (inst.jobs.map (·.id)).Nodup
  machNodup : (inst.machines.map (·.id)).Nodup
  trNodup : (inst.transports.map (·.id)).Nodup
  bufNodup : ((allBufCfgs inst).map (·.id)).Nodup
  opJob : ∀ j ∈ inst.jobs, ∀ o ∈ j.ops, o.job = j.id
  opIdxNodup : ∀ j ∈ inst.jobs, (j.ops.map (·.idx)).Nodup
  opMachine : ∀ j ∈ inst.jobs, ∀ o ∈ j.ops, ∃ m ∈ inst.machines, m.id = o.machine

structure Shape (inst : Instance) (s : State) : Prop where
  jobs : s.jobs.map jKey = inst.jobs.map jcKey
  machines : s.machines.map mKey = inst.machines.map mcKey
  transports : s.transports.map tKey = inst.transports.map tcKey
  buffers : s.buffers.map (·.id) = inst.buffers.map (·.id)

structure Conserved (s : State) : Prop where
  stored : ∀ b ∈ allBufStates s, ∀ x ∈ b.store, ∃ j ∈ s.jobs, j.id = x ∧ j.loc = b.id
  located : ∀ j ∈ s.jobs, ∃ b ∈ allBufStates s, b.id = j.loc ∧ j.id ∈ b.store
  nodup : ∀ b ∈ allBufStates s, b.store.Nodup

def CapOK (inst : Instance) (s : State) : Prop :=
  ∀ b ∈ allBufStates s, ∀ c ∈ allBufCfgs inst, c.id = b.id → (b.store.length : Int) ≤ c.cap

theorem map_fst_of_map_eq {α β γ} {f : α → γ × β} {g : α → γ} (hf : ∀ a, (f a).1 = g a) (l : List α) :
    (l.map f).map Prod.fst = l.map g := by
  simp [List.map_map, Function.comp_def, hf]

theorem Shape.jobIds {inst : Instance} {s : State} (h : Shape inst s) :
    s.jobs.map (·.id) = inst.jobs.map (·.id) := by
  have := congrArg (List.map Prod.fst) h.jobs
  simpa [List.map_map, Function.comp_def, jKey, jcKey] using this

theorem Shape.machineIds {inst : Instance} {s : State} (h : Shape inst s) :
    s.machines.map (·.id) = inst.machines.map (·.id) := by
  have := congrArg (List.map Prod.fst) h.machines
  simpa [List.map_map, Function.comp_def, mKey, mcKey] using this

theorem Shape.transportIds {inst : Instance} {s : State} (h : Shape inst s) :
    s.transports.map (·.id) = inst.transports.map (·.id) := by
  have := congrArg (List.map Prod.fst) h.transports
  simpa [List.map_map, Function.comp_def, tKey, tcKey] using this

theorem Shape.jobsNodup {inst : Instance} {s : State} (h : Shape inst s) (w : WF inst) :
    (s.jobs.map (·.id)).Nodup := h.jobIds ▸ w.jobsNodup
theorem Shape.machNodup {inst : Instance} {s : State} (h : Shape inst s) (w : WF inst) :
    (s.machines.map (·.id)).Nodup := h.machineIds ▸ w.machNodup
theorem Shape.trNodup {inst : Instance} {s : State} (h : Shape inst s) (w : WF inst) :
    (s.transports.map (·.id)).Nodup := h.transportIds ▸ w.trNodup

theorem Shape.bufIds {inst : Instance} {s : State} (h : Shape inst s) :
    (allBufStates s).map (·.id) = (allBufCfgs inst).map (·.id) := by
  unfold allBufStates allBufCfgs
  simp only [List.map_append, List.map_flatMap, List.map_map]
  congr 1
  · congr 1
    · exact h.buffers
    · have hm := h.machines
      have e1 : ∀ l : List MachineState, List.flatMap (fun m => List.map (·.id) [m.pre, m.buffer, m.post]) l =
          (l.map mKey).flatMap (fun k => [k.2.1, k.2.2.1, k.2.2.2]) := by
        intro l; induction l with
        | nil => rfl
        | cons a as ih => simp only [List.map_cons, List.flatMap_cons] at ih ⊢; rw [ih]; simp [mKey]
      have e2 : ∀ l : List MachineCfg, List.flatMap (fun m => List.map (·.id) [m.pre, m.buf, m.post]) l =
          (l.map mcKey).flatMap (fun k => [k.2.1, k.2.2.1, k.2.2.2]) := by
        intro l; induction l with
        | nil => rfl
        | cons a as ih => simp only [List.map_cons, List.flatMap_cons] at ih ⊢; rw [ih]; simp [mcKey]
      rw [e1, e2, hm]
  · have := congrArg (List.map Prod.snd) h.transports
    simpa [List.map_map, Function.comp_def, tKey, tcKey] using this

theorem Shape.bufNodup {inst : Instance} {s : State} (h : Shape inst s) (w : WF inst) :
    ((allBufStates s).map (·.id)).Nodup := h.bufIds ▸ w.bufNodup

end JSL
