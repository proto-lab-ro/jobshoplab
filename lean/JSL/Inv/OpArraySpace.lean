import JSL.Inv.ObsSpace
import JSL.Inv.OpsLemmas
import JSL.Inv.EnvReach

/-!
# C14 — the arrays of `OperationArrayObservation.make` and the offer triple lie in `Box(0, 1)`

The declared Gymnasium space of the operation-array factories is `Box(0, 1)` for
`operation_state`, `job_locations` and `current_transition`.

* `opArray_operation_state_in_unit` – under the schedule invariant (a processing record has
  `start ≤ now ≤ stop`) every entry of `operation_state` lies in `[0, 1]`;
  `opArray_operation_state_env` – so it does at every environment state in which the agent has a
  decision; `envReach_live_or_done` – every other environment state of an episode is terminated,
  with all records done and all entries `1`.
* `opArray_job_locations_in_unit` – `job_locations ⊆ [0, 1]` **provided** every location is at most
  `opArrayMaxBuf inst` as a number.  That proviso is not a consequence of the invariants: buffer ids
  need not be `0 … maxBuf`.  `opArray_job_location_gt_one` shows the entry is `> 1` as soon as a
  location exceeds the divisor (recorded finding); `structInv_loc_le_maxBuf` shows the proviso *does*
  follow from `StructInv` when the configured buffer ids are `0 … maxBuf` in some order.
* `currentTransition_offer_in_unit` – the offer triple of a pending offer: `0 ≤ index/length < 1`,
  type code `∈ {0, 33/100, 66/100}`, and `job/n ∈ [0, 1]` provided the job number of the head offer
  is `≤ n` (`currentTransition_job_gt_one`: otherwise it is `> 1`).
-/

namespace JSL

theorem opEntry_in_unit {time : Int} {o : OpState} {v : Rat} (hr : OpEntryRead time o v)
    (hp : o.st = .processing →
      ∃ a b, o.start = some a ∧ o.stop = some b ∧ a ≤ b ∧ a ≤ time ∧ time ≤ b) :
    0 ≤ v ∧ v ≤ 1 := by
  obtain ⟨hi, hd, hpr, hnt⟩ := hr
  cases hst : o.st with
  | idle => rw [hi hst]; exact ⟨le_refl _, zero_le_one⟩
  | done => rw [hd hst]; exact ⟨zero_le_one, le_refl _⟩
  | processing =>
    obtain ⟨a, b, ha, hb, hne, rfl⟩ := hpr hst
    obtain ⟨a', b', ha', hb', hab, hat, htb⟩ := hp hst
    rw [ha] at ha'
    rw [hb] at hb'
    cases ha'
    cases hb'
    exact div_in_unit (Int.cast_nonneg (by omega)) (Int.cast_le.mpr (by omega))
      (Int.cast_pos.mpr (by omega))
  | transport => exact absurd hst hnt

theorem opArray_operation_state_in_unit_of (inst : Instance) (s : State) (ops locs : List Rat)
    (hproc : ∀ j ∈ s.jobs, ∀ o ∈ j.ops, o.st = .processing →
      ∃ a b, o.start = some a ∧ o.stop = some b ∧ a ≤ b ∧ a ≤ s.time ∧ s.time ≤ b)
    (h : opArrayObs inst s = .ok (ops, locs)) :
    (∀ v ∈ ops, 0 ≤ v ∧ v ≤ 1) ∧ ops.length = (s.jobs.flatMap (·.ops)).length := by
  obtain ⟨hlen, hall⟩ := opArray_ops_read inst s ops locs h
  refine ⟨?_, hlen⟩
  intro v hv
  obtain ⟨o, ho, hr⟩ := forall2_mem_right hall v hv
  obtain ⟨j, hj, hoj⟩ := List.mem_flatMap.mp ho
  exact opEntry_in_unit hr (hproc j hj o hoj)

theorem SchedInv.processing_window {s : State} (hS : SchedInv s) :
    ∀ j ∈ s.jobs, ∀ o ∈ j.ops, o.st = .processing →
      ∃ a b, o.start = some a ∧ o.stop = some b ∧ a ≤ b ∧ a ≤ s.time ∧ s.time ≤ b :=
  fun j hj o ho hst => (OpsOK_mem j.ops none (hS.ops j hj) o ho).2.1 hst

/-- **`operation_state` lies in `Box(0, 1)`** under the schedule invariant, one entry per operation
record. -/
theorem opArray_operation_state_in_unit (inst : Instance) (s : State) (ops locs : List Rat)
    (hS : SchedInv s) (h : opArrayObs inst s = .ok (ops, locs)) :
    (∀ v ∈ ops, 0 ≤ v ∧ v ≤ 1) ∧ ops.length = (s.jobs.flatMap (·.ops)).length :=
  opArray_operation_state_in_unit_of inst s ops locs hS.processing_window h

theorem opArray_operation_state_all_done (inst : Instance) (s : State) (ops locs : List Rat)
    (hdone : ∀ j ∈ s.jobs, ∀ o ∈ j.ops, o.st = .done)
    (h : opArrayObs inst s = .ok (ops, locs)) :
    (∀ v ∈ ops, v = 1) ∧ ops.length = (s.jobs.flatMap (·.ops)).length := by
  obtain ⟨hlen, hall⟩ := opArray_ops_read inst s ops locs h
  refine ⟨?_, hlen⟩
  intro v hv
  obtain ⟨o, ho, hr⟩ := forall2_mem_right hall v hv
  obtain ⟨j, hj, hoj⟩ := List.mem_flatMap.mp ho
  exact hr.2.1 (hdone j hj o hoj)

theorem opArray_operation_state_all_done_in_unit (inst : Instance) (s : State) (ops locs : List Rat)
    (hdone : ∀ j ∈ s.jobs, ∀ o ∈ j.ops, o.st = .done)
    (h : opArrayObs inst s = .ok (ops, locs)) : ∀ v ∈ ops, 0 ≤ v ∧ v ≤ 1 := by
  intro v hv
  rw [(opArray_operation_state_all_done inst s ops locs hdone h).1 v hv]
  exact ⟨zero_le_one, le_refl _⟩

/-- the hypothesis on processing records cannot be dropped: a record in process whose planned end
lies in the past (here start 0, stop 1, clock 3) yields the entry `3 > 1` -/
theorem opArray_operation_state_exceed_witness :
    let inst : Instance := { jobs := [], travel := [], machines := [], buffers := [], transports := [] }
    let o : OpState := { job := 0, idx := 0, start := some 0, stop := some 1, machine := 0, st := .processing }
    let s : State := { jobs := [{ id := 0, ops := [o], loc := 0 }], time := 3, machines := [],
                       transports := [], buffers := [] }
    ∀ ops locs, opArrayObs inst s = .ok (ops, locs) → ∃ v ∈ ops, 1 < v := by
  intro inst o s ops locs h
  obtain ⟨v, hv, hr⟩ := opArray_ops_read_at inst s ops locs h 0 o rfl
  refine ⟨v, List.mem_of_getElem? hv, ?_⟩
  obtain ⟨a, b, ha, hb, _, rfl⟩ := hr.2.2.1 rfl
  cases ha
  cases hb
  norm_num [s]

theorem locEntry_in_unit {loc : Nat} {m : Int} (hm : m ≠ 0) (hle : (loc : Int) ≤ m) :
    0 ≤ (loc : Rat) / (m : Rat) ∧ (loc : Rat) / (m : Rat) ≤ 1 := by
  have hpos : (0 : Int) < m := by omega
  exact div_in_unit (Nat.cast_nonneg loc) (by exact_mod_cast hle) (Int.cast_pos.mpr hpos)

theorem locEntry_gt_one {loc : Nat} {m : Int} (hpos : 0 < m) (hlt : m < (loc : Int)) :
    1 < (loc : Rat) / (m : Rat) := by
  have hposq : (0 : Rat) < (m : Rat) := Int.cast_pos.mpr hpos
  have h1q : (m : Rat) < (loc : Rat) := by exact_mod_cast hlt
  exact (one_lt_div hposq).mpr h1q

/-- **`job_locations` lies in `Box(0, 1)`** provided every job's location is, as a number, at most
the divisor `opArrayMaxBuf inst`; one entry per job. -/
theorem opArray_job_locations_in_unit (inst : Instance) (s : State) (ops locs : List Rat)
    (h : opArrayObs inst s = .ok (ops, locs))
    (hloc : ∀ j ∈ s.jobs, (j.loc : Int) ≤ opArrayMaxBuf inst) :
    (∀ v ∈ locs, 0 ≤ v ∧ v ≤ 1) ∧ locs.length = s.jobs.length := by
  have p := (opArrayObs_parts h).2
  refine ⟨?_, p.length_eq.symm⟩
  intro v hv
  obtain ⟨j, hj, hz, rfl⟩ := forall2_mem_right p v hv
  exact locEntry_in_unit hz (hloc j hj)

/-- **The proviso is needed** (recorded finding): a job whose location exceeds a positive divisor
has an entry `> 1`, outside the declared `Box(0, 1)`. -/
theorem opArray_job_location_gt_one (inst : Instance) (s : State) (ops locs : List Rat)
    (h : opArrayObs inst s = .ok (ops, locs)) (i : Nat) (j : JobState) (hj : s.jobs[i]? = some j)
    (hpos : 0 < opArrayMaxBuf inst) (hgt : opArrayMaxBuf inst < (j.loc : Int)) :
    ∃ v, locs[i]? = some v ∧ 1 < v :=
  ⟨_, (opArray_locs_read_at inst s ops locs h i j hj).1, locEntry_gt_one hpos hgt⟩

theorem opArray_job_locations_in_unit_iff (inst : Instance) (s : State) (ops locs : List Rat)
    (h : opArrayObs inst s = .ok (ops, locs)) (hpos : 0 < opArrayMaxBuf inst) :
    (∀ v ∈ locs, 0 ≤ v ∧ v ≤ 1) ↔ ∀ j ∈ s.jobs, (j.loc : Int) ≤ opArrayMaxBuf inst := by
  constructor
  · intro hall j hj
    rcases lt_or_ge (opArrayMaxBuf inst) (j.loc : Int) with hgt | hle
    · obtain ⟨i, hi, hget⟩ := List.getElem_of_mem hj
      have hget' : s.jobs[i]? = some j := by simp [hi, hget]
      obtain ⟨v, hv, h1⟩ := opArray_job_location_gt_one inst s ops locs h i j hget' hpos hgt
      exact absurd (hall v (List.mem_of_getElem? hv)).2 (not_le.mpr h1)
    · exact hle
  · intro hloc
    exact (opArray_job_locations_in_unit inst s ops locs h hloc).1

theorem flatMap_triple_length {α β} (f g k : α → β) (l : List α) :
    (l.flatMap fun m => [f m, g m, k m]).length = l.length * 3 := by
  induction l with
  | nil => rfl
  | cons a as ih =>
    simp only [List.flatMap_cons, List.length_append, List.length_cons, List.length_nil, ih]
    omega

/-- the number of configured buffers is the number the factory computes -/
theorem allBufCfgs_length (inst : Instance) :
    (allBufCfgs inst).length = inst.buffers.length + inst.machines.length * 3 + inst.transports.length := by
  unfold allBufCfgs
  rw [List.length_append, List.length_append, flatMap_triple_length, List.length_map]

theorem opArrayMaxBuf_eq (inst : Instance) :
    opArrayMaxBuf inst = ((allBufCfgs inst).length : Int) - 1 := by
  rw [allBufCfgs_length]
  rfl

theorem StructInv.loc_mem_bufIds {inst : Instance} {s : State} (hI : StructInv inst s) {j : JobState}
    (hj : j ∈ s.jobs) : j.loc ∈ (allBufCfgs inst).map (·.id) := by
  have h1 : j.id ∈ storeAt s j.loc := hI.cons.located (j.id, j.loc) (List.mem_map.mpr ⟨j, hj, rfl⟩)
  obtain ⟨b, hb, hbi, _⟩ := storeAt_mem h1
  rw [← hI.shape.bufIds]
  exact List.mem_map.mpr ⟨b, hb, hbi⟩

/-- **the proviso follows from the structural invariant when the buffer ids are `0 … maxBuf`** (in
any order): every location is then `≤ opArrayMaxBuf inst` -/
theorem structInv_loc_le_maxBuf {inst : Instance} {s : State} (hI : StructInv inst s)
    (hids : ((allBufCfgs inst).map (·.id)).Perm (List.range (allBufCfgs inst).length)) :
    ∀ j ∈ s.jobs, (j.loc : Int) ≤ opArrayMaxBuf inst := by
  intro j hj
  have hlt : j.loc < (allBufCfgs inst).length := List.mem_range.mp (hids.subset (hI.loc_mem_bufIds hj))
  rw [opArrayMaxBuf_eq]
  omega

theorem currentTransition_done (inst : Instance) (n : Nat) (res : SMResult) :
    currentTransition inst n res true = .ok (1, 1, 1) := rfl

theorem typeCode100_le (k : Nat) : typeCode100 k ≤ 66 := by
  unfold typeCode100
  split <;> omega

theorem offerCode_le (tr : Transition) : offerCode tr ≤ 100 := by
  unfold offerCode
  split
  · exact Nat.le_trans (typeCode100_le 0) (by omega)
  · exact Nat.le_trans (typeCode100_le 1) (by omega)
  · exact Nat.le_trans (typeCode100_le 2) (by omega)

theorem offerCode_values (tr : Transition) : offerCode tr = 0 ∨ offerCode tr = 33 ∨ offerCode tr = 66 := by
  unfold offerCode
  split
  · exact Or.inl rfl
  · exact Or.inr (Or.inl rfl)
  · exact Or.inr (Or.inr rfl)

theorem natDiv_in_unit {k m : Nat} (hm : 0 < m) (hle : k ≤ m) :
    0 ≤ (k : Rat) / (m : Rat) ∧ (k : Rat) / (m : Rat) ≤ 1 :=
  div_in_unit (Nat.cast_nonneg k) (Nat.cast_le.mpr hle) (Nat.cast_pos.mpr hm)

/-- **the offer triple, pending offer**: `0 ≤ a < 1` and `0 ≤ c ≤ 1` always; `0 ≤ b`, and `b ≤ 1`
provided the job number of the head offer is at most `n` -/
theorem currentTransition_offer_in_unit (inst : Instance) (n : Nat) (res : SMResult) (a b c : Rat)
    (h : currentTransition inst n res false = .ok (a, b, c)) :
    ∃ tr rest, res.possible = tr :: rest ∧
      (0 ≤ a ∧ a < 1) ∧ 0 ≤ b ∧ (0 ≤ c ∧ c ≤ 1) ∧
      (c = 0 ∨ c = 33 / 100 ∨ c = 66 / 100) ∧
      ((∀ j, tr.job = some j → j ≤ n) → b ≤ 1) := by
  obtain ⟨tr, rest, idx, hp, hn, _, hlt, rfl, rfl, rfl⟩ := currentTransition_parts h
  have hnpos : 0 < n := Nat.pos_of_ne_zero hn
  have hnq : (0 : Rat) < (n : Rat) := Nat.cast_pos.mpr hnpos
  have hlpos : (0 : Rat) < ((offerComps inst).length : Rat) := Nat.cast_pos.mpr (by omega)
  refine ⟨tr, rest, hp, ⟨div_nonneg (Nat.cast_nonneg _) (le_of_lt hlpos), ?_⟩,
    div_nonneg (Nat.cast_nonneg _) (le_of_lt hnq), ?_, ?_, ?_⟩
  · exact (div_lt_one hlpos).mpr (Nat.cast_lt.mpr hlt)
  · have := natDiv_in_unit (k := offerCode tr) (m := 100) (by omega) (offerCode_le tr)
    simpa using this
  · rcases offerCode_values tr with e | e | e <;> rw [e]
    · left; simp
    · right; left; norm_num
    · right; right; norm_num
  · intro hj
    have hle : offerJobNum n tr ≤ n := by
      unfold offerJobNum
      cases e : tr.job with
      | none => exact Nat.le_refl _
      | some j => exact hj j e
    exact (natDiv_in_unit hnpos hle).2

/-- the proviso on the job number is needed: an offer for a job numbered above `n` is encoded by
a value `> 1` -/
theorem currentTransition_job_gt_one (inst : Instance) (n : Nat) (res : SMResult) (a b c : Rat)
    (h : currentTransition inst n res false = .ok (a, b, c)) (tr : Transition) (rest : List Transition)
    (hp : res.possible = tr :: rest) (j : Nat) (hj : tr.job = some j) (hgt : n < j) : 1 < b := by
  obtain ⟨tr', rest', idx, hp', hn, _, _, _, rfl, _⟩ := currentTransition_parts h
  rw [hp] at hp'
  simp only [List.cons.injEq] at hp'
  obtain ⟨rfl, _⟩ := hp'
  have hnq : (0 : Rat) < (n : Rat) := Nat.cast_pos.mpr (Nat.pos_of_ne_zero hn)
  have e : offerJobNum n tr = j := by simp [offerJobNum, hj]
  rw [e]
  exact (one_lt_div hnq).mpr (Nat.cast_lt.mpr hgt)

variable {orc : Oracle} {inst : Instance}

/-- **`operation_state ⊆ [0, 1]` at every environment state in which the agent has a decision** -/
theorem opArray_operation_state_env {ec : EnvCfg} {st : RewardStatic} {s0 : State}
    (hst : Start orc inst s0) {e : EnvState} (he : EnvReach orc inst ec st s0 e)
    (hne : e.res.possible ≠ []) (ops locs : List Rat)
    (h : opArrayObs inst e.res.state = .ok (ops, locs)) :
    (∀ v ∈ ops, 0 ≤ v ∧ v ≤ 1) ∧ ops.length = (e.res.state.jobs.flatMap (·.ops)).length := by
  have hl := ((envReach_inv hst he).live hne).1
  obtain ⟨_, _, hS⟩ := occursA_inv hst hl
  exact opArray_operation_state_in_unit inst e.res.state ops locs hS h

theorem opArray_operation_state_env_terminated {ec : EnvCfg} {st : RewardStatic} {s0 : State}
    (hst : Start orc inst s0) {e : EnvState} (he : EnvReach orc inst ec st s0 e)
    (hd : isDone inst e.res.state = true) (ops locs : List Rat)
    (h : opArrayObs inst e.res.state = .ok (ops, locs)) :
    (∀ v ∈ ops, v = 1) ∧ ops.length = (e.res.state.jobs.flatMap (·.ops)).length :=
  opArray_operation_state_all_done inst e.res.state ops locs
    (isDone_all_done (envReach_inv hst he).full.route hd) h

theorem smStep_live_or_done {cfg : SMConfig} {s0 s : State} (hA : OccursA orc inst cfg s0 s)
    {a : Action} (ha : Admissible a) {fuel : Nat} {r r' : Rng} {res : SMResult} {mic : List State}
    (hstep : smStep orc inst cfg fuel s r a = .ok (res, r', mic)) :
    OccursA orc inst cfg s0 res.state ∨ isDone inst res.state = true := by
  rcases (smStep_spec hstep).2 with h1 | h1 | h1
  · left; rw [h1.2.2.1]; exact hA
  · right; exact h1.2.2.2
  · left; exact OccursA.result hA ha hstep h1.2.1

theorem envReach_live_or_done {ec : EnvCfg} {st : RewardStatic} {s0 : State} (hst : Start orc inst s0)
    {e : EnvState} (h : EnvReach orc inst ec st s0 e) :
    OccursA orc inst ec.sm s0 e.res.state ∨ isDone inst e.res.state = true :=
  EnvLift.reach (Q := fun _ => True)
    { init := fun h => ⟨smStep_live_or_done OccursA.init admissible_noOp h, fun _ _ => trivial⟩
      drop := fun hr _ => hr
      step := fun hi _ hne ha _ hs => ⟨smStep_live_or_done (hi.live hne).1 ha hs, fun _ _ => trivial⟩ }
    hst h

end JSL
