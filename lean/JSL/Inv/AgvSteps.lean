import JSL.Inv.MachineSteps
import JSL.Inv.SpecAgv

/-!
# Structural invariants are preserved by the AGV handlers
-/

namespace JSL

variable {orc : Oracle} {inst : Instance}

theorem replaceTransport_same_struct (w : WF inst) {s : State} (hI : StructInv inst s) {t t' : TransportState}
    (ht : t ∈ s.transports) (hk : tKey t' = tKey t) (hst : t'.buffer.store = t.buffer.store) :
    StructInv inst (s.replaceTransport t') := by
  have hsame : Same s (s.replaceTransport t') := {
    store := storeAt_replaceTransport_same hI.shape w ht hk hst
    locs := rfl }
  exact ⟨hI.shape.replaceTransport w ht hk, hsame.conserved hI.cons, hsame.cap hI.cap⟩

theorem idleToWorking_struct (w : WF inst) {s s' : State} {r r' : Rng} {tr : Transition} {t : TransportState}
    (hI : StructInv inst s) (ht : t ∈ s.transports)
    (h : handleAgvIdleToWorking orc inst s r tr t = .ok (s', r')) : StructInv inst s' := by
  obtain ⟨j, cur, target, src, bc, c, _, _, _, _, _, _, _, _, _, rfl⟩ := idleToWorking_spec h
  exact replaceTransport_same_struct w hI ht (by simp [tKey, TransportState.toPickup]) rfl

theorem pickupToWaiting_struct (w : WF inst) {s s' : State} {r r' : Rng} {tr : Transition} {t : TransportState}
    (hI : StructInv inst s) (ht : t ∈ s.transports)
    (h : handleAgvPickupToWaiting inst s r tr t = .ok (s', r')) : StructInv inst s' := by
  obtain ⟨occ, _, _, _, rfl⟩ := pickupToWaiting_spec h
  exact replaceTransport_same_struct w hI ht (by simp [tKey, TransportState.toWaiting]) rfl

theorem waitingToWaiting_struct (w : WF inst) {s s' : State} {r r' : Rng} {tr : Transition} {t : TransportState}
    (hI : StructInv inst s) (ht : t ∈ s.transports)
    (h : handleAgvWaitingToWaiting inst s r tr t = .ok (s', r')) : StructInv inst s' := by
  obtain ⟨occ, _, _, rfl⟩ := waitingToWaiting_spec h
  exact replaceTransport_same_struct w hI ht (by simp [tKey, TransportState.toWaiting]) rfl

theorem agvOutageToIdle_struct (w : WF inst) {s s' : State} {r r' : Rng} {t : TransportState}
    (hI : StructInv inst s) (ht : t ∈ s.transports)
    (h : handleAgvOutageToIdle s r t = .ok (s', r')) : StructInv inst s' := by
  obtain ⟨_, rfl⟩ := agvOutageToIdle_spec h
  exact replaceTransport_same_struct w hI ht (by simp [tKey, TransportState.toIdle]) rfl

theorem at_jKey (j : JobState) (l : Nat) : jKey (j.at l) = jKey j := rfl

theorem mem_allBufCfgs_of_transport {tc : TransportCfg} (h : tc ∈ inst.transports) : tc.buf ∈ allBufCfgs inst := by
  simp only [allBufCfgs, List.mem_append, List.mem_map]
  exact Or.inr ⟨tc, h, rfl⟩

theorem room_of_id (w : WF inst) {i : Nat} {n : Int} (h : ∃ c ∈ allBufCfgs inst, c.id = i ∧ n < c.cap) :
    ∀ c ∈ allBufCfgs inst, c.id = i → n < c.cap := by
  obtain ⟨c0, hc0, hid0, hn⟩ := h
  exact fun c hc hid => room_of_cfg w hc0 hn c hc (hid.trans hid0.symm)

theorem storeAt_replaceBufInMachine {s : State} (hs : Shape inst s) (w : WF inst) {m m' : MachineState}
    (hm : m ∈ s.machines) {b : BufState} (h : replaceBufInMachine m b = .ok m') (i : Nat) :
    storeAt (s.replaceMachine m') i = if i = b.id then b.store else storeAt s i := by
  have hne := machine_buf_ids_ne hs w hm
  have hmb := mem_allBufs_of_machine hm
  have hp := storeAt_of_mem (hs.bufNodup w) hmb.1
  have hb := storeAt_of_mem (hs.bufNodup w) hmb.2.1
  have hq := storeAt_of_mem (hs.bufNodup w) hmb.2.2
  rw [storeAt_replaceMachine hs w hm (replaceBufInMachine_same h).1]
  rcases replaceBufInMachine_ok h with ⟨e, rfl⟩ | ⟨e, rfl⟩ | ⟨e, rfl⟩ <;> rw [e]
  · by_cases h1 : i = m.pre.id
    · simp [h1]
    · simp only [if_neg h1]
      split
      · rename_i h2; rw [h2, hb]
      · split
        · rename_i h3; rw [h3, hq]
        · rfl
  · by_cases h1 : i = m.pre.id
    · simp [h1, hne.1, hp]
    · simp only [if_neg h1]
      split
      · rfl
      · split
        · rename_i h3; rw [h3, hq]
        · rfl
  · by_cases h1 : i = m.pre.id
    · simp [h1, hne.2.1, hp]
    · simp only [if_neg h1]
      by_cases h2 : i = m.buffer.id
      · simp [h2, hne.2.2, hb]
      · simp only [if_neg h2]
/-- job `j` is taken from the buffer with id `k` into the buffer of AGV `t`; in `s1` the job has left `k` already -/
theorem take_struct (w : WF inst) {s s1 : State} (hI : StructInv inst s) (hs1 : Shape inst s1)
    (hJ : s1.jobs = s.jobs) (hT : s1.transports = s.transports) {t t' : TransportState} (ht : t ∈ s.transports)
    {j : JobState} (hj : j ∈ s.jobs) {k : Nat} (hne : k ≠ t.buffer.id) (hin : j.id ∈ storeAt s k)
    (hst : ∀ i, storeAt s1 i = if i = k then (storeAt s k).filter (· != j.id) else storeAt s i)
    (hroom : ∃ c ∈ allBufCfgs inst, c.id = t.buffer.id ∧ (t.buffer.store.length : Int) < c.cap)
    (htk : tKey t' = tKey t) (ht' : t'.buffer.store = t.buffer.store ++ [j.id]) :
    StructInv inst ((s1.replaceJob (j.at t.buffer.id)).replaceTransport t') := by
  have hs := hI.shape
  have htb : storeAt s t.buffer.id = t.buffer.store := storeAt_of_mem (hs.bufNodup w) (mem_allBufs_of_transport ht)
  have hs2 := hs1.replaceJob w (hJ ▸ hj) (at_jKey j t.buffer.id)
  have ht2 : t ∈ (s1.replaceJob (j.at t.buffer.id)).transports := hT ▸ ht
  have hlocs : locs s1 = locs s := by rw [locs, hJ]; rfl
  have hmv : Moved s ((s1.replaceJob (j.at t.buffer.id)).replaceTransport t') j.id k t.buffer.id := {
    ne := hne
    was := hI.cons.stored _ _ hin
    storeA := by rw [storeAt_replaceTransport hs2 w ht2 htk, if_neg hne, storeAt_replaceJob, hst, if_pos rfl]
    storeB := by rw [storeAt_replaceTransport hs2 w ht2 htk, if_pos rfl, ht', htb]
    storeO := by
      intro i hia hib
      rw [storeAt_replaceTransport hs2 w ht2 htk, if_neg hib, storeAt_replaceJob, hst, if_neg hia]
    locs := by rw [locs_replaceTransport, locs_replaceJob, hlocs]; rfl }
  refine ⟨hs2.replaceTransport w ht2 htk, hmv.conserved (hs.jobsNodup w) hI.cons, hmv.cap ?_ hI.cap⟩
  rw [htb]
  exact room_of_id w hroom

theorem pickupToTransit_struct (w : WF inst) {s s' : State} {r r' : Rng} {tr : Transition} {t : TransportState}
    (hI : StructInv inst s) (ht : t ∈ s.transports)
    (h : handleAgvPickupToTransit orc inst s r tr t = .ok (s', r')) : StructInv inst s' := by
  obtain ⟨j, src, dst, tt, bss1, bss2, hj, htj, _, _, hroom, hcase⟩ := pickupToTransit_spec h
  have hs := hI.shape
  have hparts := ids_parts hs w
  have htk : tKey (t.toTransit (s.time + tt) j.id bss2) = tKey t := rfl
  rcases hcase with ⟨fb, _, _, hfb, hfid, hin, rfl⟩ | ⟨mid, ms, bs, ms', _, _, hms, _, hbs, hin, hms', rfl⟩
  · -- from a standalone buffer
    have hfs : storeAt s fb.id = fb.store := storeAt_of_mem (hs.bufNodup w) (mem_allBufs_of_buffer hfb)
    refine take_struct w hI (hs.replaceBuffer w hfb (b' := fb.without j.id bss1) rfl) rfl rfl ht hj
      (hparts.2.1 fb hfb t ht) (by rw [hfs]; exact hin) (fun i => ?_) hroom htk rfl
    rw [storeAt_replaceBuffer hs w hfb (b' := fb.without j.id bss1) rfl, hfs]
    rfl
  · -- from a buffer of a machine
    obtain ⟨_, hbwhich⟩ := bufOfMachine_ok hbs
    have hmb := mem_allBufs_of_machine hms
    have hbst : storeAt s bs.id = bs.store := by
      rcases hbwhich with rfl | rfl | rfl
      · exact storeAt_of_mem (hs.bufNodup w) hmb.1
      · exact storeAt_of_mem (hs.bufNodup w) hmb.2.1
      · exact storeAt_of_mem (hs.bufNodup w) hmb.2.2
    have hne : bs.id ≠ t.buffer.id := by
      have := hparts.2.2 ms hms t ht
      rcases hbwhich with rfl | rfl | rfl
      · exact this.1
      · exact this.2.1
      · exact this.2.2
    refine take_struct w hI (hs.replaceMachine w hms (replaceBufInMachine_same hms').1) rfl rfl ht hj hne
      (by rw [hbst]; exact hin) (fun i => ?_) hroom htk rfl
    rw [storeAt_replaceBufInMachine hs w hms hms', hbst]
    rfl

/-- job `j` is put from the buffer of AGV `t` to the back of the buffer with id `k`; `s'` is the state in
which the job has left the AGV, with the store at `k` written -/
theorem put_struct (w : WF inst) {s s' : State} (hI : StructInv inst s) {t t' : TransportState} (ht : t ∈ s.transports)
    {j : JobState} (hj : j ∈ s.jobs) (hin : j.id ∈ t.buffer.store) {k : Nat} (hne : t.buffer.id ≠ k)
    (htk : tKey t' = tKey t) (ht' : t'.buffer.store = t.buffer.store.filter (· != j.id))
    (hs' : Shape inst s') (hlocs : locs s' = locs (s.replaceJob (j.at k)))
    (hst : ∀ i, storeAt s' i = if i = k then storeAt s k ++ [j.id]
      else storeAt ((s.replaceJob (j.at k)).replaceTransport t') i)
    (hroom : ∃ c ∈ allBufCfgs inst, c.id = k ∧ ((storeAt s k).length : Int) < c.cap) : StructInv inst s' := by
  have hs := hI.shape
  have htb : storeAt s t.buffer.id = t.buffer.store := storeAt_of_mem (hs.bufNodup w) (mem_allBufs_of_transport ht)
  have hs1 := hs.replaceJob w hj (at_jKey j k)
  have e : ∀ i, storeAt ((s.replaceJob (j.at k)).replaceTransport t') i =
      if i = t.buffer.id then t.buffer.store.filter (· != j.id) else storeAt s i := by
    intro i
    rw [storeAt_replaceTransport hs1 w (s := s.replaceJob _) ht htk, ht', storeAt_replaceJob]
  have hmv : Moved s s' j.id t.buffer.id k := {
    ne := hne
    was := hI.cons.stored _ _ (by rw [htb]; exact hin)
    storeA := by rw [hst, if_neg hne, e, if_pos rfl, htb]
    storeB := by rw [hst, if_pos rfl]
    storeO := by
      intro i hia hib
      rw [hst, if_neg hib, e, if_neg hia]
    locs := by rw [hlocs, locs_replaceJob]; rfl }
  exact ⟨hs', hmv.conserved (hs.jobsNodup w) hI.cons, hmv.cap (room_of_id w hroom) hI.cap⟩

theorem transitToOutage_struct (w : WF inst) {s s' : State} {r r' : Rng} {tr : Transition} {t : TransportState}
    (hI : StructInv inst s) (ht : t ∈ s.transports)
    (h : handleAgvTransitToOutage orc inst s r tr t = .ok (s', r')) : StructInv inst s' := by
  obtain ⟨j, cur, pick, drop, tc, outs, bss1, bss2, hj, htj, _, hin, _, _, _, hcase⟩ := transitToOutage_spec h
  have hs := hI.shape
  have hparts := ids_parts hs w
  have htk : tKey (t.toOutage j.id bss1 outs (s.time + occupiedFor outs) drop) = tKey t := rfl
  rcases hcase with ⟨mid, ms, _, hms, _, hroom, rfl⟩ | ⟨bid, b, _, hb, _, hroom, rfl⟩
  · -- to the input buffer of a machine
    have hpre : storeAt s ms.pre.id = ms.pre.store :=
      storeAt_of_mem (hs.bufNodup w) (mem_allBufs_of_machine hms).1
    have hs2 := (hs.replaceJob w hj (at_jKey j ms.pre.id)).replaceTransport w (s := s.replaceJob _) ht htk
    have hrep : replaceBufInMachine ms (ms.pre.withBack j.id bss2) = .ok (ms.withPre j.id bss2) := by
      simp [replaceBufInMachine, MachineState.withPre]
    refine put_struct w hI ht hj hin (hparts.2.2 ms hms t ht).1.symm htk rfl
      (hs2.replaceMachine w (s := (s.replaceJob _).replaceTransport _) hms (replaceBufInMachine_same hrep).1) rfl
      (fun i => ?_) (by rw [hpre]; exact hroom)
    rw [storeAt_replaceBufInMachine hs2 w (s := (s.replaceJob _).replaceTransport _) hms hrep, hpre]
    rfl
  · -- to a standalone buffer
    have hbs : storeAt s b.id = b.store := storeAt_of_mem (hs.bufNodup w) (mem_allBufs_of_buffer hb)
    have hs2 := (hs.replaceJob w hj (at_jKey j b.id)).replaceTransport w (s := s.replaceJob _) ht htk
    refine put_struct w hI ht hj hin (hparts.2.1 b hb t ht).symm htk rfl
      (hs2.replaceBuffer w (s := (s.replaceJob _).replaceTransport _) hb (b' := b.withBack j.id bss2) rfl) rfl
      (fun i => ?_) (by rw [hbs]; exact hroom)
    rw [storeAt_replaceBuffer hs2 w (s := (s.replaceJob _).replaceTransport _) hb (b' := b.withBack j.id bss2) rfl, hbs]
    rfl

end JSL
