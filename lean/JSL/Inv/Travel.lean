import JSL.Inv.RoutePass

/-!
# Travel: an operation never starts before its predecessor's end plus the travel time

For two consecutive operations `a`, `b` of a job, `a` finished at `e`, with a travel time `d`
from `a`'s machine to `b`'s machine: once `b` has started, it started at `e + d` or later; before
that, the job lies in the post-buffer of `a`'s machine, or on an AGV that arrives no earlier than
`e + d`, or in the pre-buffer of `b`'s machine at a time no earlier than `e + d`.  `d` is the value
the configured entry yields when the pickup calls `update()` and reads it: a constant itself, or
for a stochastic object `sid` the sample `orc sid (r sid + 1)`, of index `k ≥ 1`; both are
`c.at orc k`.  `TravelInv` states this for constant entries, `TravelInvS` for stochastic ones;
`TravelInvG` states it for a family `f : ι → TimeCfg` of entries and is what is carried through the
steps.
-/

namespace JSL

variable {orc : Oracle} {inst : Instance}

def AdjL (l : List OpState) (a b : OpState) : Prop := ∃ l1 l2, l = l1 ++ a :: b :: l2

def detTravel (inst : Instance) (a b : OpState) (d : Int) : Prop :=
  travelCfg inst (.m a.machine) (.m b.machine) = some (.det d)

structure JobOK (inst : Instance) (s : State) (j : JobState) : Prop where
  start : ∀ a b, AdjL j.ops a b → a.st = .done → ∀ e, a.stop = some e → ∀ d, detTravel inst a b d →
    b.st ≠ .idle → ∀ x, b.start = some x → e + d ≤ x
  wait : ∀ a b, AdjL j.ops a b → a.st = .done → ∀ e, a.stop = some e → ∀ d, detTravel inst a b d → b.st = .idle →
    (∃ m ∈ s.machines, m.id = a.machine ∧ j.loc = m.post.id) ∨
    (∃ t ∈ s.transports, j.loc = t.buffer.id ∧ ∃ o, t.occ = .at o ∧ e + d ≤ o) ∨
    (∃ m ∈ s.machines, m.id = b.machine ∧ j.loc = m.pre.id ∧ e + d ≤ s.time)

def TravelInv (inst : Instance) (s : State) : Prop := ∀ j ∈ s.jobs, JobOK inst s j

def stochTravel (inst : Instance) (a b : OpState) (sid : Nat) : Prop :=
  travelCfg inst (.m a.machine) (.m b.machine) = some (.stoch sid)

structure JobOKS (orc : Oracle) (inst : Instance) (s : State) (j : JobState) : Prop where
  start : ∀ a b, AdjL j.ops a b → a.st = .done → ∀ e, a.stop = some e → ∀ sid, stochTravel inst a b sid →
    b.st ≠ .idle → ∀ x, b.start = some x → ∃ k, 1 ≤ k ∧ e + orc sid k ≤ x
  wait : ∀ a b, AdjL j.ops a b → a.st = .done → ∀ e, a.stop = some e → ∀ sid, stochTravel inst a b sid → b.st = .idle →
    (∃ m ∈ s.machines, m.id = a.machine ∧ j.loc = m.post.id) ∨
    (∃ t ∈ s.transports, j.loc = t.buffer.id ∧ ∃ o, t.occ = .at o ∧ ∃ k, 1 ≤ k ∧ e + orc sid k ≤ o) ∨
    (∃ m ∈ s.machines, m.id = b.machine ∧ j.loc = m.pre.id ∧ ∃ k, 1 ≤ k ∧ e + orc sid k ≤ s.time)

def TravelInvS (orc : Oracle) (inst : Instance) (s : State) : Prop := ∀ j ∈ s.jobs, JobOKS orc inst s j

variable {ι : Type} {f : ι → TimeCfg}

structure JobOKG (orc : Oracle) (inst : Instance) (f : ι → TimeCfg) (s : State) (j : JobState) : Prop where
  start : ∀ a b, AdjL j.ops a b → a.st = .done → ∀ e, a.stop = some e →
    ∀ i, travelCfg inst (.m a.machine) (.m b.machine) = some (f i) →
    b.st ≠ .idle → ∀ x, b.start = some x → ∃ k, 1 ≤ k ∧ e + (f i).at orc k ≤ x
  wait : ∀ a b, AdjL j.ops a b → a.st = .done → ∀ e, a.stop = some e →
    ∀ i, travelCfg inst (.m a.machine) (.m b.machine) = some (f i) → b.st = .idle →
    (∃ m ∈ s.machines, m.id = a.machine ∧ j.loc = m.post.id) ∨
    (∃ t ∈ s.transports, j.loc = t.buffer.id ∧ ∃ o, t.occ = .at o ∧ ∃ k, 1 ≤ k ∧ e + (f i).at orc k ≤ o) ∨
    (∃ m ∈ s.machines, m.id = b.machine ∧ j.loc = m.pre.id ∧ ∃ k, 1 ≤ k ∧ e + (f i).at orc k ≤ s.time)

def TravelInvG (orc : Oracle) (inst : Instance) (f : ι → TimeCfg) (s : State) : Prop :=
  ∀ j ∈ s.jobs, JobOKG orc inst f s j

theorem JobOKG.stoch {s : State} {j : JobState} (h : JobOKG orc inst .stoch s j) : JobOKS orc inst s j :=
  ⟨h.start, h.wait⟩

theorem JobOKS.toG {s : State} {j : JobState} (h : JobOKS orc inst s j) : JobOKG orc inst .stoch s j :=
  ⟨h.start, h.wait⟩

theorem JobOKG.det {s : State} {j : JobState} (h : JobOKG orc inst .det s j) : JobOK inst s j := by
  constructor
  · intro a b hadj ha e he d hd hb x hx
    obtain ⟨_, _, hk⟩ := h.start a b hadj ha e he d hd hb x hx
    exact hk
  · intro a b hadj ha e he d hd hb
    rcases h.wait a b hadj ha e he d hd hb with h1 | ⟨t, ht, e1, o, e2, _, _, hk⟩ | ⟨m, hm, e1, e2, _, _, hk⟩
    · exact Or.inl h1
    · exact Or.inr (Or.inl ⟨t, ht, e1, o, e2, hk⟩)
    · exact Or.inr (Or.inr ⟨m, hm, e1, e2, hk⟩)

theorem JobOK.toG {s : State} {j : JobState} (h : JobOK inst s j) : JobOKG orc inst .det s j := by
  constructor
  · intro a b hadj ha e he d hd hb x hx
    exact ⟨1, Nat.le_refl _, h.start a b hadj ha e he d hd hb x hx⟩
  · intro a b hadj ha e he d hd hb
    rcases h.wait a b hadj ha e he d hd hb with h1 | ⟨t, ht, e1, o, e2, hk⟩ | ⟨m, hm, e1, e2, hk⟩
    · exact Or.inl h1
    · exact Or.inr (Or.inl ⟨t, ht, e1, o, e2, 1, Nat.le_refl _, hk⟩)
    · exact Or.inr (Or.inr ⟨m, hm, e1, e2, 1, Nat.le_refl _, hk⟩)

theorem adjL_map {f : OpState → OpState} {l : List OpState} {a' b' : OpState} (h : AdjL (l.map f) a' b') :
    ∃ a b, AdjL l a b ∧ a' = f a ∧ b' = f b := by
  obtain ⟨l1', l2', e⟩ := h
  obtain ⟨l1, r, rfl, _, hr⟩ := List.map_eq_append_iff.mp e
  obtain ⟨a, r1, rfl, ha, hr1⟩ := List.map_eq_cons_iff.mp hr
  obtain ⟨b, r2, rfl, hb, _⟩ := List.map_eq_cons_iff.mp hr1
  exact ⟨a, b, ⟨l1, r2, rfl⟩, ha.symm, hb.symm⟩

theorem adjL_mem {l : List OpState} {a b : OpState} (h : AdjL l a b) : a ∈ l ∧ b ∈ l := by
  obtain ⟨l1, l2, rfl⟩ := h; simp

theorem OpsOK_split_done {now : Int} : ∀ (l1 : List OpState) (prev : Option Int) (a : OpState) (rest : List OpState),
    OpsOK now prev (l1 ++ a :: rest) → a.st = .done → (∀ x ∈ l1, x.st = .done) ∧ ∃ p, OpsOK now p (a :: rest)
  | [], prev, a, rest, h, _ => ⟨by simp, prev, h⟩
  | o :: os, prev, a, rest, h, ha => by
    cases hst : o.st with
    | done =>
      simp only [List.cons_append, OpsOK, hst] at h
      obtain ⟨_, b, _, _, _, _, _, h6⟩ := h
      obtain ⟨h1, h2⟩ := OpsOK_split_done os (some b) a rest h6 ha
      exact ⟨fun x hx => by rcases List.mem_cons.mp hx with rfl | hx; exact hst; exact h1 x hx, h2⟩
    | processing =>
      simp only [List.cons_append, OpsOK, hst] at h
      obtain ⟨_, _, _, _, _, _, _, _, hi⟩ := h
      have := hi a (by simp)
      rw [ha] at this; cases this
    | idle =>
      simp only [List.cons_append, OpsOK, hst] at h
      have := h a (by simp)
      rw [ha] at this; cases this
    | transport =>
      simp only [List.cons_append, OpsOK, hst] at h

theorem OpsOK_adj_done_idle {now : Int} {l : List OpState} (h : OpsOK now none l) {a b : OpState} (hadj : AdjL l a b)
    (ha : a.st = .done) (hb : b.st = .idle) :
    (∀ o ∈ l, o.st ≠ .processing) ∧ l.find? (·.st == .idle) = some b ∧ l.find? (·.st != .done) = some b := by
  obtain ⟨l1, l2, rfl⟩ := hadj
  obtain ⟨h1, p, h2⟩ := OpsOK_split_done l1 none a (b :: l2) h ha
  simp only [OpsOK, ha] at h2
  obtain ⟨_, e, _, _, _, _, _, h3⟩ := h2
  simp only [OpsOK, hb] at h3
  refine ⟨?_, ?_, ?_⟩
  · intro o ho
    simp only [List.mem_append, List.mem_cons] at ho
    rcases ho with ho | rfl | rfl | ho
    · rw [h1 o ho]; simp
    · rw [ha]; simp
    · rw [hb]; simp
    · rw [h3 o ho]; simp
  · rw [List.find?_append]
    have : l1.find? (·.st == .idle) = none := by
      apply List.find?_eq_none.mpr; intro x hx; rw [h1 x hx]; simp
    rw [this]; simp [List.find?_cons, ha, hb]
  · rw [List.find?_append]
    have : l1.find? (·.st != .done) = none := by
      apply List.find?_eq_none.mpr; intro x hx; rw [h1 x hx]; simp
    rw [this]; simp [List.find?_cons, ha, hb]

theorem OpsOK_adj_done_next {now : Int} {l : List OpState} (h : OpsOK now none l) {a b : OpState} (hadj : AdjL l a b)
    (ha : a.st = .done) (hb : b.st ≠ .done) : l.find? (·.st != .done) = some b := by
  obtain ⟨l1, l2, rfl⟩ := hadj
  obtain ⟨h1, _, _⟩ := OpsOK_split_done l1 none a (b :: l2) h ha
  rw [List.find?_append]
  have : l1.find? (·.st != .done) = none := by
    apply List.find?_eq_none.mpr; intro x hx; rw [h1 x hx]; simp
  rw [this]; simp [List.find?_cons, ha, hb]

theorem machine_of_buf_id (w : WF inst) {s : State} (hs : Shape inst s) {m1 m2 : MachineState}
    (h1 : m1 ∈ s.machines) (h2 : m2 ∈ s.machines) {x : Nat}
    (hx1 : x = m1.pre.id ∨ x = m1.buffer.id ∨ x = m1.post.id) (hx2 : x = m2.pre.id ∨ x = m2.buffer.id ∨ x = m2.post.id) :
    m1 = m2 := by
  by_cases e : m1.id = m2.id
  · exact eq_of_mem_of_key_eq (key := fun (y : MachineState) => y.id) (hs.machNodup w) h1 h2 e
  · exact absurd rfl (machines_bufs_ne hs w h1 h2 e x (by simpa using hx1) x (by simpa using hx2))

theorem machine_transfer {s s' : State} (hs : Shape inst s) (hs' : Shape inst s') {m : MachineState} (hm : m ∈ s.machines) :
    ∃ m' ∈ s'.machines, mKey m' = mKey m := by
  have e : s.machines.map mKey = s'.machines.map mKey := by rw [hs.machines, hs'.machines]
  obtain ⟨m', hm', e'⟩ := mem_of_map_eq e hm
  exact ⟨m', hm', e'.symm⟩

theorem JobOKG.keep {s s' : State} {j : JobState} (h : JobOKG orc inst f s j) (htime : s.time ≤ s'.time)
    (hm : ∀ m ∈ s.machines, ∃ m' ∈ s'.machines, mKey m' = mKey m)
    (ht : ∀ t ∈ s.transports, j.loc = t.buffer.id → ∃ t' ∈ s'.transports, t'.buffer.id = t.buffer.id ∧ t'.occ = t.occ) :
    JobOKG orc inst f s' j := by
  refine ⟨h.start, ?_⟩
  intro a b hadj ha e he i hd hb
  rcases h.wait a b hadj ha e he i hd hb with ⟨m, hm', e1, e2⟩ | ⟨t, ht', e1, o, e2, e3⟩ | ⟨m, hm', e1, e2, k, hk1, e3⟩
  · obtain ⟨m', hm'', k⟩ := hm m hm'
    simp only [mKey, Prod.mk.injEq] at k
    exact Or.inl ⟨m', hm'', by rw [k.1, e1], by rw [k.2.2.2, e2]⟩
  · obtain ⟨t', ht'', k1, k2⟩ := ht t ht' e1
    exact Or.inr (Or.inl ⟨t', ht'', by rw [k1, e1], o, by rw [k2, e2], e3⟩)
  · obtain ⟨m', hm'', kk⟩ := hm m hm'
    simp only [mKey, Prod.mk.injEq] at kk
    exact Or.inr (Or.inr ⟨m', hm'', by rw [kk.1, e1], by rw [kk.2.1, e2], k, hk1, by omega⟩)

theorem adjL_key_ne {l : List OpState} {a b : OpState} (h : AdjL l a b) (hnd : (l.map (fun o => (o.job, o.idx))).Nodup) :
    ¬ (a.job = b.job ∧ a.idx = b.idx) := by
  obtain ⟨l1, l2, rfl⟩ := h
  simp only [List.map_append, List.map_cons] at hnd
  have h2 := (List.nodup_append.mp hnd).2.1
  have h3 := (List.nodup_cons.mp h2).1
  intro hk
  apply h3
  simp [hk.1, hk.2]

/-- the record of the job's next operation is replaced by one in progress (start of setup, start
of processing, extension by an outage) -/
theorem JobOKG.replace_proc (w : WF inst) {s s' : State} (hI : StructInv inst s) {j J' : JobState} {target rec : OpState}
    (hj : j ∈ s.jobs) (hops : OpsOK s.time none j.ops) (h : JobOKG orc inst f s j)
    (htm : target ∈ j.ops) (hkey : rec.job = target.job ∧ rec.idx = target.idx) (hmach : rec.machine = target.machine)
    (hst : rec.st = .processing)
    (hstart : ∀ x, rec.start = some x → x = s.time ∨ (target.st = .processing ∧ target.start = some x))
    (hnext : j.nextNotDone? = some target ∨ target.st = .processing)
    (hpre : target.st = .idle → ∃ m0 ∈ s.machines, j.loc = m0.pre.id)
    (hJ : J'.ops = (j.replaceOp rec).ops) : JobOKG orc inst f s' J' := by
  have hs := hI.shape
  have hf : ∀ x ∈ j.ops, (if (x.job == rec.job && x.idx == rec.idx) = true then rec else x) = rec ∧ x = target ∨
      (if (x.job == rec.job && x.idx == rec.idx) = true then rec else x) = x ∧ ¬ (x.job = rec.job ∧ x.idx = rec.idx) := by
    intro x hx
    by_cases hk : x.job = rec.job ∧ x.idx = rec.idx
    · left
      refine ⟨by simp [hk.1, hk.2], ?_⟩
      exact key_unique_in_job w hI hj hx htm ⟨by rw [hk.1, hkey.1], by rw [hk.2, hkey.2]⟩
    · right
      refine ⟨?_, hk⟩
      have : (x.job == rec.job && x.idx == rec.idx) = false := by
        simp only [Bool.and_eq_false_iff, beq_eq_false_iff_ne]
        by_cases h1 : x.job = rec.job
        · right; intro h2; exact hk ⟨h1, h2⟩
        · left; exact h1
      simp [this]
  constructor
  · intro a' b' hadj ha' e he i hd hb' x hx
    rw [hJ] at hadj
    obtain ⟨a, b, hab, rfl, rfl⟩ := adjL_map hadj
    obtain ⟨hma, hmb⟩ := adjL_mem hab
    rcases hf a hma with ⟨e1, _⟩ | ⟨e1, _⟩
    · rw [e1, hst] at ha'; cases ha'
    · rw [e1] at ha' he hd
      rcases hf b hmb with ⟨e2, rfl⟩ | ⟨e2, _⟩
      · rw [e2] at hx hd
        have hd' : travelCfg inst (.m a.machine) (.m b.machine) = some (f i) := by rw [← hmach]; exact hd
        have hfacts := OpsOK_mem _ _ hops b hmb
        cases hbs : b.st with
        | idle =>
          obtain ⟨m0, hm0, hloc⟩ := hpre hbs
          rcases h.wait a b hab ha' e he i hd' hbs with ⟨m, hm, _, e2'⟩ | ⟨t, ht, e1', _⟩ | ⟨m, hm, _, _, k, hk1, e3⟩
          · have : m = m0 := machine_of_buf_id w hs hm hm0 (x := j.loc) (Or.inr (Or.inr e2')) (Or.inl hloc)
            subst this
            exact absurd (hloc.symm.trans e2') (machine_buf_ids_ne hs w hm).2.1
          · exact absurd (hloc.symm.trans e1') ((ids_parts hs w).2.2 m0 hm0 t ht).1
          · rcases hstart x hx with rfl | ⟨hp, _⟩
            · exact ⟨k, hk1, e3⟩
            · rw [hbs] at hp; cases hp
        | processing =>
          obtain ⟨x0, y0, hx0, _, _, hle, _⟩ := hfacts.2.1 hbs
          obtain ⟨k, hk1, this⟩ := h.start a b hab ha' e he i hd' (by rw [hbs]; simp) x0 hx0
          refine ⟨k, hk1, ?_⟩
          rcases hstart x hx with rfl | ⟨_, hx'⟩
          · omega
          · rw [hx0] at hx'; simp at hx'; omega
        | done =>
          obtain ⟨x0, y0, hx0, _, h1, h2⟩ := hfacts.1 hbs
          obtain ⟨k, hk1, this⟩ := h.start a b hab ha' e he i hd' (by rw [hbs]; simp) x0 hx0
          refine ⟨k, hk1, ?_⟩
          rcases hstart x hx with rfl | ⟨hp, _⟩
          · omega
          · rw [hbs] at hp; cases hp
        | transport => exact absurd hbs hfacts.2.2
      · rw [e2] at hb' hx hd
        exact h.start a b hab ha' e he i hd hb' x hx
  · intro a' b' hadj ha' e he i hd hb'
    rw [hJ] at hadj
    obtain ⟨a, b, hab, rfl, rfl⟩ := adjL_map hadj
    obtain ⟨hma, hmb⟩ := adjL_mem hab
    exfalso
    rcases hf a hma with ⟨e1, _⟩ | ⟨e1, _⟩
    · rw [e1, hst] at ha'; cases ha'
    · rw [e1] at ha'
      rcases hf b hmb with ⟨e2, _⟩ | ⟨e2, hnk⟩
      · rw [e2, hst] at hb'; cases hb'
      · rw [e2] at hb'
        obtain ⟨hnp, _, hfind⟩ := OpsOK_adj_done_idle hops hab ha' hb'
        rcases hnext with hn | hn
        · unfold JobState.nextNotDone? at hn
          rw [hfind] at hn
          simp at hn; subst hn
          exact hnk ⟨hkey.1.symm, hkey.2.symm⟩
        · exact hnp target htm hn

theorem OpsOK_adj_proc_idle {now : Int} {l : List OpState} (h : OpsOK now none l) {a b : OpState} (hadj : AdjL l a b)
    (ha : a.st = .processing) : b.st = .idle := by
  obtain ⟨l1, l2, rfl⟩ := hadj
  have h1 := OpsOK_prefix_done a (by rw [ha]; simp) (b :: l2) l1 none h
  have h2 := OpsOK_after a (by rw [ha]; simp) (b :: l2) l1 none h1 h
  exact h2 b (by simp)

/-- the record in progress is finished now and the job put into the post-buffer of its machine -/
theorem JobOKG.replace_done (w : WF inst) {s s' : State} (hI : StructInv inst s) {j J' : JobState} {target : OpState}
    (hj : j ∈ s.jobs) (hops : OpsOK s.time none j.ops) (h : JobOKG orc inst f s j)
    (htm : target ∈ j.ops) (htp : target.st = .processing)
    (hJ : J'.ops = (j.replaceOp { target with stop := some s.time, st := .done }).ops)
    (hloc : ∃ m' ∈ s'.machines, m'.id = target.machine ∧ J'.loc = m'.post.id) : JobOKG orc inst f s' J' := by
  have hf : ∀ x ∈ j.ops,
      (if (x.job == target.job && x.idx == target.idx) = true then { target with stop := some s.time, st := .done } else x) =
          { target with stop := some s.time, st := .done } ∧ x = target ∨
      (if (x.job == target.job && x.idx == target.idx) = true then { target with stop := some s.time, st := .done } else x) = x ∧
          x ≠ target := by
    intro x hx
    by_cases hk : x.job = target.job ∧ x.idx = target.idx
    · left
      exact ⟨by simp [hk.1, hk.2], key_unique_in_job w hI hj hx htm hk⟩
    · right
      refine ⟨?_, fun e => hk (by rw [e]; exact ⟨rfl, rfl⟩)⟩
      have : (x.job == target.job && x.idx == target.idx) = false := by
        simp only [Bool.and_eq_false_iff, beq_eq_false_iff_ne]
        by_cases h1 : x.job = target.job
        · right; intro h2; exact hk ⟨h1, h2⟩
        · left; exact h1
      simp [this]
  have hnd := hI.shape.ops_key_nodup w hj
  constructor
  · intro a' b' hadj ha' e he i hd hb' x hx
    rw [hJ] at hadj
    simp only [JobState.replaceOp] at hadj
    obtain ⟨a, b, hab, rfl, rfl⟩ := adjL_map hadj
    obtain ⟨hma, hmb⟩ := adjL_mem hab
    rcases hf a hma with ⟨e1, rfl⟩ | ⟨e1, hne⟩
    · -- the finished record is followed by an idle one
      exfalso
      have hbi := OpsOK_adj_proc_idle hops hab htp
      rcases hf b hmb with ⟨_, rfl⟩ | ⟨e2, _⟩
      · exact adjL_key_ne hab hnd ⟨rfl, rfl⟩
      · rw [e2] at hb'; exact hb' hbi
    · rw [e1] at ha' he hd
      rcases hf b hmb with ⟨e2, rfl⟩ | ⟨e2, _⟩
      · rw [e2] at hx hd
        exact h.start a b hab ha' e he i hd (by rw [htp]; simp) x hx
      · rw [e2] at hb' hx hd
        exact h.start a b hab ha' e he i hd hb' x hx
  · intro a' b' hadj ha' e he i hd hb'
    rw [hJ] at hadj
    simp only [JobState.replaceOp] at hadj
    obtain ⟨a, b, hab, rfl, rfl⟩ := adjL_map hadj
    obtain ⟨hma, hmb⟩ := adjL_mem hab
    rcases hf a hma with ⟨e1, rfl⟩ | ⟨e1, _⟩
    · obtain ⟨m', hm', e1', e2'⟩ := hloc
      exact Or.inl ⟨m', hm', by rw [e1, e1'], e2'⟩
    · exfalso
      rw [e1] at ha'
      rcases hf b hmb with ⟨e2, _⟩ | ⟨e2, _⟩
      · rw [e2] at hb'; cases hb'
      · rw [e2] at hb'
        exact (OpsOK_adj_done_idle hops hab ha' hb').1 target htm htp

theorem loc_in_store (w : WF inst) {s : State} (hI : StructInv inst s) {j : JobState} (hj : j ∈ s.jobs) {b : BufState}
    (hb : b ∈ allBufStates s) (h : j.loc = b.id) : j.id ∈ b.store := by
  have := hI.cons.located (j.id, j.loc) (List.mem_map.mpr ⟨j, hj, rfl⟩)
  simp only at this
  rw [h, storeAt_of_mem (hI.shape.bufNodup w) hb] at this
  exact this

theorem stored_loc (w : WF inst) {s : State} (hI : StructInv inst s) {j : JobState} (hj : j ∈ s.jobs) {b : BufState}
    (hb : b ∈ allBufStates s) (h : j.id ∈ b.store) : j.loc = b.id := by
  have hst : j.id ∈ storeAt s b.id := by rw [storeAt_of_mem (hI.shape.bufNodup w) hb]; exact h
  have := hI.cons.stored b.id j.id hst
  obtain ⟨j', hj', e⟩ := List.mem_map.mp this
  simp only [Prod.mk.injEq] at e
  have : j' = j := eq_of_mem_of_key_eq (key := fun (y : JobState) => y.id) (hI.shape.jobsNodup w) hj' hj e.1
  rw [← this]; exact e.2

theorem carrier_claims (w : WF inst) {s : State} (hI : StructInv inst s) (hP : AgvFull inst s) {j : JobState} (hj : j ∈ s.jobs)
    {t : TransportState} (ht : t ∈ s.transports) (h : j.loc = t.buffer.id) : t.st = .transit ∧ t.job = some j.id := by
  have hin := loc_in_store w hI hj (mem_allBufs_of_transport ht) h
  have hst : t.st = .transit := by
    apply Classical.byContradiction
    intro hne
    have := hP.agv.empty t ht hne
    rw [this] at hin; cases hin
  exact ⟨hst, hP.route.transitOwn t ht hst j.id hin⟩

theorem travelTime_at {r r' : Rng} {m1 m2 : Nat} {c : TimeCfg} {tt : Int}
    (hd : travelCfg inst (.m m1) (.m m2) = some c)
    (htt : travelTimeFromSpec orc inst r (.m m1) (.m m2) = .ok (tt, r')) : ∃ k, 1 ≤ k ∧ tt = c.at orc k := by
  obtain ⟨c', hc', e⟩ := travelTimeFromSpec_ok htt
  rw [hd] at hc'
  cases hc'
  obtain ⟨k, hk1, hk⟩ := updRead_at (orc := orc) c r
  exact ⟨k, hk1, by rw [← hk, ← e]⟩

theorem JobOKG.pickup (w : WF inst) {s s' : State} (hI : StructInv inst s) (hP : AgvFull inst s) {j : JobState}
    {t0 t' : TransportState} (hj : j ∈ s.jobs) (hops : OpsOK s.time none j.ops) (h : JobOKG orc inst f s j)
    (ht0 : t0 ∈ s.transports) (hst : t0.st ≠ .transit) (hclaim : t0.job = some j.id)
    {src dst : Loc} {tt : Int} {r r' : Rng}
    (hsrc : (∃ fb ∈ s.buffers, fb.id = j.loc) ∨
      (∃ ms ∈ s.machines, src = .m ms.id ∧ (j.loc = ms.pre.id ∨ j.loc = ms.buffer.id ∨ j.loc = ms.post.id)))
    (hdst : dropOK inst j JobState.nextNotDone? dst)
    (htt : travelTimeFromSpec orc inst r src dst = .ok (tt, r'))
    (ht' : t' ∈ s'.transports) (hb : t'.buffer.id = t0.buffer.id) (hocc : t'.occ = .at (s.time + tt)) :
    JobOKG orc inst f s' (j.at t0.buffer.id) := by
  have hs := hI.shape
  refine ⟨h.start, ?_⟩
  intro a b hadj ha e he i hd hbi
  have hadj' : AdjL j.ops a b := hadj
  obtain ⟨_, _, hfind⟩ := OpsOK_adj_done_idle hops hadj' ha hbi
  have hle : e ≤ s.time := by
    obtain ⟨x0, y0, _, hy0, _, h2⟩ := (OpsOK_mem _ _ hops a (adjL_mem hadj').1).1 ha
    rw [he] at hy0; simp at hy0; omega
  rcases h.wait a b hadj' ha e he i hd hbi with ⟨m, hm, e1, e2⟩ | ⟨t, ht, e1, _⟩ | ⟨m, hm, _, e2, _⟩
  · -- in the post-buffer of `a`'s machine: the source is that machine, the destination `b`'s
    have hsrc' : src = .m a.machine := by
      rcases hsrc with ⟨fb, hfb, e3⟩ | ⟨ms, hms, e3, e4⟩
      · exact absurd (e3.trans e2) ((ids_parts hs w).1 fb hfb m hm).2.2
      · have : ms = m := machine_of_buf_id w hs hms hm (x := j.loc) e4 (Or.inr (Or.inr e2))
        rw [e3, this, e1]
    have hdst' : dst = .m b.machine := by
      rcases hdst with ⟨hno, _⟩ | ⟨_, op, hop, e3⟩
      · exfalso
        unfold JobState.noOpIdle at hno
        have := List.all_eq_true.mp hno b (adjL_mem hadj').2
        rw [hbi] at this; simp at this
      · unfold JobState.nextNotDone? at hop
        rw [hfind] at hop
        simp at hop; subst hop; exact e3
    rw [hsrc', hdst'] at htt
    obtain ⟨k, hk1, hk⟩ := travelTime_at hd htt
    exact Or.inr (Or.inl ⟨t', ht', by simp [JobState.at, hb], s.time + tt, hocc, k, hk1, by omega⟩)
  · exfalso
    obtain ⟨h1, h2⟩ := carrier_claims w hI hP hj ht e1
    have hid := hP.agv.unique t ht t0 ht0 j.id h2 hclaim
    have : t = t0 := eq_of_mem_of_key_eq (key := fun (y : TransportState) => y.id) (hs.trNodup w) ht ht0 hid
    rw [this] at h1; exact hst h1
  · exfalso
    have hin := loc_in_store w hI hj (mem_allBufs_of_machine hm).1 e2
    exact hP.route.preUnclaimed m hm j.id hin t0 ht0 hclaim

theorem JobOK.pickup (w : WF inst) {s s' : State} (hI : StructInv inst s) (hP : AgvFull inst s) {j : JobState}
    {t0 t' : TransportState} (hj : j ∈ s.jobs) (hops : OpsOK s.time none j.ops) (h : JobOK inst s j)
    (ht0 : t0 ∈ s.transports) (hst : t0.st ≠ .transit) (hclaim : t0.job = some j.id)
    {src dst : Loc} {tt : Int} {r r' : Rng}
    (hsrc : (∃ fb ∈ s.buffers, fb.id = j.loc) ∨
      (∃ ms ∈ s.machines, src = .m ms.id ∧ (j.loc = ms.pre.id ∨ j.loc = ms.buffer.id ∨ j.loc = ms.post.id)))
    (hdst : dropOK inst j JobState.nextNotDone? dst)
    (htt : travelTimeFromSpec orc inst r src dst = .ok (tt, r'))
    (ht' : t' ∈ s'.transports) (hb : t'.buffer.id = t0.buffer.id) (hocc : t'.occ = .at (s.time + tt)) :
    JobOK inst s' (j.at t0.buffer.id) :=
  (h.toG.pickup w hI hP hj hops ht0 hst hclaim hsrc hdst htt ht' hb hocc).det

theorem JobOKS.pickup (w : WF inst) {s s' : State} (hI : StructInv inst s) (hP : AgvFull inst s) {j : JobState}
    {t0 t' : TransportState} (hj : j ∈ s.jobs) (hops : OpsOK s.time none j.ops) (h : JobOKS orc inst s j)
    (ht0 : t0 ∈ s.transports) (hst : t0.st ≠ .transit) (hclaim : t0.job = some j.id)
    {src dst : Loc} {tt : Int} {r r' : Rng}
    (hsrc : (∃ fb ∈ s.buffers, fb.id = j.loc) ∨
      (∃ ms ∈ s.machines, src = .m ms.id ∧ (j.loc = ms.pre.id ∨ j.loc = ms.buffer.id ∨ j.loc = ms.post.id)))
    (hdst : dropOK inst j JobState.nextNotDone? dst)
    (htt : travelTimeFromSpec orc inst r src dst = .ok (tt, r'))
    (ht' : t' ∈ s'.transports) (hb : t'.buffer.id = t0.buffer.id) (hocc : t'.occ = .at (s.time + tt)) :
    JobOKS orc inst s' (j.at t0.buffer.id) :=
  (h.toG.pickup w hI hP hj hops ht0 hst hclaim hsrc hdst htt ht' hb hocc).stoch

theorem JobOKG.deliver (w : WF inst) {s s' : State} (hI : StructInv inst s) (hP : AgvFull inst s) {j : JobState}
    {t0 : TransportState} {ms ms' : MachineState} (hj : j ∈ s.jobs) (hops : OpsOK s.time none j.ops) (h : JobOKG orc inst f s j)
    (ht0 : t0 ∈ s.transports) (hin : j.id ∈ t0.buffer.store)
    {cur : Loc} {pick : Nat} (hloc : t0.loc = .route cur pick (.m ms.id))
    (hdue : ∀ o, t0.occ = .at o → o ≤ s.time)
    (hms' : ms' ∈ s'.machines) (hk : mKey ms' = mKey ms) (htime : s.time ≤ s'.time) :
    JobOKG orc inst f s' (j.at ms.pre.id) := by
  have hs := hI.shape
  refine ⟨h.start, ?_⟩
  intro a b hadj ha e he i hd hbi
  have hadj' : AdjL j.ops a b := hadj
  obtain ⟨_, hfind, _⟩ := OpsOK_adj_done_idle hops hadj' ha hbi
  have hjl := stored_loc w hI hj (mem_allBufs_of_transport ht0) hin
  obtain ⟨hst0, hown0⟩ := carrier_claims w hI hP hj ht0 hjl
  simp only [mKey, Prod.mk.injEq] at hk
  have hmb : ms.id = b.machine := by
    obtain ⟨c, p, dr, e1, hdrop⟩ := hP.route.route t0 ht0 j.id hown0 j hj rfl
    rw [hloc] at e1
    simp only [TLoc.route.injEq] at e1
    rcases hdrop with ⟨_, o, _, e3⟩ | ⟨_, op, hop, e3⟩
    · rw [← e1.2.2] at e3; cases e3
    · unfold JobState.nextIdle? at hop
      rw [hfind] at hop
      simp at hop; subst hop
      rw [← e1.2.2] at e3
      simpa using e3
  rcases h.wait a b hadj' ha e he i hd hbi with ⟨m, hm, _, e2⟩ | ⟨t, ht, e1, o, e2, k, hk1, e3⟩ | ⟨m, hm, _, e2, _⟩
  · exact absurd (e2.symm.trans hjl) ((ids_parts hs w).2.2 m hm t0 ht0).2.2
  · obtain ⟨_, h2⟩ := carrier_claims w hI hP hj ht e1
    have hid := hP.agv.unique t ht t0 ht0 j.id h2 hown0
    have : t = t0 := eq_of_mem_of_key_eq (key := fun (y : TransportState) => y.id) (hs.trNodup w) ht ht0 hid
    subst this
    have := hdue o e2
    exact Or.inr (Or.inr ⟨ms', hms', by rw [hk.1, hmb], by simp [JobState.at, hk.2.1], k, hk1, by omega⟩)
  · exact absurd (e2.symm.trans hjl) ((ids_parts hs w).2.2 m hm t0 ht0).1

/-- a job delivered to an output buffer has no idle operation: nothing to wait for -/
theorem JobOKG.deliver_out {s s' : State} {j : JobState} (h : JobOKG orc inst f s j) (hno : j.noOpIdle = true) (l : Nat) :
    JobOKG orc inst f s' (j.at l) := by
  refine ⟨h.start, ?_⟩
  intro a b hadj _ _ _ _ _ hbi
  exfalso
  have hadj' : AdjL j.ops a b := hadj
  unfold JobState.noOpIdle at hno
  have := List.all_eq_true.mp hno b (adjL_mem hadj').2
  rw [hbi] at this; simp at this

/-- batch side condition: a delivery is due, and nothing earlier in the batch sends the same AGV off -/
structure ArrGS (s : State) (L : List Transition) : Prop where
  due : ∀ tr ∈ L, tr.new = .t .outage → ∀ t ∈ s.transports, tr.comp = .t t.id → t.st = .transit →
    ∀ o, t.occ = .at o → o ≤ s.time
  order : L.Pairwise (fun a b => b.new = .t .outage → a.comp = b.comp → a.new = .t .waitingpickup)

theorem ArrGS.tail {s : State} {tr : Transition} {R : List Transition} (h : ArrGS s (tr :: R)) : ArrGS s R :=
  ⟨fun t ht => h.due t (by simp [ht]), (List.pairwise_cons.mp h.order).2⟩

theorem applyTransition_travel (w : WF inst) {s s' : State} {r r' : Rng} {tr : Transition} {R : List Transition}
    (hI : StructInv inst s) (hS : SchedInv s) (hP : AgvFull inst s) (hT : TravelInvG orc inst f s)
    (hv : transitionValid s tr = .ok true) (hgs : FullGS s (tr :: R)) (harr : ArrGS s (tr :: R))
    (h : applyTransition orc inst s r tr = .ok (s', r')) : TravelInvG orc inst f s' ∧ ArrGS s' R := by
  have hI' := applyTransition_struct w hI hv h
  have htime := applyTransition_time h
  have hs := hI.shape
  have hjn := hs.jobsNodup w
  have hmt : ∀ m ∈ s.machines, ∃ m' ∈ s'.machines, mKey m' = mKey m := fun m hm => machine_transfer hs hI'.shape hm
  cases applyTransition_ran h with
  | m m0 hc hm0 hd ns hn hmh run =>
    have htr := (machine_effect w hI hc h).2.1
    refine ⟨?_, ?_⟩
    ·
      have keep : ∀ j' ∈ s.jobs, JobOKG orc inst f s' j' := fun j' hj' =>
        (hT j' hj').keep (by omega) hmt (fun t ht _ => ⟨t, by rw [htr]; exact ht, rfl, rfl⟩)
      have one : ∀ (j J' : JobState), j ∈ s.jobs → J'.id = j.id → s'.jobs = (s.replaceJob J').jobs → JobOKG orc inst f s' J' →
          TravelInvG orc inst f s' := by
        intro j J' hj hid hjobs hJ j' hj'
        rw [hjobs] at hj'
        rcases (mem_replaceJob hjn hj hid j').mp hj' with rfl | ⟨hj0, _⟩
        · exact hJ
        · exact keep j' hj0
      have hv' := transitionValid_machine (hs.machNodup w) hm0 hc hv
      cases hd with
      | idleToSetup =>
        have hst := machineHandler_idleToSetup hmh
        obtain ⟨j, op, oc, mc, sd, b1, b2, hj, htj, hjpre, hnn, _, hocj, hoci, _, _, _, _, rfl⟩ := idleToSetup_spec run
        have hmach := valid_machine_job hjn hv' (by simp [hst.1]) (by simp [hst.1]) j hj htj op hnn
        have hopm : op ∈ j.ops := (find?_mem_ops hnn).1
        have hjl := stored_loc w hI hj (mem_allBufs_of_machine hm0).1 hjpre
        apply one j ((j.replaceOp (opRec oc s.time (s.time + sd) m0.id)).at m0.buffer.id) hj rfl rfl
        exact (hT j hj).replace_proc w hI hj (hS.ops j hj) hopm ⟨by simp [opRec, hocj], by simp [opRec, hoci]⟩
          (by simp [opRec, hmach]) (by simp [opRec]) (fun x hx => Or.inl (by simpa [opRec] using hx.symm)) (Or.inl hnn)
          (fun _ => ⟨m0, hm0, hjl⟩) rfl
      | setupToWorking =>
        have hst := machineHandler_setupToWorking hmh
        obtain ⟨j, op, oc, d, hj, htj, hjin, hnn, _, hocj, hoci, _, rfl⟩ := setupToWorking_spec run
        have hmach := valid_machine_job hjn hv' (by simp [hst.1]) (by simp [hst.1]) j hj htj op hnn
        have hopm : op ∈ j.ops := (find?_mem_ops hnn).1
        have hbusy : m0.st ≠ .idle := by rw [hst.1]; simp
        have hpst := (held_record w hI hS hm0 hbusy hj hjin (held_next w hI hS hm0 hbusy hj hjin hnn)).2.1
        apply one j (j.replaceOp (opRec oc s.time (s.time + d) m0.id)) hj rfl rfl
        exact (hT j hj).replace_proc w hI hj (hS.ops j hj) hopm ⟨by simp [opRec, hocj], by simp [opRec, hoci]⟩
          (by simp [opRec, hmach]) (by simp [opRec]) (fun x hx => Or.inl (by simpa [opRec] using hx.symm)) (Or.inl hnn)
          (fun hi => by rw [hpst] at hi; cases hi) rfl
      | workingToOutage =>
        obtain ⟨mc, outs, j, op, _, _, _, hj, htj, hp, rfl⟩ := workingToOutage_spec run
        obtain ⟨_, _, hl, _, hpst⟩ := processing?_split' hp
        have hopm : op ∈ j.ops := by rw [hl]; simp
        apply one j (j.replaceOp { op with stop := some (s.time + occupiedFor outs) }) hj rfl rfl
        exact (hT j hj).replace_proc (rec := { op with stop := some (s.time + occupiedFor outs) }) w hI hj (hS.ops j hj) hopm
          ⟨rfl, rfl⟩ rfl (by simp [hpst])
          (fun x hx => Or.inr ⟨hpst, hx⟩) (Or.inr hpst) (fun hi => by rw [hpst] at hi; cases hi) rfl
      | outageToIdle =>
        obtain ⟨j, op, mc, rest, b1, b2, hstore, hj, hp, _, _, _, _, rfl⟩ := outageToIdle_spec run
        have hst := machineHandler_outageToIdle hmh
        have hjin : j.id ∈ m0.buffer.store := by rw [hstore]; simp
        have hbusy : m0.st ≠ .idle := by rw [hst.1]; simp
        obtain ⟨hopm, hpst, hm0', _⟩ := held_record w hI hS hm0 hbusy hj hjin hp
        obtain ⟨m', hm', hk⟩ := hmt m0 hm0
        simp only [mKey, Prod.mk.injEq] at hk
        apply one j ((j.replaceOp { op with stop := some s.time, st := .done }).at m0.post.id) hj rfl rfl
        exact (hT j hj).replace_done w hI hj (hS.ops j hj) hopm hpst rfl
          ⟨m', hm', by rw [hk.1, hm0'], by simp [JobState.at, hk.2.2.2]⟩
    · refine ⟨?_, harr.tail.order⟩
      intro b hb hn t ht hcb hst o ho
      rw [htr] at ht; rw [htime]
      exact harr.due b (by simp [hb]) hn t ht hcb hst o ho
  | t t1 hc _ _ _ _ _ _ =>
    obtain ⟨t0, t', ht0, hid0, hid', hbid, htr, heff⟩ := agv_transport_effect w hI hc h
    have htn := hs.trNodup w
    have ht'mem : t' ∈ s'.transports := by
      rw [htr]; exact (mem_replaceTransport htn ht0 hid' t').mpr (Or.inl rfl)
    have other : ∀ t ∈ s.transports, t.id ≠ t0.id → t ∈ s'.transports := by
      intro t ht hne
      rw [htr]; exact (mem_replaceTransport htn ht0 hid' t).mpr (Or.inr ⟨ht, hne⟩)
    have keep : ∀ j' ∈ s.jobs, j'.loc ≠ t0.buffer.id → JobOKG orc inst f s' j' := by
      intro j' hj' hne
      refine (hT j' hj').keep (by omega) hmt ?_
      intro t ht hl
      by_cases e : t.id = t0.id
      · have : t = t0 := eq_of_mem_of_key_eq (key := fun (y : TransportState) => y.id) htn ht ht0 e
        subst this; exact absurd hl hne
      · exact ⟨t, other t ht e, rfl, rfl⟩
    have off : t0.st ≠ .transit → ∀ j' ∈ s.jobs, JobOKG orc inst f s' j' := fun hst0 j' hj' =>
      keep j' hj' fun hl => hst0 (carrier_claims w hI hP hj' ht0 hl).1
    have others : ∀ j ∈ s.jobs, j.id ∈ t0.buffer.store → ∀ j' ∈ s.jobs, j'.id ≠ j.id → JobOKG orc inst f s' j' := by
      intro j hj hin j' hj' hne
      have hown0 := (carrier_claims w hI hP hj ht0 (stored_loc w hI hj (mem_allBufs_of_transport ht0) hin)).2
      refine keep j' hj' fun hl => ?_
      have := (carrier_claims w hI hP hj' ht0 hl).2
      rw [hown0] at this
      exact hne (Option.some.inj this).symm
    refine ⟨?_, ?_⟩
    · cases heff with
      | dispatch _ _ _ _ _ _ h1 _ _ _ _ hjobs _ => rw [TravelInvG, hjobs]; exact off (by rw [h1]; simp)
      | wait _ _ h1 _ hjobs _ => rw [TravelInvG, hjobs]; exact off (by rcases h1 with e | e <;> rw [e] <;> simp)
      | release _ h1 _ hjobs _ => rw [TravelInvG, hjobs]; exact off (by rw [h1]; simp)
      | pickup j src dst tt bss hn h1 hj htj hdrop htt hsrc e hjobs _ =>
        have hst0 : t0.st ≠ .transit := by rcases h1 with e | e <;> rw [e] <;> simp
        have hclaim : t0.job = some j.id := by
          have := hgs.route.own tr (by simp) hn t0 ht0 (by rw [hc, hid0])
          rw [← this]; exact htj
        intro j' hj'
        rw [hjobs] at hj'
        rcases (mem_replaceJob hjn hj (by simp [JobState.at]) j').mp hj' with rfl | ⟨hj0, _⟩
        · exact (hT j hj).pickup w hI hP hj (hS.ops j hj) ht0 hst0 hclaim hsrc hdrop htt ht'mem hbid (by rw [e]; rfl)
        · exact off hst0 j' hj0
      | deliverM j cur pick ms bss1 bss2 outs occ hn _ hloc hms hj hin _ hjobs _ =>
        have hst0 := (carrier_claims w hI hP hj ht0 (stored_loc w hI hj (mem_allBufs_of_transport ht0) hin)).1
        obtain ⟨ms', hms', hk⟩ := hmt ms hms
        intro j' hj'
        rw [hjobs] at hj'
        rcases (mem_replaceJob hjn hj (by simp [JobState.at]) j').mp hj' with rfl | ⟨hj0, hne⟩
        · exact (hT j hj).deliver w hI hP hj (hS.ops j hj) ht0 hin hloc
            (fun o ho => harr.due tr (by simp) hn t0 ht0 (by rw [hc, hid0]) hst0 o ho) hms' hk (by omega)
        · exact others j hj hin j' hj0 hne
      | deliverB j cur pick b bss1 bss2 outs occ hn _ hloc _ hj hin _ hjobs _ _ =>
        have hown0 := (carrier_claims w hI hP hj ht0 (stored_loc w hI hj (mem_allBufs_of_transport ht0) hin)).2
        have hno : j.noOpIdle = true := by
          obtain ⟨c, p, dr, e1, hdrop⟩ := hP.route.route t0 ht0 j.id hown0 j hj rfl
          rw [hloc] at e1
          simp only [TLoc.route.injEq] at e1
          rcases hdrop with ⟨hno, _⟩ | ⟨_, op, _, e3⟩
          · exact hno
          · rw [← e1.2.2] at e3; cases e3
        intro j' hj'
        rw [hjobs] at hj'
        rcases (mem_replaceJob hjn hj (by simp [JobState.at]) j').mp hj' with rfl | ⟨hj0, hne⟩
        · exact (hT j hj).deliver_out hno _
        · exact others j hj hin j' hj0 hne
    · refine ⟨?_, harr.tail.order⟩
      intro b hb hn t ht hcb hst o ho
      rw [htime]
      rw [htr] at ht
      rcases (mem_replaceTransport htn ht0 hid' t).mp ht with rfl | ⟨ht1, hne⟩
      · -- the acting AGV: only a "keep waiting" may precede its delivery in the batch
        exfalso
        have hord := (List.pairwise_cons.mp harr.order).1 b hb hn (by rw [hc, hcb, hid', hid0])
        rw [heff.transit hst] at hord; cases hord
      · exact harr.due b (by simp [hb]) hn t ht1 hcb hst o ho

end JSL
