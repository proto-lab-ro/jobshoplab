import JSL.Inv.StructStep
import JSL.Model.Check

/-!
# Soundness of the decidable guards, membership form of conservation, reachability
-/

namespace JSL

variable {orc : Oracle} {inst : Instance}

theorem wfB_sound (h : wfB inst = true) : WF inst := by
  simp only [wfB, nodupB, Bool.and_eq_true, decide_eq_true_eq, List.all_eq_true, List.any_eq_true,
    beq_iff_eq] at h
  obtain ⟨⟨⟨⟨h1, h2⟩, h3⟩, h4⟩, h5⟩ := h
  exact {
    jobsNodup := h1, machNodup := h2, trNodup := h3, bufNodup := h4
    opJob := fun j hj o ho => ((h5 j hj).1.1 o ho)
    opIdxNodup := fun j hj => (h5 j hj).1.2
    opMachine := fun j hj o ho => by
      obtain ⟨m, hm, e⟩ := (h5 j hj).2 o ho
      exact ⟨m, hm, e⟩ }

theorem shapeB_sound {s : State} (h : shapeB inst s = true) : Shape inst s := by
  simp only [shapeB, Bool.and_eq_true, decide_eq_true_eq] at h
  obtain ⟨⟨⟨h1, h2⟩, h3⟩, h4⟩ := h
  exact { jobs := h1, machines := h2, transports := h3, buffers := h4 }

theorem storeAt_mem {s : State} {i x : Nat} (h : x ∈ storeAt s i) :
    ∃ b ∈ allBufStates s, b.id = i ∧ storeAt s i = b.store := by
  unfold storeAt at h ⊢
  cases hf : (allBufStates s).find? (fun b => b.id == i) with
  | none => simp [hf] at h
  | some b =>
    have h1 := List.mem_of_find?_eq_some hf
    have h2 := List.find?_some hf
    exact ⟨b, h1, by simpa using h2, rfl⟩

theorem Conserved.toV {s : State} (hs : Shape inst s) (w : WF inst) (c : Conserved s) : ConservedV s where
  stored i x hx := by
    obtain ⟨b, hb, hbi, e⟩ := storeAt_mem hx
    rw [e] at hx
    obtain ⟨j, hj, hjid, hjl⟩ := c.stored b hb x hx
    exact List.mem_map.mpr ⟨j, hj, by simp [hjid, hjl, hbi]⟩
  located p hp := by
    obtain ⟨j, hj, rfl⟩ := List.mem_map.mp hp
    obtain ⟨b, hb, hbi, hin⟩ := c.located j hj
    simp only
    rw [← hbi, storeAt_of_mem (hs.bufNodup w) hb]; exact hin
  nodup i := by
    by_cases h : ∃ x, x ∈ storeAt s i
    · obtain ⟨x, hx⟩ := h
      obtain ⟨b, hb, _, e⟩ := storeAt_mem hx
      rw [e]; exact c.nodup b hb
    · have : storeAt s i = [] := by
        cases hl : storeAt s i with
        | nil => rfl
        | cons a as => exact absurd ⟨a, by rw [hl]; simp⟩ h
      rw [this]; exact List.nodup_nil

theorem ConservedV.toM {s : State} (hs : Shape inst s) (w : WF inst) (c : ConservedV s) : Conserved s where
  stored b hb x hx := by
    have := c.stored b.id x (by rw [storeAt_of_mem (hs.bufNodup w) hb]; exact hx)
    obtain ⟨j, hj, e⟩ := List.mem_map.mp this
    simp only [Prod.mk.injEq] at e
    exact ⟨j, hj, e.1, e.2⟩
  located j hj := by
    have := c.located (j.id, j.loc) (List.mem_map.mpr ⟨j, hj, rfl⟩)
    obtain ⟨b, hb, hbi, e⟩ := storeAt_mem this
    exact ⟨b, hb, hbi, by rw [← e]; exact this⟩
  nodup b hb := by
    have := c.nodup b.id
    rwa [storeAt_of_mem (hs.bufNodup w) hb] at this

theorem conservedB_sound {s : State} (h : conservedB s = true) : Conserved s := by
  simp only [conservedB, nodupB, Bool.and_eq_true, List.all_eq_true, List.any_eq_true, decide_eq_true_eq,
    beq_iff_eq, List.contains_iff_mem] at h
  exact {
    stored := fun b hb x hx => by
      obtain ⟨j, hj, e1, e2⟩ := (h.1 b hb).2 x hx
      exact ⟨j, hj, e1, e2⟩
    located := fun j hj => by
      obtain ⟨b, hb, e1, e2⟩ := h.2 j hj
      exact ⟨b, hb, e1, e2⟩
    nodup := fun b hb => (h.1 b hb).1 }

theorem capB_sound {s : State} (hs : Shape inst s) (w : WF inst) (h : capB inst s = true) : CapV inst s := by
  simp only [capB, List.all_eq_true, Bool.or_eq_true, bne_iff_ne, ne_eq, decide_eq_true_eq] at h
  intro c hc
  by_cases hex : ∃ b ∈ allBufStates s, b.id = c.id
  · obtain ⟨b, hb, hbi⟩ := hex
    rw [← hbi, storeAt_of_mem (hs.bufNodup w) hb]
    rcases h b hb c hc with h1 | h1
    · exact absurd hbi.symm h1
    · exact h1
  · -- cannot happen: the buffer ids of the state are those of the instance
    have : storeAt s c.id = [] := storeAt_of_not_mem (fun b hb hbi => hex ⟨b, hb, hbi⟩)
    have hmem : c.id ∈ (allBufStates s).map (·.id) := by
      rw [hs.bufIds]; exact List.mem_map.mpr ⟨c, hc, rfl⟩
    obtain ⟨b, hb, hbi⟩ := List.mem_map.mp hmem
    exact absurd ⟨b, hb, hbi⟩ hex

theorem initOKB_sound {s : State} (h : initOKB inst s = true) : WF inst ∧ StructInv inst s := by
  simp only [initOKB, Bool.and_eq_true] at h
  obtain ⟨⟨⟨h1, h2⟩, h3⟩, h4⟩ := h
  have w := wfB_sound h1
  have hs := shapeB_sound h2
  exact ⟨w, hs, (conservedB_sound h3).toV hs w, capB_sound hs w h4⟩

/-- States that occur in any execution: the initial state, the state returned by any core step
from such a state (whatever the action), every intermediate sub-state and the post-state of
every transition applied inside such a step. -/
inductive Occurs (orc : Oracle) (inst : Instance) (cfg : SMConfig) (s0 : State) : State → Prop
  | init : Occurs orc inst cfg s0 s0
  | result {s res r a r' mic fuel} : Occurs orc inst cfg s0 s →
      smStep orc inst cfg fuel s r a = .ok (res, r', mic) → Occurs orc inst cfg s0 res.state
  | sub {s res r a r' mic fuel σ} : Occurs orc inst cfg s0 s →
      smStep orc inst cfg fuel s r a = .ok (res, r', mic) → σ ∈ res.subStates → Occurs orc inst cfg s0 σ
  | micro {s res r a r' mic fuel σ} : Occurs orc inst cfg s0 s →
      smStep orc inst cfg fuel s r a = .ok (res, r', mic) → σ ∈ mic → Occurs orc inst cfg s0 σ

theorem occurs_struct {cfg : SMConfig} {s0 σ : State} (w : WF inst) (h0 : StructInv inst s0)
    (h : Occurs orc inst cfg s0 σ) : StructInv inst σ := by
  induction h with
  | init => exact h0
  | result _ hstep ih => exact (smStep_struct w ih hstep).1
  | sub _ hstep hσ ih => exact (smStep_struct w ih hstep).2.1 _ hσ
  | micro _ hstep hσ ih => exact (smStep_struct w ih hstep).2.2 _ hσ

end JSL
