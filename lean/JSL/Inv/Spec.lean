import JSL.Inv.Store

/-!
# Handler specifications

For every handler: what a successful application did, as an explicit description of the new
state.  Obtained by unfolding the model once; all invariant proofs start from these.
-/

namespace JSL

variable {orc : Oracle} {inst : Instance}

/-- the operation record written when setup / processing starts -/
def opRec (oc : OpCfg) (a b : Int) (mid : Nat) : OpState :=
  { job := oc.job, idx := oc.idx, start := some a, stop := some b, machine := mid, st := .processing }
def BufState.without (b : BufState) (j : Nat) (bss : BSS) : BufState :=
  { b with store := b.store.filter (· != j), bss := bss }
def BufState.withBack (b : BufState) (j : Nat) (bss : BSS) : BufState :=
  { b with store := b.store ++ [j], bss := bss }
def JobState.at (j : JobState) (l : Nat) : JobState := { j with loc := l }

def MachineState.toSetup (m : MachineState) (j : Nat) (b1 b2 : BSS) (t : Int) (tool : Nat) : MachineState :=
  { m with pre := m.pre.without j b1, buffer := m.buffer.withBack j b2, st := .setup, occ := some t, tool := tool }
def MachineState.toWorking (m : MachineState) (t : Int) : MachineState := { m with st := .working, occ := some t }
def MachineState.toOutage (m : MachineState) (outs : List OutageState) (t : Int) : MachineState :=
  { m with st := .outage, outages := outs, occ := some t }
def MachineState.toIdle (m : MachineState) (j : Nat) (b1 b2 : BSS) : MachineState :=
  { m with buffer := m.buffer.without j b1, post := m.post.withBack j b2, st := .idle,
           outages := m.outages.map releaseOutage }

@[simp] theorem BufState.without_id (b : BufState) (j : Nat) (x : BSS) : (b.without j x).id = b.id := rfl
@[simp] theorem BufState.withBack_id (b : BufState) (j : Nat) (x : BSS) : (b.withBack j x).id = b.id := rfl
@[simp] theorem BufState.without_store (b : BufState) (j : Nat) (x : BSS) :
    (b.without j x).store = b.store.filter (· != j) := rfl
@[simp] theorem BufState.withBack_store (b : BufState) (j : Nat) (x : BSS) :
    (b.withBack j x).store = b.store ++ [j] := rfl
@[simp] theorem JobState.at_id (j : JobState) (l : Nat) : (j.at l).id = j.id := rfl
@[simp] theorem JobState.at_loc (j : JobState) (l : Nat) : (j.at l).loc = l := rfl
@[simp] theorem JobState.at_ops (j : JobState) (l : Nat) : (j.at l).ops = j.ops := rfl
@[simp] theorem replaceOp_id (j : JobState) (o : OpState) : (j.replaceOp o).id = j.id := rfl
@[simp] theorem replaceOp_loc (j : JobState) (o : OpState) : (j.replaceOp o).loc = j.loc := rfl

theorem putInBuffer_spec {b : BufState} {c : BufCfg} {j : JobState} {b' : BufState} {j' : JobState}
    (h : putInBuffer b c j = .ok (b', j')) :
    (b.store.length : Int) < c.cap ∧ ∃ bss, b' = b.withBack j.id bss ∧ j' = j.at b.id := by
  unfold putInBuffer at h
  split at h
  · cases h
  · rename_i hlt
    cases h
    exact ⟨by omega, _, rfl, rfl⟩

theorem removeFromBuffer_spec {b : BufState} {j : Nat} {b' : BufState} (h : removeFromBuffer b j = .ok b') :
    j ∈ b.store ∧ ∃ bss, b' = b.without j bss := by
  unfold removeFromBuffer at h
  split at h
  · cases h
  · rename_i hc
    cases h
    exact ⟨by simpa using hc, _, rfl⟩

theorem switchBuffer_spec {from_ to : BufState} {j : JobState} {f' t' : BufState} {j' : JobState}
    (h : switchBuffer inst from_ to j = .ok (f', t', j')) :
    j.id ∈ from_.store ∧ (∃ c ∈ allBufCfgs inst, c.id = to.id ∧ (to.store.length : Int) < c.cap) ∧
      ∃ bss1 bss2, f' = from_.without j.id bss1 ∧ t' = to.withBack j.id bss2 ∧ j' = j.at to.id := by
  unfold switchBuffer at h
  split at h
  · cases h
  · simp only [except_pure, except_bind_ok] at h
    obtain ⟨f1, hf, h⟩ := except_bind_eq_ok h
    obtain ⟨c, hc, h⟩ := except_bind_eq_ok h
    obtain ⟨⟨t1, j1⟩, hp, h⟩ := except_bind_eq_ok h
    cases h
    obtain ⟨hin, bss1, rfl⟩ := removeFromBuffer_spec hf
    obtain ⟨hcap, bss2, rfl, rfl⟩ := putInBuffer_spec hp
    have cc := getBufCfg_ok hc
    exact ⟨hin, ⟨c, cc.1, cc.2, hcap⟩, bss1, bss2, rfl, rfl, rfl⟩

theorem nextNotDone_ok {j : JobState} {op : OpState} (h : j.nextNotDone = .ok op) : j.nextNotDone? = some op := by
  unfold JobState.nextNotDone at h
  split at h
  · rename_i o ho; cases h; exact ho
  · cases h

theorem getOpCfg_ok {job idx : Nat} {oc : OpCfg} (h : getOpCfg inst job idx = .ok oc) :
    oc ∈ inst.jobs.flatMap (·.ops) ∧ oc.job = job ∧ oc.idx = idx := by
  have := findE_ok h
  simp at this
  exact ⟨by simpa using this.1, this.2.1, this.2.2⟩

theorem setupDuration_ok {r r' : Rng} {mc : MachineCfg} {a b : Nat} {sd : Int}
    (h : setupDuration orc r mc a b = .ok (sd, r')) :
    ∃ c, mc.setup.lookup (a, b) = some c ∧ (sd, r') = c.readUpd orc r := by
  unfold setupDuration at h
  split at h
  · rename_i c hc
    exact ⟨c, hc, (Except.ok.inj h).symm⟩
  · cases h

/-- `handle_machine_idle_to_setup_transition` -/
theorem idleToSetup_spec {s s' : State} {r r' : Rng} {tr : Transition} {m : MachineState}
    (h : handleMachineIdleToSetup orc inst s r tr m = .ok (s', r')) :
    ∃ (j : JobState) (op : OpState) (oc : OpCfg) (mc : MachineCfg) (sd : Int) (bss1 bss2 : BSS),
      j ∈ s.jobs ∧ tr.job = some j.id ∧ j.id ∈ m.pre.store ∧ j.nextNotDone? = some op ∧
      oc ∈ inst.jobs.flatMap (·.ops) ∧ oc.job = op.job ∧ oc.idx = op.idx ∧
      mc ∈ inst.machines ∧ mc.id = m.id ∧ (m.buffer.store.length : Int) < mc.buf.cap ∧
      (∃ c, mc.setup.lookup (m.tool, oc.tool) = some c ∧ (sd, r') = c.readUpd orc r) ∧
      s' = (s.replaceJob ((j.replaceOp (opRec oc s.time (s.time + sd) m.id)).at m.buffer.id)).replaceMachine
            (m.toSetup j.id bss1 bss2 (s.time + sd) oc.tool) := by
  unfold handleMachineIdleToSetup at h
  cases htj : tr.job with
  | none => rw [htj] at h; cases h
  | some jid =>
    simp only [htj, except_pure, except_bind_ok] at h
    obtain ⟨j, hj, h⟩ := except_bind_eq_ok h
    have hj' := getJob_ok hj
    split at h
    · cases h
    · rename_i hin
      obtain ⟨⟨j1, m1, r1⟩, hb, h⟩ := except_bind_eq_ok h
      cases h
      unfold beginMachineSetup at hb
      obtain ⟨op, hop, hb⟩ := except_bind_eq_ok hb
      obtain ⟨oc, hoc, hb⟩ := except_bind_eq_ok hb
      obtain ⟨mc, hmc, hb⟩ := except_bind_eq_ok hb
      obtain ⟨⟨sd, r2⟩, hsd, hb⟩ := except_bind_eq_ok hb
      obtain ⟨pre', hpre, hb⟩ := except_bind_eq_ok hb
      obtain ⟨⟨buf', j2⟩, hput, hb⟩ := except_bind_eq_ok hb
      cases hb
      have hoc' := getOpCfg_ok hoc
      have hmc' := getMachineCfg_ok hmc
      obtain ⟨_, b1, rfl⟩ := removeFromBuffer_spec hpre
      obtain ⟨hcap, b2, rfl, rfl⟩ := putInBuffer_spec hput
      exact ⟨j, op, oc, mc, sd, b1, b2, hj'.1, by rw [hj'.2], by simpa using hin, nextNotDone_ok hop, hoc'.1,
        hoc'.2.1, hoc'.2.2, hmc'.1, hmc'.2, hcap, setupDuration_ok hsd, rfl⟩

/-- `handle_machine_setup_to_working_transition` -/
theorem setupToWorking_spec {s s' : State} {r r' : Rng} {tr : Transition} {m : MachineState}
    (h : handleMachineSetupToWorking orc inst s r tr m = .ok (s', r')) :
    ∃ (j : JobState) (op : OpState) (oc : OpCfg) (d : Int),
      j ∈ s.jobs ∧ tr.job = some j.id ∧ j.id ∈ m.buffer.store ∧ j.nextNotDone? = some op ∧
      oc ∈ inst.jobs.flatMap (·.ops) ∧ oc.job = op.job ∧ oc.idx = op.idx ∧
      (d, r') = oc.dur.updRead orc r ∧
      s' = (s.replaceJob (j.replaceOp (opRec oc s.time (s.time + d) m.id))).replaceMachine
            (m.toWorking (s.time + d)) := by
  unfold handleMachineSetupToWorking at h
  cases htj : tr.job with
  | none => rw [htj] at h; cases h
  | some jid =>
    simp only [htj, except_pure, except_bind_ok] at h
    obtain ⟨j, hj, h⟩ := except_bind_eq_ok h
    have hj' := getJob_ok hj
    split at h
    · simp at h
    · rename_i hin
      obtain ⟨⟨j1, m1, r1⟩, hb, h⟩ := except_bind_eq_ok h
      simp at h
      obtain ⟨rfl, rfl⟩ := h
      unfold beginNextJobOnMachine at hb
      obtain ⟨op, hop, hb⟩ := except_bind_eq_ok hb
      obtain ⟨oc, hoc, hb⟩ := except_bind_eq_ok hb
      have hoc' := getOpCfg_ok hoc
      simp at hb
      obtain ⟨rfl, rfl, rfl⟩ := hb
      exact ⟨j, op, oc, (oc.dur.updRead orc r).1, hj'.1, by simp [hj'.2], by simpa using hin,
        nextNotDone_ok hop, hoc'.1, hoc'.2.1, hoc'.2.2, rfl, rfl⟩

/-- `handle_machine_working_to_outage_transition` -/
theorem workingToOutage_spec {s s' : State} {r r' : Rng} {tr : Transition} {m : MachineState}
    (h : handleMachineWorkingToOutage orc inst s r tr m = .ok (s', r')) :
    ∃ (mc : MachineCfg) (outs : List OutageState) (j : JobState) (op : OpState),
      mc ∈ inst.machines ∧ mc.id = m.id ∧
      newOutageStates orc s.time m.outages mc.outages r = .ok (outs, r') ∧
      j ∈ s.jobs ∧ tr.job = some j.id ∧ j.processing? = some op ∧
      s' = (s.replaceMachine (m.toOutage outs (s.time + occupiedFor outs))).replaceJob
            (j.replaceOp { op with stop := some (s.time + occupiedFor outs) }) := by
  unfold handleMachineWorkingToOutage at h
  obtain ⟨mc, hmc, h⟩ := except_bind_eq_ok h
  obtain ⟨⟨outs, r1⟩, ho, h⟩ := except_bind_eq_ok h
  simp only at h
  obtain ⟨j, hj, h⟩ := except_bind_eq_ok h
  obtain ⟨⟨j1, m1⟩, hb, h⟩ := except_bind_eq_ok h
  simp at h
  obtain ⟨rfl, rfl⟩ := h
  have hmc' := getMachineCfg_ok hmc
  have hj' := getJobOpt_ok hj
  unfold beginMachineOutage at hb
  simp only [except_pure] at hb
  split at hb
  · simp at hb
  · rename_i op hop
    simp at hb
    obtain ⟨rfl, rfl⟩ := hb
    exact ⟨mc, outs, j, op, hmc'.1, hmc'.2, ho, hj'.1, hj'.2, hop, rfl⟩

/-- `handle_machine_outage_to_idle_transition` -/
theorem outageToIdle_spec {s s' : State} {r r' : Rng} {m : MachineState}
    (h : handleMachineOutageToIdle inst s r m = .ok (s', r')) :
    ∃ (j : JobState) (op : OpState) (mc : MachineCfg) (rest : List Nat) (bss1 bss2 : BSS),
      m.buffer.store = j.id :: rest ∧ j ∈ s.jobs ∧ j.processing? = some op ∧
      mc ∈ inst.machines ∧ mc.id = m.id ∧ (m.post.store.length : Int) < mc.post.cap ∧ r' = r ∧
      s' = (s.replaceJob ((j.replaceOp { op with stop := some s.time, st := .done }).at m.post.id)).replaceMachine
            (m.toIdle j.id bss1 bss2) := by
  unfold handleMachineOutageToIdle at h
  obtain ⟨⟨j1, m1⟩, hb, h⟩ := except_bind_eq_ok h
  simp at h
  obtain ⟨rfl, rfl⟩ := h
  unfold completeActiveOperation at hb
  cases hst : m.buffer.store with
  | nil => rw [hst] at hb; cases hb
  | cons jid rest =>
    simp only [hst, except_pure, except_bind_ok] at hb
    obtain ⟨j, hj, hb⟩ := except_bind_eq_ok hb
    have hj' := getJob_ok hj
    cases hop : j.processing? with
    | none => rw [hop] at hb; cases hb
    | some op =>
      simp only [hop, except_bind_ok] at hb
      obtain ⟨buf', hrm, hb⟩ := except_bind_eq_ok hb
      obtain ⟨mc, hmc, hb⟩ := except_bind_eq_ok hb
      obtain ⟨⟨post', j2⟩, hput, hb⟩ := except_bind_eq_ok hb
      simp at hb
      obtain ⟨rfl, rfl⟩ := hb
      have hmc' := getMachineCfg_ok hmc
      obtain ⟨_, b1, rfl⟩ := removeFromBuffer_spec hrm
      obtain ⟨hcap, b2, rfl, rfl⟩ := putInBuffer_spec hput
      exact ⟨j, op, mc, rest, b1, b2, by rw [hj'.2], hj'.1, hop, hmc'.1, hmc'.2, hcap, rfl, rfl⟩

end JSL
