import JSL.Inv.ClassicSyncDefs
import JSL.Inv.ClassicMachTotal
import JSL.Inv.ClassicAgvTotalA
import JSL.Inv.ClassicAgvTotalB
import JSL.Inv.ClassicFrame
import JSL.Inv.ReachList
import JSL.Props.C12

/-!
# The state stays in step with a target schedule

* `rec_step` – a transition that is not a machine start changes no start of a record that has left
  `IDLE` and takes no record out of `IDLE`;
* `sync_step` – hence it keeps `SyncL`;
* `sync_start` – an accepted machine start of an operation whose target start is now keeps `SyncL`;
* `sync_jump` – the forced jump keeps `SyncL` when no startable operation is due now or earlier.

Of the classic invariant only `machDue` and `setupRec` matter, which `CInv` and `CInvE` share: `rec_step`
and the `_core` forms take these two facts as hypotheses; `sync_step`, `sync_jump` are the instances for
`CInv`, those for `CInvE` are in `ClassicSyncE`.
-/

namespace JSL

variable {orc : Oracle} {inst : Instance}

theorem rec_step (w : WF inst) {s s' : State} {r r' : Rng} {a : Transition}
    (hI : StructInv inst s) (hS : SchedInv s)
    (hMD : ∀ m ∈ s.machines, m.st = .setup ∨ m.st = .outage → ∃ c, m.occ = some c ∧ c ≤ s.time)
    (hSR : ∀ m ∈ s.machines, m.st = .setup → ∀ j ∈ s.jobs, ∀ o ∈ j.ops, o.st = .processing →
      o.machine = m.id → o.start = o.stop)
    (hns : a.new ≠ .m .setup) (h : applyTransition orc inst s r a = .ok (s', r')) :
    ∀ j' ∈ s'.jobs, ∀ o' ∈ j'.ops, ∃ j ∈ s.jobs, j.id = j'.id ∧ ∃ o ∈ j.ops, o.job = o'.job ∧ o.idx = o'.idx ∧
      (o'.st = .idle ↔ o.st = .idle) ∧ (o.st ≠ .idle → o'.start = o.start) := by
  have hjn := hI.shape.jobsNodup w
  -- a job replaced by one whose records are those of `j.replaceOp rec`, `rec` keyed like a busy record with the
  -- same start
  have key : ∀ (j J' : JobState) (op rec : OpState), j ∈ s.jobs → J'.id = j.id → J'.ops = (j.replaceOp rec).ops →
      op ∈ j.ops → op.st ≠ .idle → rec.st ≠ .idle → rec.job = op.job → rec.idx = op.idx → rec.start = op.start →
      s'.jobs = (s.replaceJob J').jobs →
      ∀ j' ∈ s'.jobs, ∀ o' ∈ j'.ops, ∃ j ∈ s.jobs, j.id = j'.id ∧ ∃ o ∈ j.ops, o.job = o'.job ∧ o.idx = o'.idx ∧
        (o'.st = .idle ↔ o.st = .idle) ∧ (o.st ≠ .idle → o'.start = o.start) := by
    intro j J' op rec hj hid hops hop hopn hrecn hk1 hk2 hst hjobs j' hj' o' ho'
    rw [hjobs] at hj'
    rcases (mem_replaceJob hjn hj hid j').mp hj' with rfl | ⟨hj0, _⟩
    · rw [hops] at ho'
      rcases mem_replaceOp.mp ho' with ⟨rfl, _⟩ | ⟨ho0, _⟩
      · exact ⟨j, hj, hid.symm, op, hop, hk1.symm, hk2.symm, ⟨fun e => absurd e hrecn, fun e => absurd e hopn⟩,
          fun _ => hst⟩
      · exact ⟨j, hj, hid.symm, o', ho0, rfl, rfl, Iff.rfl, fun _ => rfl⟩
    · exact ⟨j', hj0, rfl, o', ho', rfl, rfl, Iff.rfl, fun _ => rfl⟩
  cases applyTransition_ran h with
  | t t hc =>
    obtain ⟨_, hj⟩ := agv_effect w hI hc h
    intro j' hj' o' ho'
    obtain ⟨j, hj0, e1, e2⟩ := hj j' hj'
    exact ⟨j, hj0, e1, o', by rw [e2]; exact ho', rfl, rfl, Iff.rfl, fun _ => rfl⟩
  | m m0 _ hm0 hd ns hn hmh hh =>
    have hi := machineHandler_inv hmh
    cases hd with
    | idleToSetup => exact absurd (by rw [hn, hi.2]) hns
    | setupToWorking =>
      have hst := hi.1
      obtain ⟨j, op, oc, d, hj, _, hin, hnn, _, hk1, hk2, _, rfl⟩ := setupToWorking_spec hh
      obtain ⟨_, op0, hp0, hm0id, hstop0, _⟩ := busy_job hI hS w hm0 (by rw [hst]; simp) hj hin
      have hnn0 := nextNotDone_of_processing (hS.ops j hj) hp0
      have : op0 = op := by rw [hnn] at hnn0; simpa using hnn0.symm
      subst this
      obtain ⟨_, _, hl, _, hpr⟩ := processing?_split' hp0
      have hmem : op0 ∈ j.ops := by rw [hl]; simp
      -- the running record started now
      obtain ⟨c, hocc, hcle⟩ := hMD m0 hm0 (Or.inl hst)
      have hss := hSR m0 hm0 hst j hj op0 hmem hpr hm0id
      obtain ⟨a0, b0, ha0, hb0, _, hale, hble⟩ := (OpsOK_mem _ _ (hS.ops j hj) op0 hmem).2.1 hpr
      have hstart : op0.start = some s.time := by
        have e1 : b0 = c := Option.some.inj (by rw [← hb0, hstop0, hocc])
        have e2 : a0 = b0 := Option.some.inj (by rw [← ha0, ← hb0, hss])
        rw [ha0, e2, Int.le_antisymm (by rw [e1]; exact hcle) hble]
      exact key j (j.replaceOp (opRec oc s.time (s.time + d) m0.id)) op0 (opRec oc s.time (s.time + d) m0.id) hj rfl rfl
        hmem (by rw [hpr]; simp) (by simp [opRec]) hk1 hk2 (by rw [hstart]; rfl) rfl
    | workingToOutage =>
      obtain ⟨mc, outs, j, op, _, _, _, hj, _, hp, rfl⟩ := workingToOutage_spec hh
      obtain ⟨_, _, hl, _, hpr⟩ := processing?_split' hp
      exact key j (j.replaceOp { op with stop := some (s.time + occupiedFor outs) }) op
        { op with stop := some (s.time + occupiedFor outs) } hj rfl rfl (by rw [hl]; simp) (by rw [hpr]; simp)
        (by rw [hpr]; simp) rfl rfl rfl rfl
    | outageToIdle =>
      obtain ⟨j, op, mc, rest, b1, b2, _, hj, hp, _, _, _, _, rfl⟩ := outageToIdle_spec hh
      obtain ⟨_, _, hl, _, hpr⟩ := processing?_split' hp
      exact key j ((j.replaceOp { op with stop := some s.time, st := .done }).at m0.post.id) op
        { op with stop := some s.time, st := .done } hj rfl rfl (by rw [hl]; simp) (by rw [hpr]; simp) (by simp)
        rfl rfl rfl rfl


theorem sync_step_core (w : WF inst) {S : Nat → Nat → Int} {s s' : State} {r r' : Rng} {a : Transition}
    (hI : StructInv inst s) (hS : SchedInv s)
    (hMD : ∀ m ∈ s.machines, m.st = .setup ∨ m.st = .outage → ∃ c, m.occ = some c ∧ c ≤ s.time)
    (hSR : ∀ m ∈ s.machines, m.st = .setup → ∀ j ∈ s.jobs, ∀ o ∈ j.ops, o.st = .processing →
      o.machine = m.id → o.start = o.stop)
    (hns : a.new ≠ .m .setup)
    (h : applyTransition orc inst s r a = .ok (s', r')) (hQ : SyncL inst S s) : SyncL inst S s' := by
  have hrec := rec_step w hI hS hMD hSR hns h
  have htime := applyTransition_time h
  refine ⟨by rw [htime]; exact hQ.nonneg, ?_, ?_⟩
  · intro j' hj' o' ho' hni
    obtain ⟨j, hj, _, o, ho, k1, k2, hiff, hst⟩ := hrec j' hj' o' ho'
    have hni0 : o.st ≠ .idle := fun e => hni (hiff.mpr e)
    rw [hst hni0, hQ.started j hj o ho hni0, k1, k2]
  · intro j' hj' o' ho' hlt
    obtain ⟨j, hj, _, o, ho, k1, k2, hiff, _⟩ := hrec j' hj' o' ho'
    rw [htime, ← k1, ← k2] at hlt
    exact fun e => hQ.due j hj o ho hlt (hiff.mp e)

theorem sync_step (w : WF inst) {S : Nat → Nat → Int} {s s' : State} {r r' : Rng} {a : Transition}
    (hI : StructInv inst s) (hS : SchedInv s) (hB : Bundle inst s) (hns : a.new ≠ .m .setup)
    (h : applyTransition orc inst s r a = .ok (s', r')) (hQ : SyncL inst S s) : SyncL inst S s' :=
  sync_step_core w hI hS hB.cinv.machDue hB.cinv.setupRec hns h hQ

theorem sync_start (w : WF inst) {S : Nat → Nat → Int} {s s' : State} {r r' : Rng} {mid jid : Nat}
    (hI : StructInv inst s) (hS : SchedInv s) (hQ : SyncL inst S s)
    (h : applyTransition orc inst s r ⟨.m mid, .m .setup, some jid⟩ = .ok (s', r'))
    (hnow : ∀ j ∈ s.jobs, j.id = jid → ∀ o, j.nextIdle? = some o → S o.job o.idx = s.time) : SyncL inst S s' := by
  have hjn := hI.shape.jobsNodup w
  have htime := applyTransition_time h
  obtain ⟨m0, hm0, _, hh⟩ := apply_start rfl h
  obtain ⟨j, op, oc, mc, sd, b1, b2, hj, htj, hin, hnn, _, hk1, hk2, _, _, _, _, hs'⟩ := idleToSetup_spec hh
  have hjid : j.id = jid := by simpa using htj.symm
  have hnr := pre_not_running w hI hS hm0 hj hin
  have hni : j.nextIdle? = some op := by rw [← nextNotDone_eq_nextIdle (hS.ops j hj) hnr]; exact hnn
  have hSop : S oc.job oc.idx = s.time := by rw [hk1, hk2]; exact hnow j hj hjid op hni
  have hrecs : ∀ j' ∈ s'.jobs, ∀ o' ∈ j'.ops, o' = opRec oc s.time (s.time + sd) m0.id ∨ ∃ j0 ∈ s.jobs, o' ∈ j0.ops := by
    intro j' hj' o' ho'
    rw [hs'] at hj'
    rcases (mem_replaceJob hjn hj (by simp) j').mp hj' with rfl | ⟨hj0, _⟩
    · rcases mem_replaceOp.mp ho' with ⟨rfl, _⟩ | ⟨ho0, _⟩
      · exact Or.inl rfl
      · exact Or.inr ⟨j, hj, ho0⟩
    · exact Or.inr ⟨j', hj0, ho'⟩
  refine ⟨by rw [htime]; exact hQ.nonneg, ?_, ?_⟩
  · intro j' hj' o' ho' hni'
    rcases hrecs j' hj' o' ho' with rfl | ⟨j0, hj0, ho0⟩
    · simp only [opRec]; rw [hSop]
    · exact hQ.started j0 hj0 o' ho0 hni'
  · intro j' hj' o' ho' hlt
    rcases hrecs j' hj' o' ho' with rfl | ⟨j0, hj0, ho0⟩
    · simp [opRec]
    · rw [htime] at hlt; exact hQ.due j0 hj0 o' ho0 hlt

theorem map_eq_split {α β γ} {f : α → γ} {g : β → γ} {x : α} {l1 l2 : List α} {l' : List β}
    (h : (l1 ++ x :: l2).map f = l'.map g) :
    ∃ l1' y l2', l' = l1' ++ y :: l2' ∧ l1.map f = l1'.map g ∧ f x = g y ∧ l2.map f = l2'.map g := by
  rw [List.map_append, List.map_cons] at h
  obtain ⟨a, b, rfl, ha, hb⟩ := List.map_eq_append_iff.mp h.symm
  obtain ⟨y, l2', rfl, hy, hl2⟩ := List.map_eq_cons_iff.mp hb
  exact ⟨a, y, l2', rfl, ha.symm, hy.symm, hl2.symm⟩

theorem rec_cfg (w : WF inst) {s : State} (hs : Shape inst s) {j : JobState} (hj : j ∈ s.jobs) {o : OpState}
    (ho : o ∈ j.ops) : ∃ oc ∈ allOps inst, oc.job = o.job ∧ oc.idx = o.idx ∧ oc.machine = o.machine := by
  obtain ⟨oc, hg, hmem, hm⟩ := getOpCfg_of_mem w hs hj ho
  have := getOpCfg_ok hg
  exact ⟨oc, hmem, this.2.1, this.2.2, hm⟩

theorem cfg_rec {s : State} (hs : Shape inst s) {oc : OpCfg} (hoc : oc ∈ allOps inst) :
    ∃ j ∈ s.jobs, ∃ o ∈ j.ops, o.job = oc.job ∧ o.idx = oc.idx := by
  obtain ⟨jc, hjc, hocj⟩ := List.mem_flatMap.mp hoc
  obtain ⟨j, hj, hk⟩ := mem_of_map_eq hs.jobs.symm hjc
  simp only [jKey, jcKey, Prod.mk.injEq] at hk
  obtain ⟨o, ho, e⟩ := mem_of_map_eq hk.2 hocj
  simp only [opKey, ocKey, Prod.mk.injEq] at e
  exact ⟨j, hj, o, ho, e.1.symm, e.2.1.symm⟩

theorem earlier_before {S : Nat → Nat → Int} (hT : TargetOK inst S) (hnn : ∀ oc ∈ allOps inst, 0 ≤ oc.d) {s : State}
    (hs : Shape inst s) {j : JobState} (hj : j ∈ s.jobs) {l1 l2 : List OpState} {o p : OpState}
    (e : j.ops = l1 ++ o :: l2) (hp : p ∈ l1) :
    ∃ pc ∈ allOps inst, pc.job = p.job ∧ pc.idx = p.idx ∧ S p.job p.idx + pc.d ≤ S o.job o.idx := by
  obtain ⟨jc, hjc, hk⟩ := hs.job_cfg hj
  simp only [jKey, jcKey, Prod.mk.injEq] at hk
  have hmap := hk.2
  rw [e] at hmap
  obtain ⟨l1', oc, l2', e', h1, h2, _⟩ := map_eq_split hmap
  obtain ⟨u, v, rfl⟩ := List.append_of_mem hp
  obtain ⟨u', pc, v', e1', _, h4, _⟩ := map_eq_split h1
  simp only [opKey, ocKey, Prod.mk.injEq] at h2 h4
  have hops : jc.ops = u' ++ pc :: (v' ++ oc :: l2') := by rw [e', e1']; simp
  have hb := hT.before hnn hjc hops (b := oc) (by simp)
  refine ⟨pc, mem_allOps hjc (by rw [hops]; simp), h4.1.symm, h4.2.1.symm, ?_⟩
  rw [h4.1, h4.2.1, h2.1, h2.2.1]; exact hb

theorem proc_end_le (hC : Classic inst) {S : Nat → Nat → Int} {s : State} (hS : SchedInv s) (hD : DurInv inst s)
    (hSR : ∀ m ∈ s.machines, m.st = .setup → ∀ j ∈ s.jobs, ∀ o ∈ j.ops, o.st = .processing →
      o.machine = m.id → o.start = o.stop)
    (hQ : SyncL inst S s) {j : JobState} (hj : j ∈ s.jobs) {o : OpState} (ho : o ∈ j.ops)
    (hst : o.st = .processing) {oc : OpCfg} (hoc : oc ∈ allOps inst) (k1 : oc.job = o.job) (k2 : oc.idx = o.idx)
    {b : Int} (hb : o.stop = some b) : b ≤ S o.job o.idx + oc.d := by
  obtain ⟨m, hm, hmid, hbusy, _⟩ := hS.procOnBusy j hj o ho hst
  obtain ⟨d, hd, hdpos⟩ := hC.posDur oc hoc
  have hocd : oc.d = d := by simp [OpCfg.d, hd]
  have hstart := hQ.started j hj o ho (by rw [hst]; simp)
  have hrun : m.st = .working ∨ m.st = .outage → b ≤ S o.job o.idx + oc.d := by
    intro hmst
    obtain ⟨a, b', ha, hb', _, heq⟩ := hD.running j hj o ho hst m hm hmid hmst d ⟨oc, hoc, k1, k2, hd⟩
    have := heq (fun mc hmc _ => hC.noOutM mc hmc)
    rw [hstart] at ha; rw [hb] at hb'
    simp at ha hb'
    rw [hb', this, ha, hocd]
    exact Int.le_refl _
  cases hmst : m.st with
  | idle => exact absurd hmst hbusy
  | setup =>
    have := hSR m hm hmst j hj o ho hst hmid.symm
    rw [hstart, hb] at this
    simp at this
    rw [this, hocd]
    exact Int.le_add_of_nonneg_right (Int.le_of_lt hdpos)
  | working => exact hrun (Or.inl hmst)
  | outage => exact hrun (Or.inr hmst)

theorem done_end_ge {S : Nat → Nat → Int} {s : State} (hS : SchedInv s) (hD : DurInv inst s)
    (hQ : SyncL inst S s) {j : JobState} (hj : j ∈ s.jobs) {o : OpState} (ho : o ∈ j.ops)
    (hst : o.st = .done) {oc : OpCfg} (hoc : oc ∈ allOps inst) (k1 : oc.job = o.job) (k2 : oc.idx = o.idx)
    {d : Int} (hd : oc.dur = .det d) : S o.job o.idx + d ≤ s.time := by
  have hstart := hQ.started j hj o ho (by rw [hst]; simp)
  obtain ⟨a, b, ha, hb, h1, _⟩ := hD.done j hj o ho hst d ⟨oc, hoc, k1, k2, hd⟩
  obtain ⟨a', b', ha', hb', _, hle⟩ := (OpsOK_mem _ _ (hS.ops j hj) o ho).1 hst
  rw [hstart] at ha; rw [hb] at hb'
  simp at ha hb'
  rw [ha]
  exact Int.le_trans h1 (by rw [hb']; exact hle)

theorem proc_target_ge (hC : Classic inst) {S : Nat → Nat → Int} {s : State} (hS : SchedInv s) (hD : DurInv inst s)
    (hSR : ∀ m ∈ s.machines, m.st = .setup → ∀ j ∈ s.jobs, ∀ o ∈ j.ops, o.st = .processing →
      o.machine = m.id → o.start = o.stop)
    (hQ : SyncL inst S s) {t : Int}
    (hge : ∀ j ∈ s.jobs, ∀ o ∈ j.ops, o.st = .processing → ∀ b, o.stop = some b → t ≤ b)
    {j : JobState} (hj : j ∈ s.jobs) {o : OpState} (ho : o ∈ j.ops) (hst : o.st = .processing) {oc : OpCfg}
    (hoc : oc ∈ allOps inst) (k1 : oc.job = o.job) (k2 : oc.idx = o.idx) : t ≤ S o.job o.idx + oc.d := by
  obtain ⟨a, b, _, hb, _⟩ := (OpsOK_mem _ _ (hS.ops j hj) o ho).2.1 hst
  exact Int.le_trans (hge j hj o ho hst b hb) (proc_end_le hC hS hD hSR hQ hj ho hst hoc k1 k2 hb)

theorem earlier_done (hC : Classic inst) {S : Nat → Nat → Int} (hT : TargetOK inst S) {s : State}
    (hs : Shape inst s) (hS : SchedInv s) (hD : DurInv inst s)
    (hSR : ∀ m ∈ s.machines, m.st = .setup → ∀ j ∈ s.jobs, ∀ o ∈ j.ops, o.st = .processing →
      o.machine = m.id → o.start = o.stop)
    (hQ : SyncL inst S s) {t : Int}
    (hge : ∀ j ∈ s.jobs, ∀ o ∈ j.ops, o.st = .processing → ∀ b, o.stop = some b → t ≤ b)
    {j : JobState} (hj : j ∈ s.jobs) {l1 l2 : List OpState} {o : OpState} (e : j.ops = l1 ++ o :: l2)
    (hnow : S o.job o.idx ≤ s.time) (hlt : S o.job o.idx < t) : ∀ p ∈ l1, p.st = .done := by
  intro p hp
  obtain ⟨pc, hpc, q1, q2, hbef⟩ := earlier_before hT (d_nonneg_of_det hC.posDur) hs hj e hp
  have hpmem : p ∈ j.ops := by rw [e]; simp [hp]
  have hpd := d_pos_of_det hC.posDur pc hpc
  cases hpst : p.st with
  | idle => exact absurd hpst (hQ.due j hj p hpmem
      (Int.lt_of_lt_of_le (Int.lt_add_of_pos_right _ hpd) (Int.le_trans hbef hnow)))
  | done => rfl
  | transport => exact absurd hpst (OpsOK_mem _ _ (hS.ops j hj) p hpmem).2.2
  | processing =>
    have := proc_target_ge hC hS hD hSR hQ hge hj hpmem hpst hpc q1 q2
    exact absurd (Int.lt_of_le_of_lt (Int.le_trans this hbef) hlt) (Int.lt_irrefl _)

theorem nextIdle_of_prefix_done {now : Int} {j : JobState} (hok : OpsOK now none j.ops) {l1 l2 : List OpState}
    {o : OpState} (e : j.ops = l1 ++ o :: l2) (hdone : ∀ p ∈ l1, p.st = .done) (hidle : o.st = .idle) :
    (∀ x ∈ j.ops, x.st ≠ .processing) ∧ j.running = false ∧ j.nextIdle? = some o := by
  have hidle2 : allIdle l2 := OpsOK_after o (by rw [hidle]; simp) l2 l1 none hdone (e ▸ hok)
  have hnproc : ∀ x ∈ j.ops, x.st ≠ .processing := by
    intro x hx; rw [e] at hx
    rcases List.mem_append.mp hx with h | h
    · rw [hdone x h]; simp
    · rcases List.mem_cons.mp h with rfl | h
      · rw [hidle]; simp
      · rw [hidle2 x h]; simp
  refine ⟨hnproc, ?_, ?_⟩
  · cases hr : j.running with
    | false => rfl
    | true =>
      unfold JobState.running at hr
      obtain ⟨x, hx, hxs⟩ := List.any_eq_true.mp hr
      exact absurd (by simpa using hxs) (hnproc x hx)
  · unfold JobState.nextIdle?
    rw [e, List.find?_append]
    have : l1.find? (fun o => o.st == OSt.idle) = none := by
      apply List.find?_eq_none.mpr
      intro x hx; simp [hdone x hx]
    simp [this, hidle]

/-- no idle record has its target start before the instant the forced jump lands on: by induction on the target
start.  A target start that has come belongs to the next record of a job that is not running, whose machine is
therefore busy with a record that, in the target schedule, ends before it; a target start that lies ahead is the
target end of a record that is idle (induction), finished (then the end has passed) or running. -/
theorem no_idle_before (w : WF inst) (hC : Classic inst) {S : Nat → Nat → Int} (hT : TargetOK inst S) {s : State}
    (hI : StructInv inst s) (hS : SchedInv s) (hD : DurInv inst s)
    (hSR : ∀ m ∈ s.machines, m.st = .setup → ∀ j ∈ s.jobs, ∀ o ∈ j.ops, o.st = .processing →
      o.machine = m.id → o.start = o.stop)
    (hQ : SyncL inst S s)
    (havail : ∀ j ∈ s.jobs, j.running = false → ∀ o, j.nextIdle? = some o →
      (∀ m ∈ s.machines, m.id = o.machine → m.st = .idle) → s.time < S o.job o.idx)
    {t : Int} (hge : ∀ j ∈ s.jobs, ∀ o ∈ j.ops, o.st = .processing → ∀ b, o.stop = some b → t ≤ b) :
    ∀ (n : Nat) (j : JobState), j ∈ s.jobs → ∀ o ∈ j.ops, o.st = .idle → (S o.job o.idx).toNat = n →
      S o.job o.idx < t → False := by
  have hs := hI.shape
  have hpos := d_pos_of_det hC.posDur
  intro n
  induction n using Nat.strongRecOn with
  | _ n ih =>
    intro j hj o ho hidle hn hlt
    obtain ⟨oc, hoc, k1, k2, km⟩ := rec_cfg w hs hj ho
    rcases Int.lt_trichotomy (S o.job o.idx) s.time with h1 | h1 | h1
    · exact hQ.due j hj o ho h1 hidle
    · -- the target start is now
      obtain ⟨l1, l2, e⟩ := List.append_of_mem ho
      have hdone := earlier_done hC hT hs hS hD hSR hQ hge hj e (Int.le_of_eq h1) hlt
      obtain ⟨hnproc, hnr, hni⟩ := nextIdle_of_prefix_done (hS.ops j hj) e hdone hidle
      -- the machine of `o` is busy
      have hbusy : ∃ m ∈ s.machines, m.id = o.machine ∧ m.st ≠ .idle := by
        apply Classical.byContradiction
        intro hno
        have := havail j hj hnr o hni
          (fun m hm hid => Classical.byContradiction fun hne => hno ⟨m, hm, hid, hne⟩)
        rw [h1] at this
        exact Int.lt_irrefl _ this
      obtain ⟨m, hm, hmid, hmb⟩ := hbusy
      obtain ⟨j2, hj2, _, o2, hp2, hm2, _, _⟩ := hS.busyHolds m hm hmb
      obtain ⟨ho2, hst2⟩ := find?_mem_ops hp2
      have hst2 : o2.st = .processing := by simpa using hst2
      obtain ⟨oc2, hoc2, r1, r2, rm⟩ := rec_cfg w hs hj2 ho2
      have hne : (oc2.job, oc2.idx) ≠ (oc.job, oc.idx) := by
        intro heq
        simp only [Prod.mk.injEq] at heq
        have hjj : j2.id = j.id := by
          rw [← hs.ops_job w hj2 ho2, ← hs.ops_job w hj ho, ← r1, ← k1, heq.1]
        have : j2 = j := eq_of_mem_of_key_eq (key := fun (y : JobState) => y.id) (hs.jobsNodup w) hj2 hj hjj
        subst this
        exact hnproc o2 ho2 hst2
      rcases hT.excl oc2 hoc2 oc hoc (by rw [rm, km, hm2, hmid]) hne with hx | hx
      · rw [r1, r2, k1, k2] at hx
        exact Int.not_le.mpr hlt
          (Int.le_trans (proc_target_ge hC hS hD hSR hQ hge hj2 ho2 hst2 hoc2 r1 r2) hx)
      · -- the running record started at its target start, which has come
        rw [r1, r2, k1, k2] at hx
        obtain ⟨a2, b2, ha2, _, _, hale, _⟩ := (OpsOK_mem _ _ (hS.ops j2 hj2) o2 ho2).2.1 hst2
        rw [hQ.started j2 hj2 o2 ho2 (by rw [hst2]; simp)] at ha2
        rw [Option.some.inj ha2] at hx
        have := Int.le_trans hx hale
        rw [← h1] at this
        exact Int.not_le.mpr (Int.lt_add_of_pos_right _ (hpos oc hoc)) this
    · -- the target start lies ahead: it is the end of an operation
      rcases hT.aligned oc hoc with h0 | ⟨oc', hoc', hal⟩
      · rw [k1, k2] at h0
        rw [h0] at h1
        exact Int.not_le.mpr h1 hQ.nonneg
      · rw [k1, k2] at hal
        obtain ⟨j', hj', o', ho', q1, q2⟩ := cfg_rec hs hoc'
        rw [← q1, ← q2] at hal
        have hnn' : 0 ≤ S o'.job o'.idx := by rw [q1, q2]; exact hT.nonneg oc' hoc'
        have hlt' : S o'.job o'.idx < S o.job o.idx := by
          rw [hal]; exact Int.lt_add_of_pos_right _ (hpos oc' hoc')
        cases hst' : o'.st with
        | idle =>
          refine ih (S o'.job o'.idx).toNat ?_ j' hj' o' ho' hst' rfl (Int.lt_trans hlt' hlt)
          rw [← hn]
          exact (Int.toNat_lt_toNat (Int.lt_of_le_of_lt hnn' hlt')).mpr hlt'
        | transport => exact absurd hst' (OpsOK_mem _ _ (hS.ops j' hj') o' ho').2.2
        | done =>
          obtain ⟨d, hd, _⟩ := hC.posDur oc' hoc'
          have h2 := done_end_ge hS hD hQ hj' ho' hst' hoc' q1.symm q2.symm hd
          have e : oc'.d = d := by simp [OpCfg.d, hd]
          rw [← e, ← hal] at h2
          exact Int.not_le.mpr h1 h2
        | processing =>
          have h2 := proc_target_ge hC hS hD hSR hQ hge hj' ho' hst' hoc' q1.symm q2.symm
          rw [← hal] at h2
          exact Int.not_le.mpr hlt h2

/-- **the forced jump keeps the state in step** when no operation that could start now is due now or earlier: the
clock lands on the earliest end of a running operation, and every target start is 0 or such an end -/
theorem sync_jump_core (w : WF inst) (hC : Classic inst) {S : Nat → Nat → Int} (hT : TargetOK inst S) {s : State}
    (hI : StructInv inst s) (hS : SchedInv s) (hD : DurInv inst s)
    (hSR : ∀ m ∈ s.machines, m.st = .setup → ∀ j ∈ s.jobs, ∀ o ∈ j.ops, o.st = .processing →
      o.machine = m.id → o.start = o.stop)
    (hQ : SyncL inst S s)
    (havail : ∀ j ∈ s.jobs, j.running = false → ∀ o, j.nextIdle? = some o →
      (∀ m ∈ s.machines, m.id = o.machine → m.st = .idle) → s.time < S o.job o.idx)
    {t : Int} (hf : forceJump s = .ok t) : SyncL inst S { s with time := t } := by
  obtain ⟨hle, hge, _, _⟩ := c12_jump_exact hS hf
  refine ⟨Int.le_trans hQ.nonneg hle, hQ.started, ?_⟩
  intro j hj o ho hlt hidle
  exact no_idle_before w hC hT hI hS hD hSR hQ havail hge _ j hj o ho hidle rfl hlt

theorem sync_jump (w : WF inst) (hC : Classic inst) {S : Nat → Nat → Int} (hT : TargetOK inst S) {s : State}
    (hI : StructInv inst s) (hS : SchedInv s) (hD : DurInv inst s) (hP : CInv inst s) (hQ : SyncL inst S s)
    (havail : ∀ j ∈ s.jobs, j.running = false → ∀ o, j.nextIdle? = some o →
      (∀ m ∈ s.machines, m.id = o.machine → m.st = .idle) → s.time < S o.job o.idx)
    {t : Int} (hf : forceJump s = .ok t) : SyncL inst S { s with time := t } :=
  sync_jump_core w hC hT hI hS hD hP.setupRec hQ havail hf

end JSL
