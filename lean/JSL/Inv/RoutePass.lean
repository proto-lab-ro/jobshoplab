import JSL.Inv.RouteStep

/-!
# The batches the code builds meet the route guard; the full AGV invariant along every episode
-/

namespace JSL

variable {orc : Oracle} {inst : Instance}

theorem timedTransport_shape {s : State} (hS : SchedInv s) {t : TransportState} (ht : t ∈ s.transports)
    {tr : Transition} (h : timedTransport inst s t = .ok (some tr)) :
    tr.new = .t .waitingpickup ∨ (tr.comp = .t t.id ∧ (tr.new = .t .transit → tr.job = t.job)) := by
  rcases timedTransport_ok h with ⟨b, j, hocc, _⟩ |
    ⟨o, _, _, hc, ⟨j, _, rdy, htj, hj, _, _⟩ | ⟨_, hn, _⟩ | ⟨_, hn, _⟩⟩
  · exact Or.inl (hS.depWaiting t ht b j tr hocc)
  · exact Or.inr ⟨hc, fun _ => by rw [hj, htj]⟩
  · exact Or.inr ⟨hc, fun e => by rw [hn] at e; cases e⟩
  · exact Or.inr ⟨hc, fun e => by rw [hn] at e; cases e⟩

theorem timedTransports_pairwise {s : State} (hS : SchedInv s) (hnd : (s.transports.map (·.id)).Nodup)
    {r : List (Option Transition)} (h : s.transports.mapM (timedTransport inst s) = .ok r) :
    (r.filterMap id).Pairwise (fun a b => a.comp = b.comp → a.new = .t .waitingpickup ∨ b.new = .t .waitingpickup) := by
  refine mapM_filterMap_pairwise _ _ h ((List.pairwise_map.mp hnd).imp_of_mem ?_)
  intro x y hx hy hne a b ha hb hc
  rcases timedTransport_shape hS hx ha with e | ⟨ea, _⟩
  · exact Or.inl e
  · rcases timedTransport_shape hS hy hb with e | ⟨eb, _⟩
    · exact Or.inr e
    · rw [ea, eb] at hc
      injection hc with hc
      exact absurd hc hne

theorem offers_not_in_pre (w : WF inst) {cfg : SMConfig} {s : State} (hI : StructInv inst s) (hS : SchedInv s)
    (hR : RouteInv inst s) {poss : List Transition} (hposs : possibleTransitions inst cfg s = .ok poss)
    (tr : Transition) (hp : tr ∈ poss) (hn : tr.new = .t .working) (x : Nat) (hx : tr.job = some x) :
    ∀ m ∈ s.machines, x ∉ m.pre.store := by
  have hs := hI.shape
  have hjn := hs.jobsNodup w
  rcases mem_possibleTransitions hposs hp with ⟨j, _, o, _, _, rfl⟩ | ⟨pt, hpt, h1⟩
  · cases hn
  · obtain ⟨t, _, _, j, hj, rfl, _, _, _, _, hjr, _⟩ := possibleTransport_offer hpt tr h1
    cases hx
    intro m hm hin
    have hst : j.id ∈ storeAt s m.pre.id := by rw [(pre_storeAt w hs hm).1]; exact hin
    rcases hjr with hr | htp
    · unfold JobState.running at hr
      obtain ⟨o, ho, hst'⟩ := List.any_eq_true.mp hr
      obtain ⟨m2, hm2, _, _, hstore⟩ := hS.procOnBusy j hj o ho (by simpa using hst')
      have h2 : j.id ∈ storeAt s m2.buffer.id := by rw [(pre_storeAt w hs hm2).2, hstore]; simp
      have := unique_store hI.cons hjn h2 hst
      exact (internal_ne_pre_post hs w hm2 hm).1 this
    · obtain ⟨op', e1, e2⟩ := hR.preNext m hm j.id hin j hj rfl
      rcases (transportable_ok htp).2 with hall | ⟨op, m3, hni, hgm, hne⟩
      · -- all operations done, yet one is idle
        have := List.all_eq_true.mp hall op' (List.mem_of_find?_eq_some e1)
        have hidle' : op'.st = .idle := by simpa using List.find?_some e1
        rw [hidle'] at this; simp at this
      · rw [e1] at hni; cases hni
        have hm3 := getMachine_ok hgm
        rw [eq_of_mem_of_key_eq (key := fun (y : MachineState) => y.id) (hs.machNodup w) hm3.1 hm (by rw [hm3.2, e2])] at hne
        exact hne (job_of_store hI.cons hj hst hjn).symm

theorem timed_route (w : WF inst) {s : State} (hI : StructInv inst s) (hS : SchedInv s) {tt tele : List Transition}
    (htt : timedTransitions inst s = .ok tt)
    (htele : ∀ tr ∈ tele, tr.new = .t .working ∧ ∀ x, tr.job = some x → ∀ m ∈ s.machines, x ∉ m.pre.store) :
    RouteGS s (tt ++ tele) := by
  have hs := hI.shape
  have hnoD := timed_no_dispatch hS htt
  obtain ⟨ra, rb, hra, hrb, rfl⟩ := timedTransitions_ok htt
  have hM : ∀ tr ∈ ra.filterMap id, ∃ ns mid, tr.new = .m ns ∧ tr.comp = .m mid := by
    intro tr htr
    obtain ⟨m, hm, e⟩ := (mem_mapM_filterMap hra tr).mp htr
    obtain ⟨⟨m', _, hc, hcase⟩, _⟩ := timedMachine_spec (inst := inst) (s := s) hm e
    rcases hcase with ⟨ns, _, hn, _⟩ | ⟨_, hn, _⟩
    · exact ⟨ns, m'.id, hn, hc⟩
    · exact ⟨.setup, m'.id, hn, hc⟩
  have hT : ∀ tr ∈ rb.filterMap id, tr.new = .t .waitingpickup ∨
      ∃ t ∈ s.transports, tr.comp = .t t.id ∧ (tr.new = .t .transit → tr.job = t.job) := by
    intro tr htr
    obtain ⟨t, ht, e⟩ := (mem_mapM_filterMap hrb tr).mp htr
    exact (timedTransport_shape hS ht e).imp_right fun e' => ⟨t, ht, e'⟩
  constructor
  · intro tr htr hn x hx
    rcases List.mem_append.mp htr with h | h
    · exact absurd hn (hnoD tr h)
    · exact (htele tr h).2 x hx
  · intro tr htr hn t ht hc
    rcases List.mem_append.mp htr with h | h
    · rcases List.mem_append.mp h with h1 | h1
      · obtain ⟨ns, _, e, _⟩ := hM tr h1; rw [e] at hn; simp at hn
      · rcases hT tr h1 with e | ⟨tg, htg, ec, ej⟩
        · rw [e] at hn; simp at hn
        · have : tg = t := eq_of_mem_of_key_eq (key := fun (y : TransportState) => y.id) (hs.trNodup w) htg ht (by
            rw [ec] at hc; simpa using hc)
          subst this
          exact ej hn
    · rw [(htele tr h).1] at hn; simp at hn
  · rw [List.append_assoc]
    apply List.pairwise_append.mpr
    refine ⟨?_, ?_, ?_⟩
    · apply List.pairwise_of_forall_mem_list
      intro a _ b hb hn
      obtain ⟨ns, _, e, _⟩ := hM b hb; rw [e] at hn; simp at hn
    · apply List.pairwise_append.mpr
      refine ⟨(timedTransports_pairwise hS (hs.trNodup w) hrb).imp fun h hn hc =>
        (h hc).resolve_right (by rw [hn]; simp), ?_, ?_⟩
      · apply List.pairwise_of_forall_mem_list
        intro a _ b hb hn
        rw [(htele b hb).1] at hn; simp at hn
      · intro a _ b hb hn
        rw [(htele b hb).1] at hn; simp at hn
    · intro a ha b hb hn hc
      obtain ⟨_, mid, _, eca⟩ := hM a ha
      rcases List.mem_append.mp hb with h | h
      · rcases hT b h with e | ⟨tg, _, ec, _⟩
        · rw [e] at hn; simp at hn
        · rw [eca, ec] at hc; simp at hc
      · rw [(htele b h).1] at hn; simp at hn

/-- what the middleware (and the teleport filter) submit: nothing, or transitions currently on offer -/
def AdmOffer (inst : Instance) (cfg : SMConfig) (s : State) (a : Action) : Prop :=
  a.transitions = [] ∨ ∃ poss, possibleTransitions inst cfg s = .ok poss ∧ ∃ tr ∈ poss, a.transitions = [tr]

theorem AdmOffer.claim {cfg : SMConfig} {s : State} {a : Action} (h : AdmOffer inst cfg s a) :
    ClaimGS s (sortedByTransport a.transitions) := by
  rcases h with e | ⟨poss, hposs, tr, hp, e⟩
  · rw [e, sortedByTransport_nil]; exact ⟨fun _ h => (by cases h), List.Pairwise.nil⟩
  · rw [e, sortedByTransport_single]
    refine ⟨?_, List.pairwise_singleton _ _⟩
    intro t ht hn x hx
    simp at ht; subst ht
    exact offers_claim_free hposs t hp hn x hx

def FullPass (orc : Oracle) (inst : Instance) (cfg : SMConfig) (w : WF inst) : Pass orc inst cfg where
  P := AgvFull inst
  GS := FullGS
  Adm := AdmOffer inst cfg
  tail := fun h => ⟨h.claim.tail, h.route.tail⟩
  step := fun hI hS hP hv hsafe _ hgs ha => applyTransition_full w hI hS hP hv hsafe hgs ha
  advance := fun _ _ hP _ _ => ⟨⟨hP.agv.empty, hP.agv.holds, hP.agv.unique, hP.agv.claimed⟩,
    ⟨hP.route.transitOwn, hP.route.route, hP.route.preUnclaimed, hP.route.preNext, hP.route.delivered⟩⟩
  timed := fun {s tt poss tele r} hI hS hP htt hposs htele => by
    refine ⟨timed_claim hS htt hposs htele, timed_route w hI hS htt ?_⟩
    intro tr htr
    have hn := filterTeleport_shape hposs htele tr htr
    refine ⟨hn, fun x hx => ?_⟩
    exact offers_not_in_pre w hI hS hP.route hposs tr (mem_filterTeleport htele tr htr).1 hn x hx
  timedOnly := fun hI hS _ htt => by
    refine ⟨claimGS_of_no_dispatch (timed_no_dispatch hS htt), ?_⟩
    simpa using timed_route w hI hS (tele := []) htt (by simp)
  action := fun {s a} hI hS hP hadm => by
    refine ⟨hadm.claim, ?_⟩
    rcases hadm with e | ⟨poss, hposs, tr, hp, e⟩
    · rw [e, sortedByTransport_nil]
      exact ⟨fun _ h => (by cases h), fun _ h => (by cases h), List.Pairwise.nil⟩
    · rw [e, sortedByTransport_single]
      refine ⟨?_, ?_, List.pairwise_singleton _ _⟩
      · intro t ht hn x hx
        simp at ht; subst ht
        exact offers_not_in_pre w hI hS hP.route hposs t hp hn x hx
      · intro t ht hn
        simp at ht; subst ht
        rcases offers_offerShaped hposs t hp with e' | e' <;> rw [e'] at hn <;> simp at hn

theorem AgvFull.of_time {s : State} {t : Int} (h : AgvFull inst { s with time := t }) : AgvFull inst s :=
  ⟨⟨h.agv.empty, h.agv.holds, h.agv.unique, h.agv.claimed⟩,
   ⟨h.route.transitOwn, h.route.route, h.route.preUnclaimed, h.route.preNext, h.route.delivered⟩⟩

theorem AgvFull.of_rest {s : State} (h : restB s = true) (hp : placedB inst s = true) : AgvFull inst s := by
  refine ⟨AgvInv.of_rest h, ?_⟩
  simp only [restB, Bool.and_eq_true, List.all_eq_true, beq_iff_eq, List.isEmpty_iff, Option.isNone_iff_eq_none] at h
  obtain ⟨_, ht⟩ := h
  simp only [placedB, Bool.and_eq_true, List.all_eq_true, List.isEmpty_iff] at hp
  obtain ⟨hpre, hout⟩ := hp
  constructor
  · intro t ht' hst; rw [(ht t ht').1.1.1] at hst; cases hst
  · intro t ht' x hx; rw [(ht t ht').1.1.2] at hx; cases hx
  · intro m hm x hx; rw [hpre m hm] at hx; cases hx
  · intro m hm x hx; rw [hpre m hm] at hx; cases hx
  · intro j hj hloc
    have := hout j hj
    have hc : (outputIds inst).contains j.loc = true := List.contains_iff_mem.mpr hloc
    rw [hc] at this; simp at this


/-- executions in which every action is empty or one transition currently on offer – exactly what
the environment's middleware submits -/
inductive OccursF (orc : Oracle) (inst : Instance) (cfg : SMConfig) (s0 : State) : State → Prop
  | init : OccursF orc inst cfg s0 s0
  | result {s res r a r' mic fuel} : OccursF orc inst cfg s0 s → Admissible a → AdmOffer inst cfg s a →
      smStep orc inst cfg fuel s r a = .ok (res, r', mic) → res.done = false → OccursF orc inst cfg s0 res.state
  | sub {s res r a r' mic fuel σ} : OccursF orc inst cfg s0 s → Admissible a → AdmOffer inst cfg s a →
      smStep orc inst cfg fuel s r a = .ok (res, r', mic) → σ ∈ res.subStates → OccursF orc inst cfg s0 σ
  | micro {s res r a r' mic fuel σ} : OccursF orc inst cfg s0 s → Admissible a → AdmOffer inst cfg s a →
      smStep orc inst cfg fuel s r a = .ok (res, r', mic) → σ ∈ mic → OccursF orc inst cfg s0 σ

theorem OccursF.toA {cfg : SMConfig} {s0 σ : State} (h : OccursF orc inst cfg s0 σ) : OccursA orc inst cfg s0 σ := by
  induction h with
  | init => exact .init
  | result _ ha _ hs hnd ih => exact .result ih ha hs hnd
  | sub _ ha _ hs hσ ih => exact .sub ih ha hs hσ
  | micro _ ha _ hs hσ ih => exact .micro ih ha hs hσ

theorem occursF_pass {cfg : SMConfig} (ps : Pass orc inst cfg) {s0 σ : State} (hst : Start orc inst s0)
    (h0 : ps.P s0) (hadm : ∀ s a, Admissible a → AdmOffer inst cfg s a → ps.Adm s a)
    (h : OccursF orc inst cfg s0 σ) : ps.P σ := by
  induction h with
  | init => exact h0
  | result hprev ha ho hstep hnd ih =>
    obtain ⟨w, hI, hS⟩ := occursA_inv hst hprev.toA
    exact (ps.smStep w hst.nn hI hS ih ha (hadm _ _ ha ho) hstep).2.2.2 hnd
  | sub hprev ha ho hstep hσ ih =>
    obtain ⟨w, hI, hS⟩ := occursA_inv hst hprev.toA
    exact (ps.smStep w hst.nn hI hS ih ha (hadm _ _ ha ho) hstep).2.1 _ hσ
  | micro hprev ha ho hstep hσ ih =>
    obtain ⟨w, hI, hS⟩ := occursA_inv hst hprev.toA
    exact (ps.smStep w hst.nn hI hS ih ha (hadm _ _ ha ho) hstep).1 _ hσ

theorem occursF_full {cfg : SMConfig} {s0 σ : State} (hst : Start orc inst s0) (h : OccursF orc inst cfg s0 σ) :
    AgvFull inst σ :=
  occursF_pass (FullPass orc inst cfg hst.wf) hst (AgvFull.of_rest hst.rest hst.placed)
    (fun _ _ _ ho => ho) h

end JSL
