import JSL.Inv.ClassicFrame
import JSL.Inv.ClassicStep
import JSL.Inv.ClassicBatch
import JSL.Inv.ClassicQueries
import JSL.Inv.ClassicAgvTotalB

/-!
# The classic pass

`CPass`, for `allowEarly = false`: the bundle (`AgvFull`, `Ready`, `CInv`) together with the duration invariant, as a `Pass`;
its batch guard adds `EnGS` (every transition of the batch is enabled) to the guards of the passes
it extends.
-/

namespace JSL

variable {orc : Oracle} {inst : Instance}

theorem admOffer_shaped {cfg : SMConfig} {s : State} {a : Action} (h : AdmOffer inst cfg s a) :
    ∀ tr ∈ a.transitions, OfferShaped tr := by
  rcases h with e | ⟨poss, hposs, tr, hp, e⟩
  · rw [e]; intro _ h; cases h
  · rw [e]; intro x hx; simp at hx; subst hx; exact offers_offerShaped hposs _ hp

def CPass (orc : Oracle) (inst : Instance) (cfg : SMConfig) (w : WF inst) (nn : NonNeg orc inst) (hC : Classic inst)
    (he : cfg.allowEarly = false) : Pass orc inst cfg where
  P := fun s => Bundle inst s ∧ DurInv inst s
  GS := fun s L => FullGS s L ∧ DueGS s L ∧ EnGS inst s L
  Adm := AdmOffer inst cfg
  tail := fun h => ⟨(FullPass orc inst cfg w).tail h.1, h.2.1.tail, h.2.2.tail⟩
  step := fun {s s' r r' tr R} hI hS hP hv hsafe hfresh hgs ha => by
    have h1 := (ReadyPass orc inst cfg w hC.tables).step hI hS ⟨hP.1.full, hP.1.ready⟩ hv hsafe hfresh hgs.1 ha
    have h2 := (DurPass orc inst cfg w nn).step hI hS hP.2 hv hsafe hfresh hgs.2.1 ha
    have h3 := cinv_step w hC hI hS hP.1 (hgs.2.2.en tr (by simp))
      (fun m hm hc hn => hgs.2.1.due tr (by simp) m.id hc (Or.inl hn) m hm rfl) ha
      (applyTransition_struct w hI hv ha) (applyTransition_sched w nn hI hS hv hsafe.guard ha)
    have h4 := enGS_step w hI hP.1.full hP.1.cinv hgs.2.2 ha
    exact ⟨⟨⟨h1.1.1, h1.1.2, h3⟩, h2.1⟩, h1.2, h2.2, h4⟩
  advance := fun {s t} hI hS hP hle hpend => by
    have h1 := (ReadyPass orc inst cfg w hC.tables).advance hI hS ⟨hP.1.full, hP.1.ready⟩ hle hpend
    exact ⟨⟨h1.1, h1.2, hP.1.cinv.time hle⟩, (DurPass orc inst cfg w nn).advance hI hS hP.2 hle hpend⟩
  timed := fun hI hS hP htt hposs htele =>
    ⟨(FullPass orc inst cfg w).timed hI hS hP.1.full htt hposs htele,
     (DurPass orc inst cfg w nn).timed hI hS hP.2 htt hposs htele, timed_enGS w hC he hI hS hP.1 htt hposs htele⟩
  timedOnly := fun hI hS hP htt =>
    ⟨(FullPass orc inst cfg w).timedOnly hI hS hP.1.full htt, (DurPass orc inst cfg w nn).timedOnly hI hS hP.2 htt,
     timedOnly_enGS w hC hI hS hP.1 htt⟩
  action := fun hI hS hP hadm =>
    ⟨(FullPass orc inst cfg w).action hI hS hP.1.full hadm,
     (DurPass orc inst cfg w nn).action hI hS hP.2 (admOffer_shaped hadm), action_enGS w he hI hS hP.1 hadm⟩

end JSL
