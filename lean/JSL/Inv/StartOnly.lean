import JSL.Inv.Effect
import JSL.Inv.EnvReach

/-!
# Only an accepted offer starts an operation

`NoStartSince s0 s`: every operation record of `s` that has left the status `IDLE` had already left
it in `s0` (records are identified by job id and `(job, idx)`, the key `replace_job_operation_state`
uses; under the structural invariant that key is unique within a job).

**Without a hypothesis on the instance "no step without an accepted offer starts an operation" is
false in the model**: `create_timed_machine_transitions` itself creates IDLE → SETUP transitions for
an idle machine whose pre-buffer is not empty and releases in an order (FIFO, LIFO, DUMMY) – see
`machineSetupTransition`.  In such an instance machine starts are not offered when nothing is due
(`quiet_idle_pre_flex` in `Inv/Discipline.lean`) and happen by themselves, also inside a "decline"
step.  The statement holds for the instances the offers are meant for: every machine pre-buffer is
a FLEX buffer (`PreFlex`).  Then the timed batch contains no transition into SETUP
(`timed_no_setup`), the teleport batch contains only AGV dispatches (`filterTeleport_shape`), and a
transition other than "→ SETUP" rewrites only a record that had left `IDLE` (`machine_rec_effect`,
`idle_effect`); `StartOnlyPass` carries this through `state.step`, `mwStep_starts_nothing` through a
declined offer and an accepted AGV dispatch.

`a.tm ≠ jumpByOne` (part of `Admissible`) is needed because the invariants that make
SETUP → WORKING harmless (the machine in SETUP holds the job whose *running* record it is) are only
established for the time machines the middleware uses.
-/

namespace JSL

variable {orc : Oracle} {inst : Instance}

/-- every machine pre-buffer is a FLEX buffer: `get_next_job_from_buffer` names no job, so the
machine never starts by itself and the start is offered to the agent -/
def PreFlex (inst : Instance) : Prop := ∀ mc ∈ inst.machines, mc.pre.type = .flex

def NoStartSince (s0 s : State) : Prop :=
  ∀ j' ∈ s.jobs, ∀ o' ∈ j'.ops, o'.st ≠ .idle →
    ∃ j ∈ s0.jobs, j.id = j'.id ∧ ∃ o ∈ j.ops, o.job = o'.job ∧ o.idx = o'.idx ∧ o.st ≠ .idle

theorem NoStartSince.refl (s : State) : NoStartSince s s :=
  fun j' hj' o' ho' hn => ⟨j', hj', rfl, o', ho', rfl, rfl, hn⟩

theorem NoStartSince.trans {s0 s1 s2 : State} (h1 : NoStartSince s0 s1) (h2 : NoStartSince s1 s2) :
    NoStartSince s0 s2 := by
  intro j2 hj2 o2 ho2 hn
  obtain ⟨j1, hj1, e1, o1, ho1, k1, k2, hn1⟩ := h2 j2 hj2 o2 ho2 hn
  obtain ⟨j0, hj0, e0, o0, ho0, l1, l2, hn0⟩ := h1 j1 hj1 o1 ho1 hn1
  exact ⟨j0, hj0, by rw [e0, e1], o0, ho0, by rw [l1, k1], by rw [l2, k2], hn0⟩

theorem NoStartSince.time {s0 s : State} {t : Int} : NoStartSince s0 { s with time := t } ↔ NoStartSince s0 s :=
  Iff.rfl

def NoSetup (L : List Transition) : Prop := ∀ tr ∈ L, tr.new ≠ .m .setup

theorem machineTimedNext_ne_setup {st : MSt} : machineTimedNext st ≠ some .setup := by
  cases st <;> decide

theorem timedMachine_no_setup (w : WF inst) {s : State} (hs : Shape inst s) (hflex : PreFlex inst)
    {m : MachineState} (hm : m ∈ s.machines) {now : Int} {tr : Transition}
    (h : timedMachine inst now m = .ok (some tr)) : tr.new ≠ .m .setup := by
  rcases (timedMachine_ok h).2 with ⟨ns, _, _, _, hns, _, hnew, _⟩ | ⟨_, _, pc, j, hpc, hnext, _⟩
  · rw [hnew]
    intro e
    injection e with e
    exact machineTimedNext_ne_setup (e ▸ hns)
  · -- a flexible pre-buffer releases no job by itself
    have hpc' := getBufCfg_ok hpc
    obtain ⟨mc, hmc, hk⟩ := hs.machine_cfg hm
    simp only [mKey, mcKey, Prod.mk.injEq] at hk
    have : pc = mc.pre := eq_of_mem_of_key_eq (key := fun (y : BufCfg) => y.id) w.bufNodup hpc'.1
      (mem_allBufCfgs_of_machine hmc).1 (by rw [hpc'.2, hk.2.1])
    have hsel : releaseSel pc.type = .none := by rw [this, hflex mc hmc]; rfl
    simp [nextJobFromBuffer, hsel] at hnext

theorem timed_no_setup (w : WF inst) {s : State} (hI : StructInv inst s) (hS : SchedInv s) (hflex : PreFlex inst)
    {tt : List Transition} (htt : timedTransitions inst s = .ok tt) : NoSetup tt := by
  intro tr htr
  rcases (mem_timedTransitions htt tr).mp htr with ⟨m, hm, hmm⟩ | ⟨t, ht, htt'⟩
  · exact timedMachine_no_setup w hI.shape hflex hm hmm
  · obtain ⟨ns, e⟩ := (timedTransport_spec (inst := inst) hS ht htt').1
    rw [e]; simp

theorem filterTeleport_comp {r : Rng} {s : State} {poss tele : List Transition}
    (h : filterTeleport orc inst r s poss = .ok tele) : ∀ tr ∈ tele, ∃ tid, tr.comp = .t tid := by
  exact fun tr htr => (mem_filterTeleport h tr htr).2

/-- **What a machine transition does to the jobs**: it rewrites one record `op` of one job `j` into a
record `rec` that is not idle.  A start (`→ SETUP`) takes an idle record; every other
transition takes a record that had left `IDLE`, and the job then stays where it is or leaves the
internal buffer of a machine. -/
theorem machine_rec_effect (w : WF inst) {s s' : State} {r r' : Rng} {tr : Transition} {mid : Nat}
    (hI : StructInv inst s) (hS : SchedInv s) (hc : tr.comp = .m mid)
    (h : applyTransition orc inst s r tr = .ok (s', r')) :
    ∃ j ∈ s.jobs, ∃ (J' : JobState) (op rec : OpState), J'.id = j.id ∧ J'.ops = (j.replaceOp rec).ops ∧
      s'.jobs = (s.replaceJob J').jobs ∧ s'.transports = s.transports ∧
      op ∈ j.ops ∧ rec.job = op.job ∧ rec.idx = op.idx ∧ rec.st ≠ .idle ∧
      ((tr.new = .m .setup ∧ op.st = .idle) ∨
       (tr.new ≠ .m .setup ∧ op.st ≠ .idle ∧ (J'.loc = j.loc ∨ ∃ m ∈ s.machines, j.loc = m.buffer.id))) := by
  have hs := hI.shape
  cases applyTransition_ran h with
  | t t hc' => rw [hc] at hc'; cases hc'
  | m m _ hm hd ns hnew hmh h =>
    cases hd with
    | idleToSetup =>
      obtain ⟨j, op, oc, mc, sd, b1, b2, hj, _, hjpre, hnn, _, hk1, hk2, _, _, _, _, rfl⟩ := idleToSetup_spec h
      -- the job waits in the pre-buffer, so nothing of it runs and its next record is idle
      have hst : j.id ∈ storeAt s m.pre.id := by rw [(pre_storeAt w hs hm).1]; exact hjpre
      have hnp := not_processing_of_stored hI hS w hj hst (fun m3 hm3 => (internal_ne_pre_post hs w hm3 hm).1)
      have hrun : j.running = false := by
        unfold JobState.running
        exact Bool.eq_false_iff.mpr fun hr => by
          obtain ⟨o, ho, e⟩ := List.any_eq_true.mp hr
          exact hnp o ho (by simpa using e)
      have hni : j.nextIdle? = some op := by rw [← nextNotDone_eq_nextIdle (hS.ops j hj) hrun]; exact hnn
      exact ⟨j, hj, (j.replaceOp (opRec oc s.time (s.time + sd) m.id)).at m.buffer.id, op, _, rfl, rfl, rfl, rfl,
        List.mem_of_find?_eq_some hni, hk1, hk2, by simp [opRec],
        Or.inl ⟨by rw [hnew, (machineHandler_idleToSetup hmh).2], by simpa using List.find?_some hni⟩⟩
    | setupToWorking =>
      have hst0 := machineHandler_setupToWorking hmh
      obtain ⟨j, op, oc, d, hj, _, hin, hnn, _, hk1, hk2, _, rfl⟩ := setupToWorking_spec h
      obtain ⟨_, op0, hp0, _⟩ := busy_job hI hS w hm (by rw [hst0.1]; simp) hj hin
      have hnn0 := nextNotDone_of_processing (hS.ops j hj) hp0
      have : op0 = op := by rw [hnn] at hnn0; simpa using hnn0.symm
      subst this
      obtain ⟨_, _, hl, _, hpr⟩ := processing?_split' hp0
      exact ⟨j, hj, j.replaceOp (opRec oc s.time (s.time + d) m.id), op0, _, rfl, rfl, rfl, rfl, by rw [hl]; simp,
        hk1, hk2, by simp [opRec], Or.inr ⟨by rw [hnew, hst0.2]; simp, by rw [hpr]; simp, Or.inl rfl⟩⟩
    | workingToOutage =>
      have hst0 := machineHandler_workingToOutage hmh
      obtain ⟨mc, outs, j, op, _, _, _, hj, _, hp, rfl⟩ := workingToOutage_spec h
      obtain ⟨_, _, hl, _, hpr⟩ := processing?_split' hp
      exact ⟨j, hj, j.replaceOp { op with stop := some (s.time + occupiedFor outs) }, op, _, rfl, rfl, rfl, rfl,
        by rw [hl]; simp, rfl, rfl, by simp [hpr], Or.inr ⟨by rw [hnew, hst0.2]; simp, by rw [hpr]; simp, Or.inl rfl⟩⟩
    | outageToIdle =>
      have hst0 := machineHandler_outageToIdle hmh
      obtain ⟨j, op, mc, rest, b1, b2, hstore, hj, hp, _, _, _, _, rfl⟩ := outageToIdle_spec h
      obtain ⟨_, _, hl, _, hpr⟩ := processing?_split' hp
      have hloc : j.loc = m.buffer.id :=
        job_of_store hI.cons hj (by rw [(pre_storeAt w hs hm).2, hstore]; simp) (hs.jobsNodup w)
      exact ⟨j, hj, (j.replaceOp { op with stop := some s.time, st := .done }).at m.post.id, op, _, rfl, rfl, rfl, rfl,
        by rw [hl]; simp, rfl, rfl, by simp, Or.inr ⟨by rw [hnew, hst0.2]; simp, by rw [hpr]; simp, Or.inr ⟨m, hm, hloc⟩⟩⟩

theorem idle_effect (w : WF inst) {s s' : State} {r r' : Rng} {tr : Transition} (hI : StructInv inst s)
    (hS : SchedInv s) (hn : tr.new ≠ .m .setup) (h : applyTransition orc inst s r tr = .ok (s', r')) :
    NoStartSince s s' := by
  have hjn := hI.shape.jobsNodup w
  cases applyTransition_ran h with
  | t t hc =>
    obtain ⟨_, hj⟩ := agv_effect w hI hc h
    intro j' hj' o' ho' hni
    obtain ⟨j, hj0, e1, e2⟩ := hj j' hj'
    exact ⟨j, hj0, e1, o', by rw [e2]; exact ho', rfl, rfl, hni⟩
  | m m hc =>
    obtain ⟨j, hj, J', op, rec, hid, hops, hjobs, _, hop, hk1, hk2, _, hcase⟩ := machine_rec_effect w hI hS hc h
    rcases hcase with ⟨e, _⟩ | ⟨_, hopn, _⟩
    · exact absurd e hn
    -- the rewritten record is keyed like `op`, which was not idle
    intro j' hj' o' ho' hni
    rw [hjobs] at hj'
    rcases (mem_replaceJob hjn hj hid j').mp hj' with rfl | ⟨hj0, _⟩
    · rw [hops] at ho'
      rcases mem_replaceOp.mp ho' with ⟨rfl, _⟩ | ⟨ho0, _⟩
      · exact ⟨j, hj, hid.symm, op, hop, hk1.symm, hk2.symm, hopn⟩
      · exact ⟨j, hj, hid.symm, o', ho0, rfl, rfl, hni⟩
    · exact ⟨j', hj0, rfl, o', ho', rfl, rfl, hni⟩

def StartOnlyPass (orc : Oracle) (inst : Instance) (cfg : SMConfig) (w : WF inst) (hflex : PreFlex inst) (s0 : State) :
    Pass orc inst cfg where
  P := NoStartSince s0
  GS := fun _ L => NoSetup L
  Adm := fun _ a => NoSetup a.transitions
  tail := fun h tr htr => h tr (List.mem_cons_of_mem _ htr)
  step := fun {s s' r r' tr R} hI hS hP _ _ _ hgs ha =>
    ⟨hP.trans (idle_effect w hI hS (hgs tr (by simp)) ha), fun x hx => hgs x (List.mem_cons_of_mem _ hx)⟩
  advance := fun _ _ hP _ _ => hP
  timed := fun {s tt poss tele r} hI hS _ htt hposs htele => by
    intro tr htr
    rcases List.mem_append.mp htr with h | h
    · exact timed_no_setup w hI hS hflex htt tr h
    · rw [filterTeleport_shape hposs htele tr h]; simp
  timedOnly := fun hI hS _ htt => timed_no_setup w hI hS hflex htt
  action := fun _ _ _ hadm tr htr => hadm tr (mem_sortedByTransport htr)

variable {cfg : SMConfig}

/-- **T3 at the state machine.**  For an instance with FLEX pre-buffers, from a state with the
structural and the schedule invariant: a `state.step` whose action contains no transition into SETUP
(in particular the empty action of a declined offer, or an AGV dispatch) starts no operation – in
the returned state, in every sub-state and right after every transition it applies. -/
theorem smStep_starts_nothing (w : WF inst) (nn : NonNeg orc inst) (hflex : PreFlex inst) {fuel : Nat} {s0 : State}
    {r : Rng} {a : Action} {res : SMResult} {r' : Rng} {mic : List State} (hI : StructInv inst s0) (hS : SchedInv s0)
    (ha : Admissible a) (hns : NoSetup a.transitions)
    (h : smStep orc inst cfg fuel s0 r a = .ok (res, r', mic)) :
    NoStartSince s0 res.state ∧ (∀ σ ∈ res.subStates, NoStartSince s0 σ) ∧ (∀ σ ∈ mic, NoStartSince s0 σ) := by
  obtain ⟨h1, h2, ⟨t, h3⟩, _⟩ := (StartOnlyPass orc inst cfg w hflex s0).smStep w nn hI hS (NoStartSince.refl s0) ha hns h
  exact ⟨h3, h2, h1⟩

theorem NoSetup.nil : NoSetup [] := fun _ h => by cases h

theorem admissible_of_nil {a : Action} (hnil : a.transitions = []) (htm : a.tm ≠ .jumpByOne) : Admissible a :=
  ⟨fun tr htr => (by rw [hnil] at htr; cases htr), htm⟩

/-- for the empty action, with `NoStartSince` unfolded -/
theorem smStep_empty_starts_nothing (w : WF inst) (nn : NonNeg orc inst) (hflex : PreFlex inst) {fuel : Nat}
    {s0 : State} {r : Rng} {a : Action} {res : SMResult} {r' : Rng} {mic : List State} (hI : StructInv inst s0)
    (hS : SchedInv s0) (htm : a.tm ≠ .jumpByOne) (hnil : a.transitions = [])
    (h : smStep orc inst cfg fuel s0 r a = .ok (res, r', mic)) :
    ∀ j' ∈ res.state.jobs, ∀ o' ∈ j'.ops, o'.st ≠ .idle →
      ∃ j ∈ s0.jobs, j.id = j'.id ∧ ∃ o ∈ j.ops, o.job = o'.job ∧ o.idx = o'.idx ∧ o.st ≠ .idle :=
  (smStep_starts_nothing w nn hflex hI hS (admissible_of_nil hnil htm) (hnil ▸ NoSetup.nil) h).1

theorem NoStartSince.idle_stays (w : WF inst) {s0 s : State} (h : NoStartSince s0 s) (hs0 : Shape inst s0)
    (hs : Shape inst s) :
    ∀ j ∈ s0.jobs, ∀ o ∈ j.ops, o.st = .idle →
      ∃ j' ∈ s.jobs, j'.id = j.id ∧ ∃ o' ∈ j'.ops, o'.job = o.job ∧ o'.idx = o.idx ∧ o'.st = .idle := by
  intro j hj o ho hidle
  have hkeys : s.jobs.map jKey = s0.jobs.map jKey := by rw [hs.jobs, hs0.jobs]
  obtain ⟨j', hj', hk⟩ := mem_of_map_eq hkeys.symm hj
  simp only [jKey, Prod.mk.injEq] at hk
  obtain ⟨o', ho', hko⟩ := mem_of_map_eq hk.2 ho
  simp only [opKey, Prod.mk.injEq] at hko
  refine ⟨j', hj', hk.1.symm, o', ho', hko.1.symm, hko.2.1.symm, ?_⟩
  apply Classical.byContradiction
  intro hne
  obtain ⟨j2, hj2, e2, o2, ho2, k1, k2, hn2⟩ := h j' hj' o' ho' hne
  have : j2 = j := eq_of_mem_of_key_eq (key := fun (y : JobState) => y.id) (hs0.jobsNodup w) hj2 hj (by rw [e2, hk.1])
  subst this
  have : o2 = o := eq_of_mem_of_key_eq (key := fun (y : OpState) => y.idx) (hs0.ops_idx_nodup w hj2) ho2 ho
    (by rw [k2, hko.2.1])
  subst this
  exact hn2 hidle

variable {mc : MwCfg} {fuel : Nat}

/-- **T3 at the middleware**: a step that is not the acceptance of a machine start – a declined offer
(both branches of `_get_no_op_result`), or any answer while the head offer is no machine start –
starts nothing -/
theorem mwStep_starts_nothing (w : WF inst) (nn : NonNeg orc inst) (hflex : PreFlex inst) {res : SMResult}
    {m : MwState} {r : Rng} {a : AgentAct} {out : SMResult × MwState × Rng × List State} (hI : StructInv inst res.state)
    (hS : SchedInv res.state) (hshape : ∀ tr ∈ res.possible, OfferShaped tr)
    (hk : a = .decline ∨ ∀ tr ∈ res.possible.head?, tr.new ≠ .m .setup)
    (h : mwStep orc inst cfg mc fuel res m r a = .ok out) :
    NoStartSince res.state out.1.state ∧ (∀ σ ∈ out.2.2.2, NoStartSince res.state σ) := by
  rcases mwStep_spec h with ⟨o, o', rest, _, hp, rfl⟩ | ⟨o, rest, res', r', mic, ha, hp, hs, rfl⟩ |
    ⟨o, res', r', mic, _, hp, hs, _, rfl⟩
  · exact ⟨NoStartSince.refl _, fun σ hσ => by cases hσ⟩
  · have ho : o.new ≠ .m .setup := by
      rcases hk with hk | hk
      · rw [hk] at ha; cases ha
      · exact hk o (by rw [hp]; rfl)
    have := smStep_starts_nothing w nn hflex hI hS
      ⟨fun tr htr => by rw [List.mem_singleton.mp htr]; exact hshape o (by rw [hp]; simp), by simp⟩
      (fun tr htr => by rw [List.mem_singleton.mp htr]; exact ho) hs
    exact ⟨this.1, this.2.2⟩
  · have := smStep_starts_nothing w nn hflex hI hS (admissible_of_nil rfl (by simp)) NoSetup.nil hs
    exact ⟨this.1, this.2.2⟩

end JSL
