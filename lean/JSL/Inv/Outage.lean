import JSL.Inv.SchedDefs

/-! Facts about outage sampling: durations are non-negative, the blocking time is the longest
active one, release remembers the end. -/

namespace JSL

variable {orc : Oracle}

theorem occupiedFor_ge (l : List OutageState) : ∀ d ∈ activeDurations l, d ≤ occupiedFor l := by
  intro d hd
  unfold occupiedFor
  cases h : activeDurations l with
  | nil => rw [h] at hd; cases hd
  | cons x xs =>
    rw [h] at hd
    exact (foldl_max xs x).2 d hd

theorem occupiedFor_attained (l : List OutageState) :
    (activeDurations l = [] ∧ occupiedFor l = 0) ∨ occupiedFor l ∈ activeDurations l := by
  unfold occupiedFor
  cases h : activeDurations l with
  | nil => left; exact ⟨rfl, rfl⟩
  | cons x xs =>
    right
    exact (foldl_max xs x).1

theorem occupiedFor_nonneg (l : List OutageState) (h : ∀ d ∈ activeDurations l, 0 ≤ d) : 0 ≤ occupiedFor l := by
  rcases occupiedFor_attained l with ⟨_, h0⟩ | hm
  · rw [h0]; exact Int.le_refl 0
  · exact h _ hm

theorem mem_activeDurations {l : List OutageState} {d : Int} :
    d ∈ activeDurations l ↔ ∃ o ∈ l, ∃ a b, o.st = .active a b ∧ d = b - a := by
  unfold activeDurations
  simp only [List.mem_filterMap]
  constructor
  · rintro ⟨o, ho, h⟩
    cases hst : o.st with
    | active a b => simp [hst] at h; exact ⟨o, ho, a, b, hst, h.symm⟩
    | inactive x => simp [hst] at h
  · rintro ⟨o, ho, a, b, hst, rfl⟩
    exact ⟨o, ho, by simp [hst]⟩

theorem sampleOutage_spec {now : Int} {comp : List OutageState} {r r' : Rng} {o : OutageCfg} {x : OutageState}
    (hn : ∀ sid k, 0 ≤ orc sid k) (hd : ∀ t, o.dur = .det t → 0 ≤ t)
    (h : sampleOutage orc now comp r o = .ok (x, r')) :
    x.id = o.id ∧ ((∃ l, x.st = .inactive l ∧ x ∈ comp) ∨ (∃ d, 0 ≤ d ∧ x.st = .active now (now + d))) := by
  unfold sampleOutage at h
  obtain ⟨st, hst, h⟩ := except_bind_eq_ok h
  have hst' := findE_ok hst
  simp at hst'
  obtain ⟨since, hsince, h⟩ := except_bind_eq_ok h
  simp only at h
  split at h
  · simp at h; obtain ⟨rfl, _⟩ := h
    cases hs : st.st with
    | active a b => simp [hs, outageSince] at hsince
    | inactive l => exact ⟨hst'.2, Or.inl ⟨l, rfl, hst'.1⟩⟩
  · simp at h; obtain ⟨rfl, _⟩ := h
    exact ⟨rfl, Or.inr ⟨_, TimeCfg.updRead_nonneg hn _ o.dur hd, rfl⟩⟩

theorem newOutageStates_spec {now : Int} {comp : List OutageState} (hn : ∀ sid k, 0 ≤ orc sid k) :
    ∀ (cfgs : List OutageCfg) (r r' : Rng) (outs : List OutageState),
      (∀ o ∈ cfgs, ∀ t, o.dur = .det t → 0 ≤ t) →
      newOutageStates orc now comp cfgs r = .ok (outs, r') →
      outs.map (·.id) = cfgs.map (·.id) ∧
      ∀ x ∈ outs, (∃ l, x.st = .inactive l ∧ x ∈ comp) ∨ (∃ d, 0 ≤ d ∧ x.st = .active now (now + d)) := by
  intro cfgs
  induction cfgs with
  | nil =>
    intro r r' outs _ h
    simp [newOutageStates] at h
    obtain ⟨rfl, _⟩ := h
    simp
  | cons c cs ih =>
    intro r r' outs hd h
    simp only [newOutageStates] at h
    obtain ⟨⟨x, r1⟩, hx, h⟩ := except_bind_eq_ok h
    obtain ⟨⟨xs, r2⟩, hxs, h⟩ := except_bind_eq_ok h
    simp at h
    obtain ⟨rfl, _⟩ := h
    have h1 := sampleOutage_spec hn (hd c (by simp)) hx
    have h2 := ih r1 r2 xs (fun o ho => hd o (by simp [ho])) hxs
    refine ⟨by simp [h1.1, h2.1], ?_⟩
    intro y hy
    rcases List.mem_cons.mp hy with rfl | hy
    · exact h1.2
    · exact h2.2 y hy

theorem occupiedFor_new_nonneg {now : Int} {comp : List OutageState} (hn : ∀ sid k, 0 ≤ orc sid k)
    {cfgs : List OutageCfg} {r r' : Rng} {outs : List OutageState}
    (hd : ∀ o ∈ cfgs, ∀ t, o.dur = .det t → 0 ≤ t)
    (h : newOutageStates orc now comp cfgs r = .ok (outs, r')) : 0 ≤ occupiedFor outs := by
  apply occupiedFor_nonneg
  intro d hdm
  obtain ⟨o, ho, a, b, hst, rfl⟩ := mem_activeDurations.mp hdm
  rcases (newOutageStates_spec hn cfgs r r' outs hd h).2 o ho with ⟨l, hl, _⟩ | ⟨d, hd0, hact⟩
  · rw [hl] at hst; cases hst
  · rw [hact] at hst
    simp at hst
    obtain ⟨rfl, rfl⟩ := hst
    omega

end JSL
