import JSL.Inv.Startable
import JSL.Inv.OffersHeld
import JSL.Inv.DeclineTo
import JSL.Inv.StartOnly
import JSL.Inv.StartOnlyFifo
import JSL.Inv.StartNow

/-!
# Fresh offers: after reset, after an accepted offer and after the last offer was declined the
offers held, if there are any and the episode goes on, are all the offers of the state held
-/

namespace JSL

variable {orc : Oracle} {inst : Instance}

def FreshOffers (inst : Instance) (ec : EnvCfg) (e : EnvState) : Prop :=
  possibleTransitions inst ec.sm e.res.state = .ok e.res.possible

theorem envReset_fresh {ec : EnvCfg} {s0 : State} {r : Rng} {e : EnvState} {mic : List State}
    (h : envReset orc inst ec s0 r = .ok (e, mic)) (hne : e.res.possible ≠ []) : FreshOffers inst ec e := by
  obtain ⟨res, r', hs, rfl⟩ := envReset_ok h
  exact smStep_offers_fresh hs hne

theorem envStep_fresh {ec : EnvCfg} {st : RewardStatic} {e : EnvState} {a : AgentAct} {out : StepOut}
    (h : envStep orc inst ec st e a = .ok out) (hk : a = .accept ∨ e.res.possible.length = 1)
    (hd : out.env.done = false) (hne : out.env.res.possible ≠ []) : FreshOffers inst ec out.env := by
  obtain ⟨_, res', mw, r, mic, rew, cnt, _, hm, rfl, _, rfl⟩ := envStep_ok h
  by_cases hsuc : res'.success = true
  · simp only [hsuc, if_true] at hne ⊢
    rcases mwStep_spec hm with ⟨o, o', rest, ha, hp, _⟩ | ⟨_, _, _, _, _, _, _, hs, ⟨⟩⟩ | ⟨_, _, _, _, _, _, hs, _, ⟨⟩⟩
    · rcases hk with hk | hk
      · rw [hk] at ha; cases ha
      · rw [hp] at hk; simp at hk
    · exact smStep_offers_fresh hs hne
    · exact smStep_offers_fresh hs hne
  · simp [hsuc] at hd

end JSL
