import JSL.Inv.TimedBatch

/-!
# The schedule invariant along `state.step` for admissible actions
-/

namespace JSL

variable {orc : Oracle} {inst : Instance}

theorem mem_teleportGreedy : ∀ (n : Nat) (l : List Transition) (x : Transition), x ∈ teleportGreedy n l → x ∈ l
  | 0, _, _, h => by simp [teleportGreedy] at h
  | n + 1, [], _, h => by simp [teleportGreedy] at h
  | n + 1, t :: ts, x, h => by
    simp only [teleportGreedy] at h
    rcases List.mem_cons.mp h with rfl | h
    · simp
    · have := mem_teleportGreedy n _ x h
      exact List.mem_cons_of_mem _ (List.mem_filter.mp this).1

theorem possibleTransitions_shape {cfg : SMConfig} {s : State} {poss : List Transition}
    (h : possibleTransitions inst cfg s = .ok poss) :
    ∀ tr ∈ poss, (∃ mid, tr.comp = .m mid ∧ tr.new = .m .setup) ∨ (∃ tid, tr.comp = .t tid ∧ tr.new = .t .working) := by
  unfold possibleTransitions at h
  obtain ⟨pj, _, h⟩ := except_bind_eq_ok h
  obtain ⟨pt, hpt, h⟩ := except_bind_eq_ok h
  obtain ⟨mt, hmt, h⟩ := except_bind_eq_ok h
  simp at h; subst h
  intro tr htr
  rcases List.mem_append.mp htr with h | h
  · left
    obtain ⟨j, _, e⟩ := (mapM_ok_mem hmt).2 tr h
    cases hn : j.nextIdle? with
    | none => simp [hn] at e
    | some o => simp [hn] at e; subst e; exact ⟨_, rfl, rfl⟩
  · right
    unfold possibleTransportTransitions at hpt
    obtain ⟨ts, _, hpt⟩ := except_bind_eq_ok hpt
    obtain ⟨idle, _, hpt⟩ := except_bind_eq_ok hpt
    simp only at hpt
    obtain ⟨lonely, _, hpt⟩ := except_bind_eq_ok hpt
    simp at hpt; subst hpt
    simp only [List.mem_flatMap, List.mem_map] at h
    obtain ⟨t, _, j, _, rfl⟩ := h
    exact ⟨_, rfl, rfl⟩

theorem offers_offerShaped {cfg : SMConfig} {s : State} {poss : List Transition}
    (h : possibleTransitions inst cfg s = .ok poss) : ∀ tr ∈ poss, OfferShaped tr := by
  intro tr htr
  rcases possibleTransitions_shape h tr htr with ⟨_, _, e⟩ | ⟨_, _, e⟩
  · exact Or.inl e
  · exact Or.inr e

/-- `_filter_teleport_transitions`: a greedy selection among the offers to AGVs whose way to the job
takes no time -/
theorem filterTeleport_ok {s : State} {r : Rng} {poss tele : List Transition}
    (h : filterTeleport orc inst r s poss = .ok tele) :
    ∃ l, tele = teleportGreedy l.length l ∧
      ∀ tr ∈ l, tr ∈ poss ∧ (∃ tid, tr.comp = .t tid) ∧ travelTimeForTransport orc inst r s tr.job = .ok 0 := by
  unfold filterTeleport at h
  obtain ⟨l, hl, h⟩ := except_bind_eq_ok h
  refine ⟨l, (Except.ok.inj h).symm, fun tr htr => ?_⟩
  obtain ⟨hp, hc⟩ := filterE_ok hl tr htr
  obtain ⟨tt, htt, hc⟩ := except_bind_eq_ok hc
  have hc := Except.ok.inj hc
  simp only [Bool.and_eq_true, beq_iff_eq] at hc
  refine ⟨hp, ?_, by rw [htt, hc.2]⟩
  cases hcomp : tr.comp with
  | t tid => exact ⟨tid, rfl⟩
  | m _ => rw [hcomp] at hc; cases hc.1
  | b _ => rw [hcomp] at hc; cases hc.1

theorem mem_filterTeleport {s : State} {r : Rng} {poss tele : List Transition}
    (h : filterTeleport orc inst r s poss = .ok tele) (tr : Transition) (htr : tr ∈ tele) :
    tr ∈ poss ∧ ∃ tid, tr.comp = .t tid := by
  obtain ⟨l, rfl, hl⟩ := filterTeleport_ok h
  obtain ⟨hp, hc, _⟩ := hl tr (mem_teleportGreedy _ _ _ htr)
  exact ⟨hp, hc⟩

theorem filterTeleport_shape {cfg : SMConfig} {s : State} {r : Rng} {poss tele : List Transition}
    (hp : possibleTransitions inst cfg s = .ok poss) (h : filterTeleport orc inst r s poss = .ok tele) :
    ∀ tr ∈ tele, tr.new = .t .working := by
  intro tr htr
  obtain ⟨hmem, tid, hc⟩ := mem_filterTeleport h tr htr
  rcases possibleTransitions_shape hp tr hmem with ⟨mid, hc', _⟩ | ⟨_, _, e⟩
  · rw [hc] at hc'; cases hc'
  · exact e

/-- an action the environment, the middleware or an agent using offered transitions may submit -/
structure Admissible (a : Action) : Prop where
  shaped : ∀ tr ∈ a.transitions, OfferShaped tr
  tm : a.tm ≠ .jumpByOne

theorem mem_sortedByTransport {l : List Transition} {x : Transition} (h : x ∈ sortedByTransport l) : x ∈ l := by
  unfold sortedByTransport at h
  rcases List.mem_append.mp h with h | h <;> exact (List.mem_filter.mp h).1

theorem BatchInv.advance (w : WF inst) {s : State} (hI : StructInv inst s) (hS : SchedInv s) {t : Int}
    (hadv : s.time ≤ t ∧ PendingGe s t) {tt tele : List Transition}
    (htt : timedTransitions inst { s with time := t } = .ok tt) (htele : ∀ tr ∈ tele, tr.new = .t .working) :
    BatchInv inst { s with time := t } (tt ++ tele) :=
  have hI' := hI.time t
  have hS' := hS.advance hadv.1 hadv.2
  have hsf := timed_batch_safe w hI' hS' htt htele
  ⟨hI', hS', hsf.1, hsf.2⟩

theorem BatchInv.round (w : WF inst) {cfg : SMConfig} {s : State} (hI : StructInv inst s) (hS : SchedInv s) {t : Int}
    (ht : jumpToEvent inst cfg s = .ok t) {tt : List Transition}
    (htt : timedTransitions inst { s with time := t } = .ok tt) : BatchInv inst { s with time := t } tt := by
  have := BatchInv.advance w hI hS (jumpToEvent_spec hS ht) htt (tele := []) (fun _ h => nomatch h)
  rwa [List.append_nil] at this

/-- the `while timed_transitions` loop keeps both invariants when it starts from a batch: every
later batch is the timed batch of the state it starts from -/
theorem timedLoop_batch (w : WF inst) (nn : NonNeg orc inst) {cfg : SMConfig} {fuel : Nat} {tt : List Transition}
    {s : State} {r : Rng} {subs mic : List State} {out : LoopOut} (hB : BatchInv inst s tt)
    (h : timedLoop orc inst cfg fuel tt s r subs mic = .ok out) :
    (StructInv inst out.state ∧ SchedInv out.state) ∧
      (∀ σ ∈ out.subs, σ ∈ subs ∨ StructInv inst σ ∧ SchedInv σ) ∧
      (∀ σ ∈ out.micro, σ ∈ mic ∨ StructInv inst σ ∧ SchedInv σ) := by
  have := timedLoop_ind (Q := BatchInv inst) (P := fun σ => StructInv inst σ ∧ SchedInv σ)
    (fun hB => ⟨hB.struct, hB.sched⟩)
    (fun hB ho => have hp := processTransitions_batch w nn hB ho; ⟨⟨hp.1.struct, hp.1.sched⟩, hp.2⟩)
    (fun hB ho _ ht htt =>
      have hp := processTransitions_batch w nn hB ho
      BatchInv.round w hp.1.struct hp.1.sched ht htt) hB h
  exact ⟨this.1, this.2.2⟩

theorem Admissible.batch {a : Action} (ha : Admissible a) {s : State} (hI : StructInv inst s) (hS : SchedInv s) :
    BatchInv inst s (sortedByTransport a.transitions) :=
  have hsf := offerShaped_safe (s := s) (L := sortedByTransport a.transitions)
    (fun tr htr => ha.shaped tr (mem_sortedByTransport htr))
  ⟨hI, hS, hsf.1, hsf.2⟩

/-- **`state.step` keeps the schedule invariant** for every admissible action: in the post-state
of every applied transition, in every sub-state, and in the returned state (before the final
makespan stamp when the shop is done). -/
theorem smStep_sched (w : WF inst) (nn : NonNeg orc inst) {cfg : SMConfig} {fuel : Nat} {s0 : State} {r : Rng}
    {a : Action} {res : SMResult} {r' : Rng} {mic : List State} (hI : StructInv inst s0) (hS : SchedInv s0)
    (ha : Admissible a) (h : smStep orc inst cfg fuel s0 r a = .ok (res, r', mic)) :
    (∀ σ ∈ mic, SchedInv σ) ∧ (∀ σ ∈ res.subStates, SchedInv σ) ∧
      (∃ t, SchedInv { res.state with time := t }) ∧ (res.done = false → SchedInv res.state) := by
  obtain ⟨p, hp, hcase⟩ := smStep_cases h
  have hp' := processTransitions_batch w nn (ha.batch hI hS) hp
  rcases hcase with ⟨_, _, rfl, rfl⟩ | ⟨_, t, timed, poss, tele, out, ht, htimed, hposs, htele, hout, _, rfl, hcase⟩
  · exact ⟨fun σ hσ => (hp'.2 σ hσ).2, by simpa using hp'.1.sched, ⟨s0.time, hS⟩, fun _ => hS⟩
  · have hl := timedLoop_batch w nn (BatchInv.advance w hp'.1.struct hp'.1.sched
      (runTimeMachine_spec hp'.1.sched ha.tm ht) htimed (filterTeleport_shape hposs htele)) hout
    have hsubs : ∀ σ ∈ out.subs, SchedInv σ := fun σ hσ =>
      (hl.2.1 σ hσ).elim (fun h1 => by rw [List.mem_singleton.mp h1]; exact hp'.1.sched) (·.2)
    have hmic : ∀ σ ∈ out.micro, SchedInv σ := fun σ hσ => (hl.2.2 σ hσ).elim (fun h1 => (hp'.2 σ h1).2) (·.2)
    have hdrop : ∀ σ ∈ out.subs.dropLast, SchedInv σ := fun σ hσ => hsubs σ ((List.dropLast_sublist _).subset hσ)
    rcases hcase with ⟨_, rfl⟩ | ⟨_, _, e, _, rfl⟩ | ⟨_, _, poss', _, rfl⟩
    · exact ⟨hmic, hsubs, ⟨s0.time, hS⟩, fun _ => hS⟩
    · refine ⟨hmic, hdrop, ⟨out.state.time, ?_⟩, fun hd => nomatch hd⟩
      cases e <;> exact hl.1.2
    · exact ⟨hmic, hdrop, ⟨out.state.time, hl.1.2⟩, fun _ => hl.1.2⟩

end JSL
