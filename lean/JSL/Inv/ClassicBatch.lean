import JSL.Inv.ClassicBatchE

/-!
# Classic instances without early dispatch: the batches the code builds are enabled in the sense of `En`

For a classic instance run with `allowEarly = false`, in a state with the structural, the schedule
and the bundled (`Bundle`: AGV + route, ready, settled) invariants, the batches of `ClassicBatchE` consist of
`En` transitions: a dispatch is only offered for a job that is ready for pickup, which lies at a pickup place,
and a waiting AGV never re-waits, because the job it claims lies at a pickup place and is ready.

* `offer_en` – every offer is enabled (`En`);
* `timed_enGS`, `timedOnly_enGS` – the timed batch (followed by the teleports) meets `EnGS`;
* `action_enGS` – so does what the middleware submits (nothing, or one offer).
-/

namespace JSL

variable {orc : Oracle} {inst : Instance}

theorem EnGSE.toEnGS {s : State} {L : List Transition} (h : EnGSE inst s L) (hen : ∀ tr ∈ L, En inst s tr) :
    EnGS inst s L := ⟨hen, h.apart, h.alone⟩

theorem offer_en (w : WF inst) {cfg : SMConfig} (he : cfg.allowEarly = false) {s : State}
    (hI : StructInv inst s) (hS : SchedInv s) (hB : Bundle inst s) {poss : List Transition}
    (hp : possibleTransitions inst cfg s = .ok poss) : ∀ tr ∈ poss, En inst s tr := by
  intro tr htr
  rcases mem_possibleTransitions hp htr with ⟨j, _, o, _, _, rfl⟩ | ⟨pt, hpt, hin⟩
  · exact En.start _ rfl
  · obtain ⟨t, ht, tc, j, hj, rfl, hst, _, _, hfree, hkind, hrdy⟩ := possibleTransport_offer hpt _ hin
    exact En.dispatch t j ht hst hj
      (pickupPlace_of_readyE w hI hS hj (pickable_of_offeredE hI hB.full hj hfree hkind
        (offers_not_in_pre w hI hS hB.full.route hp _ htr rfl j.id rfl)) (hrdy he)) hfree

theorem timed_en (w : WF inst) (hC : Classic inst) {s : State} (hI : StructInv inst s) (hS : SchedInv s)
    (hB : Bundle inst s) {tt : List Transition} (htt : timedTransitions inst s = .ok tt) :
    ∀ tr ∈ tt, En inst s tr := by
  intro tr htr
  have hE := ((timed_coreE w hC hI hS hB.toE htt).1 tr htr).en
  cases hE with
  | start _ hn => exact .start _ hn
  | mWork m x hm hst hx => exact .mWork m x hm hst hx
  | mOut m x hm hst hx => exact .mOut m x hm hst hx
  | mIdle m x hm hst hx => exact .mIdle m x hm hst hx
  | dispatch t j ht hst hj hloc hfree => exact absurd rfl ((timed_coreE w hC hI hS hB.toE htt).1 _ htr).noDispatch
  | wait t j ht hst hj hjob => exact .wait t j ht hst hj hjob
  | pick t j ht hst hj hjob _ => exact .pick t j ht hst hj hjob
  | deliver t j ht hst hj hx => exact .deliver t j ht hst hj hx
  | release t ht hst => exact .release t ht hst
  | rewait t j ht hst hj hjob =>
    -- a re-wait is built when the claimed job is not ready; but it lies at a pickup place
    exfalso
    obtain ⟨o, j', _, _, hj', htj', hrdy⟩ :=
      timedTransport_rewaitE (hB.cinv.noDep t ht) hst (timed_built w hI hS hB.toE htt htr ht rfl) rfl
    obtain ⟨j2, hj2, e2, hloc⟩ := hB.cinv.claimed t ht (Or.inr hst)
    have : j2 = j' := eq_of_mem_of_key_eq (key := fun (y : JobState) => y.id) (hI.shape.jobsNodup w) hj2 hj'
      (by rw [htj'] at e2; exact (Option.some.inj e2).symm)
    subst this
    rw [ready_of_pickupPlace w hC hI hj2 hloc] at hrdy
    cases hrdy

theorem timed_enGS (w : WF inst) (hC : Classic inst) {cfg : SMConfig} (he : cfg.allowEarly = false) {s : State}
    (hI : StructInv inst s) (hS : SchedInv s) (hB : Bundle inst s) {tt poss tele : List Transition} {r : Rng}
    (htt : timedTransitions inst s = .ok tt) (hp : possibleTransitions inst cfg s = .ok poss)
    (hte : filterTeleport orc inst r s poss = .ok tele) : EnGS inst s (tt ++ tele) := by
  refine (timed_enGSE w hC hI hS hB.toE htt hp hte).toEnGS ?_
  intro tr htr
  rcases List.mem_append.mp htr with h | h
  · exact timed_en w hC hI hS hB htt tr h
  · exact offer_en w he hI hS hB hp tr (mem_filterTeleport hte tr h).1

theorem timedOnly_enGS (w : WF inst) (hC : Classic inst) {s : State}
    (hI : StructInv inst s) (hS : SchedInv s) (hB : Bundle inst s) {tt : List Transition}
    (htt : timedTransitions inst s = .ok tt) : EnGS inst s tt :=
  (timedOnly_enGSE w hC hI hS hB.toE htt).toEnGS (timed_en w hC hI hS hB htt)

theorem action_enGS (w : WF inst) {cfg : SMConfig} (he : cfg.allowEarly = false) {s : State}
    (hI : StructInv inst s) (hS : SchedInv s) (hB : Bundle inst s) {a : Action} (hadm : AdmOffer inst cfg s a) :
    EnGS inst s (sortedByTransport a.transitions) := by
  refine (action_enGSE w hI hS hB.toE hadm).toEnGS ?_
  rcases hadm with e | ⟨poss, hposs, tr, hp, e⟩
  · rw [e, sortedByTransport_nil]; intro _ h; cases h
  · rw [e, sortedByTransport_single]
    intro t ht
    simp at ht; subst ht
    exact offer_en w he hI hS hB hposs t hp

end JSL
