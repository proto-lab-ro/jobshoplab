import JSL.Inv.RoutePass

/-!
# What one applied transition does to the buffer contents

Every handler either leaves every store as it is, or takes one job out of one buffer and appends it
at the back of another one (`MovedS`).  `StoreEff` lists the five cases together with the shape of
the transition that causes them; `applyTransition_store` proves that every successful
`applyTransition` is one of them.
-/

namespace JSL

variable {orc : Oracle} {inst : Instance}

structure MovedS (s s' : State) (x a b : Nat) : Prop where
  ne : a ≠ b
  was : x ∈ storeAt s a
  storeA : storeAt s' a = (storeAt s a).filter (· != x)
  storeB : storeAt s' b = storeAt s b ++ [x]
  storeO : ∀ i, i ≠ a → i ≠ b → storeAt s' i = storeAt s i

inductive StoreEff (s s' : State) (tr : Transition) : Prop
  /-- SETUP→WORKING, WORKING→OUTAGE, dispatch, waiting, AGV release: nothing moves -/
  | same : tr.new ≠ .m .setup → tr.new ≠ .t .transit → (∀ i, storeAt s' i = storeAt s i) → StoreEff s s' tr
  /-- IDLE→SETUP: the named job leaves the pre-buffer for the machine -/
  | start (m : MachineState) (x : Nat) : m ∈ s.machines → tr.comp = .m m.id → tr.new = .m .setup → m.st = .idle →
      tr.job = some x → x ∈ m.pre.store → MovedS s s' x m.pre.id m.buffer.id → StoreEff s s' tr
  /-- OUTAGE→IDLE: the finished job leaves the machine for the post-buffer -/
  | finish (m : MachineState) (x : Nat) : m ∈ s.machines → tr.comp = .m m.id → tr.new = .m .idle →
      x ∈ m.buffer.store → MovedS s s' x m.buffer.id m.post.id → StoreEff s s' tr
  /-- →TRANSIT: the named job leaves the buffer it is located in for the AGV -/
  | pickup (t : TransportState) (x a : Nat) : t ∈ s.transports → tr.comp = .t t.id → tr.new = .t .transit →
      tr.job = some x → MovedS s s' x a t.buffer.id → StoreEff s s' tr
  /-- TRANSIT→OUTAGE: the carried job leaves the AGV for a pre-buffer or a stand-alone buffer -/
  | deliver (t : TransportState) (x b : Nat) : t ∈ s.transports → tr.comp = .t t.id → tr.new = .t .outage →
      tr.job = some x → MovedS s s' x t.buffer.id b → StoreEff s s' tr

theorem storeAt_jobs_irrelevant (s : State) (js : List JobState) (i : Nat) :
    storeAt { s with jobs := js } i = storeAt s i := rfl

theorem store_pre {s : State} (hs : Shape inst s) (w : WF inst) {m : MachineState} (hm : m ∈ s.machines) :
    storeAt s m.pre.id = m.pre.store := storeAt_of_mem (hs.bufNodup w) (mem_allBufs_of_machine hm).1
theorem store_buf {s : State} (hs : Shape inst s) (w : WF inst) {m : MachineState} (hm : m ∈ s.machines) :
    storeAt s m.buffer.id = m.buffer.store := storeAt_of_mem (hs.bufNodup w) (mem_allBufs_of_machine hm).2.1
theorem store_post {s : State} (hs : Shape inst s) (w : WF inst) {m : MachineState} (hm : m ∈ s.machines) :
    storeAt s m.post.id = m.post.store := storeAt_of_mem (hs.bufNodup w) (mem_allBufs_of_machine hm).2.2
theorem store_sb {s : State} (hs : Shape inst s) (w : WF inst) {b : BufState} (hb : b ∈ s.buffers) :
    storeAt s b.id = b.store := storeAt_of_mem (hs.bufNodup w) (mem_allBufs_of_buffer hb)

/-- the stores after one machine record is replaced, given as a function that agrees with the new
record on the machine's three buffers and with the old state elsewhere -/
theorem storeAt_replaceMachine_fun {s : State} (hs : Shape inst s) (w : WF inst) {m m' : MachineState}
    (hm : m ∈ s.machines) (hk : mKey m' = mKey m) {g : Nat → List Nat} (h1 : m'.pre.store = g m.pre.id)
    (h2 : m'.buffer.store = g m.buffer.id) (h3 : m'.post.store = g m.post.id)
    (h4 : ∀ i, i ≠ m.pre.id → i ≠ m.buffer.id → i ≠ m.post.id → storeAt s i = g i) (i : Nat) :
    storeAt (s.replaceMachine m') i = g i := by
  rw [storeAt_replaceMachine hs w hm hk]
  split
  · rename_i h; rw [h, h1]
  · split
    · rename_i h; rw [h, h2]
    · split
      · rename_i h; rw [h, h3]
      · exact h4 i ‹_› ‹_› ‹_›

theorem MovedS.of_stores {s s' : State} {x a b : Nat} (hne : a ≠ b) (was : x ∈ storeAt s a)
    (e : ∀ i, storeAt s' i = if i = b then storeAt s b ++ [x] else if i = a then (storeAt s a).filter (· != x)
      else storeAt s i) : MovedS s s' x a b :=
  ⟨hne, was, by rw [e, if_neg hne, if_pos rfl], by rw [e, if_pos rfl], fun i hia hib => by rw [e, if_neg hib, if_neg hia]⟩

theorem idleToSetup_moved (w : WF inst) {s s' : State} {r r' : Rng} {tr : Transition} {m : MachineState}
    (hI : StructInv inst s) (hm : m ∈ s.machines)
    (h : handleMachineIdleToSetup orc inst s r tr m = .ok (s', r')) :
    ∃ x, tr.job = some x ∧ x ∈ m.pre.store ∧ MovedS s s' x m.pre.id m.buffer.id := by
  obtain ⟨j, op, oc, mc, sd, bss1, bss2, hj, htj, hjin, _, _, _, _, _, _, _, _, rfl⟩ := idleToSetup_spec h
  have hs := hI.shape
  have hne := machine_buf_ids_ne hs w hm
  have e : ∀ i, storeAt (s.replaceMachine (m.toSetup j.id bss1 bss2 (s.time + sd) oc.tool)) i =
      if i = m.buffer.id then storeAt s m.buffer.id ++ [j.id]
      else if i = m.pre.id then (storeAt s m.pre.id).filter (· != j.id) else storeAt s i :=
    storeAt_replaceMachine_fun hs w hm (by rfl) (by simp [hne.1, store_pre hs w hm, MachineState.toSetup])
      (by simp [store_buf hs w hm, MachineState.toSetup])
      (by simp [hne.2.1.symm, hne.2.2.symm, store_post hs w hm, MachineState.toSetup])
      (fun i h1 h2 _ => by simp [h1, h2])
  exact ⟨j.id, htj, hjin, .of_stores hne.1 (by rw [store_pre hs w hm]; exact hjin) e⟩

theorem outageToIdle_moved (w : WF inst) {s s' : State} {r r' : Rng} {m : MachineState}
    (hI : StructInv inst s) (hm : m ∈ s.machines)
    (h : handleMachineOutageToIdle inst s r m = .ok (s', r')) :
    ∃ x, x ∈ m.buffer.store ∧ MovedS s s' x m.buffer.id m.post.id := by
  obtain ⟨j, op, mc, rest, bss1, bss2, hst, _, _, _, _, _, _, rfl⟩ := outageToIdle_spec h
  have hs := hI.shape
  have hne := machine_buf_ids_ne hs w hm
  have hin : j.id ∈ m.buffer.store := by rw [hst]; simp
  have e : ∀ i, storeAt (s.replaceMachine (m.toIdle j.id bss1 bss2)) i =
      if i = m.post.id then storeAt s m.post.id ++ [j.id]
      else if i = m.buffer.id then (storeAt s m.buffer.id).filter (· != j.id) else storeAt s i :=
    storeAt_replaceMachine_fun hs w hm (by rfl) (by simp [hne.1, hne.2.1, store_pre hs w hm, MachineState.toIdle])
      (by simp [hne.2.2, store_buf hs w hm, MachineState.toIdle]) (by simp [store_post hs w hm, MachineState.toIdle])
      (fun i _ h2 h3 => by simp [h2, h3])
  exact ⟨j.id, hin, .of_stores hne.2.2 (by rw [store_buf hs w hm]; exact hin) e⟩

theorem pickupToTransit_moved (w : WF inst) {s s' : State} {r r' : Rng} {tr : Transition} {t : TransportState}
    (hI : StructInv inst s) (ht : t ∈ s.transports)
    (h : handleAgvPickupToTransit orc inst s r tr t = .ok (s', r')) :
    ∃ x a, tr.job = some x ∧ MovedS s s' x a t.buffer.id := by
  obtain ⟨j, src, dst, tt, bss1, bss2, hj, htj, _, _, _, hcase⟩ := pickupToTransit_spec h
  have hs := hI.shape
  have hparts := ids_parts hs w
  have htb := transport_storeAt w hs ht
  -- the job leaves a buffer `bs` of a state `s1` with the transports of `s`, then enters the AGV
  have fin : ∀ (s1 : State) (bs : BufState), Shape inst s1 → s1.transports = s.transports → bs.id ≠ t.buffer.id →
      storeAt s bs.id = bs.store → j.id ∈ bs.store →
      (∀ i, storeAt s1 i = if i = bs.id then bs.store.filter (· != j.id) else storeAt s i) →
      MovedS s ((s1.replaceJob (j.at t.buffer.id)).replaceTransport (t.toTransit (s.time + tt) j.id bss2)) j.id bs.id
        t.buffer.id := by
    intro s1 bs hs1 hts hne hbst hin e1
    refine .of_stores hne (by rw [hbst]; exact hin) fun i => ?_
    refine (storeAt_replaceTransport (s := s1) (t := t) (t' := t.toTransit (s.time + tt) j.id bss2) hs1 w (hts ▸ ht) rfl i).trans ?_
    rw [e1, htb, hbst]
    rfl
  rcases hcase with ⟨fb, _, _, hfb, _, hin, rfl⟩ | ⟨mid, ms, bs, ms', _, _, hms, _, hbs, hin, hms', rfl⟩
  · exact ⟨j.id, fb.id, htj, fin _ fb (hs.replaceBuffer w hfb (b' := fb.without j.id bss1) rfl) rfl (hparts.2.1 fb hfb t ht)
      (store_sb hs w hfb) hin (storeAt_replaceBuffer hs w hfb (b' := fb.without j.id bss1) rfl)⟩
  · have hne3 := machine_buf_ids_ne hs w hms
    have hmb := mem_allBufs_of_machine hms
    have h3 := hparts.2.2 ms hms t ht
    have hp := store_pre hs w hms
    have hb := store_buf hs w hms
    have hq := store_post hs w hms
    -- which of the machine's buffers the job is taken from
    obtain ⟨hbst, hne, hmk, hstores⟩ : storeAt s bs.id = bs.store ∧ bs.id ≠ t.buffer.id ∧ mKey ms' = mKey ms ∧
        ∀ i, storeAt (s.replaceMachine ms') i = if i = bs.id then bs.store.filter (· != j.id) else storeAt s i := by
      rcases takeFromMachine hne3 hbs hms' with ⟨rfl, rfl⟩ | ⟨rfl, rfl⟩ | ⟨rfl, rfl⟩
      · exact ⟨hp, h3.1, rfl, storeAt_replaceMachine_fun hs w hms (m' := { ms with pre := ms.pre.without j.id bss1 }) rfl (by simp) (by simp [hne3.1.symm, hb])
          (by simp [hne3.2.1.symm, hq]) (fun i h1 _ _ => by simp [h1])⟩
      · exact ⟨hb, h3.2.1, rfl, storeAt_replaceMachine_fun hs w hms (m' := { ms with buffer := ms.buffer.without j.id bss1 }) rfl (by simp [hne3.1, hp]) (by simp)
          (by simp [hne3.2.2.symm, hq]) (fun i _ h2 _ => by simp [h2])⟩
      · exact ⟨hq, h3.2.2, rfl, storeAt_replaceMachine_fun hs w hms (m' := { ms with post := ms.post.without j.id bss1 }) rfl (by simp [hne3.2.1, hp])
          (by simp [hne3.2.2, hb]) (by simp) (fun i _ _ h3 => by simp [h3])⟩
    exact ⟨j.id, bs.id, htj, fin _ bs (hs.replaceMachine w hms hmk) rfl hne hbst hin hstores⟩

theorem transitToOutage_moved (w : WF inst) {s s' : State} {r r' : Rng} {tr : Transition} {t : TransportState}
    (hI : StructInv inst s) (ht : t ∈ s.transports)
    (h : handleAgvTransitToOutage orc inst s r tr t = .ok (s', r')) :
    ∃ x b, tr.job = some x ∧ MovedS s s' x t.buffer.id b := by
  obtain ⟨j, cur, pick, drop, tc, outs, bss1, bss2, hj, htj, _, hin, _, _, _, hcase⟩ := transitToOutage_spec h
  have hs := hI.shape
  have hparts := ids_parts hs w
  have htb := transport_storeAt w hs ht
  have hs1 := hs.replaceTransport w ht (t' := t.toOutage j.id bss1 outs (s.time + occupiedFor outs) drop) rfl
  have e0 : ∀ k, storeAt (s.replaceTransport (t.toOutage j.id bss1 outs (s.time + occupiedFor outs) drop)) k =
      if k = t.buffer.id then (storeAt s t.buffer.id).filter (· != j.id) else storeAt s k := by
    intro k
    rw [storeAt_replaceTransport hs w ht (t' := t.toOutage j.id bss1 outs (s.time + occupiedFor outs) drop) rfl, htb]
    rfl
  rcases hcase with ⟨mid, ms, _, hms, _, _, rfl⟩ | ⟨bid, b, _, hb, _, _, rfl⟩
  · have hne3 := machine_buf_ids_ne hs w hms
    have h2 := hparts.2.2 ms hms t ht
    have e : ∀ i, storeAt ((s.replaceTransport (t.toOutage j.id bss1 outs (s.time + occupiedFor outs) drop)).replaceMachine
        (ms.withPre j.id bss2)) i = if i = ms.pre.id then storeAt s ms.pre.id ++ [j.id]
        else if i = t.buffer.id then (storeAt s t.buffer.id).filter (· != j.id) else storeAt s i :=
      storeAt_replaceMachine_fun hs1 w hms (by rfl) (by simp [store_pre hs w hms, MachineState.withPre])
        (by simp [hne3.1.symm, h2.2.1, store_buf hs w hms, MachineState.withPre])
        (by simp [hne3.2.1.symm, h2.2.2, store_post hs w hms, MachineState.withPre])
        (fun i h1 _ _ => by rw [if_neg h1]; exact e0 i)
    exact ⟨j.id, ms.pre.id, htj, .of_stores h2.1.symm (by rw [htb]; exact hin) e⟩
  · have hne : t.buffer.id ≠ b.id := (hparts.2.1 b hb t ht).symm
    refine ⟨j.id, b.id, htj, .of_stores hne (by rw [htb]; exact hin) fun i => ?_⟩
    refine (storeAt_replaceBuffer hs1 w (s := s.replaceTransport _) hb (b' := b.withBack j.id bss2) rfl i).trans ?_
    rw [e0, store_sb hs w hb]
    rfl

theorem applyTransition_store (w : WF inst) {s s' : State} {r r' : Rng} {tr : Transition}
    (hI : StructInv inst s) (h : applyTransition orc inst s r tr = .ok (s', r')) : StoreEff s s' tr := by
  have hs := hI.shape
  cases applyTransition_cases h with
  | idleToSetup m hm hc hst hn run =>
    obtain ⟨x, hx, hin, hmv⟩ := idleToSetup_moved w hI hm run
    exact .start m x hm hc hn hst hx hin hmv
  | setupToWorking m hm hc hst hn run =>
    obtain ⟨j, op, oc, d, _, _, _, _, _, _, _, _, rfl⟩ := setupToWorking_spec run
    exact .same (by rw [hn]; simp) (by rw [hn]; simp)
      (storeAt_replaceMachine_same hs w hm (m' := m.toWorking (s.time + d)) rfl rfl rfl rfl)
  | workingToOutage m hm hc hst hn run =>
    obtain ⟨mc, outs, j, op, _, _, _, _, _, _, rfl⟩ := workingToOutage_spec run
    exact .same (by rw [hn]; simp) (by rw [hn]; simp)
      (storeAt_replaceMachine_same hs w hm (m' := m.toOutage outs (s.time + occupiedFor outs)) rfl rfl rfl rfl)
  | outageToIdle m hm hc hst hn run =>
    obtain ⟨x, hin, hmv⟩ := outageToIdle_moved w hI hm run
    exact .finish m x hm hc hn hin hmv
  | idleToWorking t ht hc hst hn run =>
    obtain ⟨_, _, _, _, _, _, _, _, _, _, _, _, _, _, _, rfl⟩ := idleToWorking_spec run
    exact .same (by rw [hn]; simp) (by rw [hn]; simp) (storeAt_replaceTransport_same hs w ht rfl rfl)
  | pickupToWaiting t ht hc hst hn run =>
    obtain ⟨occ, _, _, _, rfl⟩ := pickupToWaiting_spec run
    exact .same (by rw [hn]; simp) (by rw [hn]; simp) (storeAt_replaceTransport_same hs w ht rfl rfl)
  | waitingToWaiting t ht hc hst hn run =>
    obtain ⟨occ, _, _, rfl⟩ := waitingToWaiting_spec run
    exact .same (by rw [hn]; simp) (by rw [hn]; simp) (storeAt_replaceTransport_same hs w ht rfl rfl)
  | agvOutageToIdle t ht hc hst hn run =>
    obtain ⟨_, rfl⟩ := agvOutageToIdle_spec run
    exact .same (by rw [hn]; simp) (by rw [hn]; simp) (storeAt_replaceTransport_same hs w ht rfl rfl)
  | pickupToTransit t ht hc hst hn run =>
    obtain ⟨x, a, hx, hmv⟩ := pickupToTransit_moved w hI ht run
    exact .pickup t x a ht hc hn hx hmv
  | transitToOutage t ht hc hst hn run =>
    obtain ⟨x, b, hx, hmv⟩ := transitToOutage_moved w hI ht run
    exact .deliver t x b ht hc hn hx hmv

end JSL
