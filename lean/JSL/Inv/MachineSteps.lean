import JSL.Inv.Jobs

/-!
# Structural invariants are preserved by the four machine handlers
-/

namespace JSL

variable {orc : Oracle} {inst : Instance}

structure StructInv (inst : Instance) (s : State) : Prop where
  shape : Shape inst s
  cons : ConservedV s
  cap : CapV inst s

/-- the capacity check made against the machine's own buffer config covers every config with
that id (ids are unique) -/
theorem room_of_cfg (w : WF inst) {c0 : BufCfg} (hc0 : c0 ∈ allBufCfgs inst) {n : Int} (h : n < c0.cap) :
    ∀ c ∈ allBufCfgs inst, c.id = c0.id → n < c.cap := by
  intro c hc hid
  have : c = c0 := eq_of_mem_of_key_eq (key := fun (y : BufCfg) => y.id) w.bufNodup hc hc0 hid
  rw [this]; exact h

theorem mem_allBufCfgs_of_machine {mc : MachineCfg} (h : mc ∈ inst.machines) :
    mc.pre ∈ allBufCfgs inst ∧ mc.buf ∈ allBufCfgs inst ∧ mc.post ∈ allBufCfgs inst := by
  simp only [allBufCfgs, List.mem_append, List.mem_flatMap, List.mem_map]
  exact ⟨Or.inl (Or.inr ⟨mc, h, by simp⟩), Or.inl (Or.inr ⟨mc, h, by simp⟩), Or.inl (Or.inr ⟨mc, h, by simp⟩)⟩

theorem Shape.machine_cfg_ids {s : State} (hs : Shape inst s) (w : WF inst) {m : MachineState}
    (hm : m ∈ s.machines) {mc : MachineCfg} (hmc : mc ∈ inst.machines) (hid : mc.id = m.id) :
    mc.pre.id = m.pre.id ∧ mc.buf.id = m.buffer.id ∧ mc.post.id = m.post.id := by
  obtain ⟨mc', hmc', hk⟩ := hs.machine_cfg hm
  simp only [mKey, mcKey, Prod.mk.injEq] at hk
  have : mc' = mc := eq_of_mem_of_key_eq (key := fun (y : MachineCfg) => y.id) w.machNodup hmc' hmc
    (by rw [← hk.1, hid])
  subst this
  exact ⟨hk.2.1.symm, hk.2.2.1.symm, hk.2.2.2.symm⟩

theorem replaceOp_at_jKey {s : State} (hs : Shape inst s) (w : WF inst) {j : JobState}
    (hj : j ∈ s.jobs) {op op' : OpState} (hop : op ∈ j.ops) (hk : opKey op' = opKey op) (l : Nat) :
    jKey ((j.replaceOp op').at l) = jKey j := replaceOp_jKey hs w hj hop hk l

theorem replaceOp_jKey' {s : State} (hs : Shape inst s) (w : WF inst) {j : JobState}
    (hj : j ∈ s.jobs) {op op' : OpState} (hop : op ∈ j.ops) (hk : opKey op' = opKey op) :
    jKey (j.replaceOp op') = jKey j := by
  have := replaceOp_jKey hs w hj hop hk j.loc
  simpa [JobState.replaceOp, jKey] using this

theorem idleToSetup_struct (w : WF inst) {s s' : State} {r r' : Rng} {tr : Transition} {m : MachineState}
    (hI : StructInv inst s) (hm : m ∈ s.machines)
    (hvalid : ∀ j ∈ s.jobs, tr.job = some j.id → ∀ op, j.nextNotDone? = some op → op.machine = m.id)
    (h : handleMachineIdleToSetup orc inst s r tr m = .ok (s', r')) : StructInv inst s' := by
  obtain ⟨j, op, oc, mc, sd, bss1, bss2, hj, htj, hjin, hop, hoc, hocj, hoci, hmc, hmcid, hcap, _, rfl⟩ :=
    idleToSetup_spec h
  have hs := hI.shape
  have hopm := find?_mem_ops hop
  have hmach := hvalid j hj htj op hop
  have hne := machine_buf_ids_ne hs w hm
  have hk1 := replaceOp_at_jKey hs w hj hopm.1 (op' := opRec oc s.time (s.time + sd) m.id)
    (by simp [opKey, opRec, hocj, hoci, hmach]) m.buffer.id
  have hs1 := hs.replaceJob w hj hk1
  have hmk : mKey (m.toSetup j.id bss1 bss2 (s.time + sd) oc.tool) = mKey m := by
    simp [mKey, MachineState.toSetup]
  have hs2 := hs1.replaceMachine w hm hmk
  have hpre : storeAt s m.pre.id = m.pre.store := storeAt_of_mem (hs.bufNodup w) (mem_allBufs_of_machine hm).1
  have hbuf : storeAt s m.buffer.id = m.buffer.store := storeAt_of_mem (hs.bufNodup w) (mem_allBufs_of_machine hm).2.1
  have hpost : storeAt s m.post.id = m.post.store := storeAt_of_mem (hs.bufNodup w) (mem_allBufs_of_machine hm).2.2
  have hmv : Moved s _ j.id m.pre.id m.buffer.id := {
    ne := hne.1
    was := hI.cons.stored _ _ (by rw [hpre]; exact hjin)
    storeA := by rw [storeAt_replaceMachine hs1 w hm hmk]; simp [hpre, MachineState.toSetup]
    storeB := by
      rw [storeAt_replaceMachine hs1 w hm hmk]
      simp [hne.1.symm, hbuf, MachineState.toSetup]
    storeO := by
      intro i hia hib
      rw [storeAt_replaceMachine hs1 w hm hmk]
      simp only [hia, hib, if_false]
      split
      · rename_i h3; rw [h3]; exact hpost.symm
      · rfl
    locs := by simp [locs_replaceJob] }
  have hids := hs.machine_cfg_ids w hm hmc hmcid
  exact ⟨hs2, hmv.conserved (hs.jobsNodup w) hI.cons,
    hmv.cap (by
      intro c hc hcid
      rw [hbuf]
      exact room_of_cfg w (mem_allBufCfgs_of_machine hmc).2.1 hcap c hc (by rw [hcid, hids.2.1])) hI.cap⟩

theorem setupToWorking_struct (w : WF inst) {s s' : State} {r r' : Rng} {tr : Transition} {m : MachineState}
    (hI : StructInv inst s) (hm : m ∈ s.machines)
    (hvalid : ∀ j ∈ s.jobs, tr.job = some j.id → ∀ op, j.nextNotDone? = some op → op.machine = m.id)
    (h : handleMachineSetupToWorking orc inst s r tr m = .ok (s', r')) : StructInv inst s' := by
  obtain ⟨j, op, oc, d, hj, htj, hjin, hop, hoc, hocj, hoci, _, rfl⟩ := setupToWorking_spec h
  have hs := hI.shape
  have hopm := find?_mem_ops hop
  have hmach := hvalid j hj htj op hop
  have hk1 := replaceOp_jKey' hs w hj hopm.1 (op' := opRec oc s.time (s.time + d) m.id)
    (by simp [opKey, opRec, hocj, hoci, hmach])
  have hs1 := hs.replaceJob w hj hk1
  have hmk : mKey (m.toWorking (s.time + d)) = mKey m := by simp [mKey, MachineState.toWorking]
  have hs2 := hs1.replaceMachine w hm hmk
  have hsame : Same s ((s.replaceJob (j.replaceOp (opRec oc s.time (s.time + d) m.id))).replaceMachine
      (m.toWorking (s.time + d))) := {
    store := fun i => storeAt_replaceMachine_same hs1 w (s := s.replaceJob _) hm hmk rfl rfl rfl i
    locs := by
      rw [locs_replaceMachine]
      exact locs_replaceJob_same (hs.jobsNodup w) hj rfl rfl }
  exact ⟨hs2, hsame.conserved hI.cons, hsame.cap hI.cap⟩

theorem workingToOutage_struct (w : WF inst) {s s' : State} {r r' : Rng} {tr : Transition} {m : MachineState}
    (hI : StructInv inst s) (hm : m ∈ s.machines)
    (h : handleMachineWorkingToOutage orc inst s r tr m = .ok (s', r')) : StructInv inst s' := by
  obtain ⟨mc, outs, j, op, hmc, hmcid, _, hj, htj, hop, rfl⟩ := workingToOutage_spec h
  have hs := hI.shape
  have hopm := find?_mem_ops hop
  have hmk : mKey (m.toOutage outs (s.time + occupiedFor outs)) = mKey m := by simp [mKey, MachineState.toOutage]
  have hs1 := hs.replaceMachine w hm hmk
  have hk1 := replaceOp_jKey' hs1 w (s := s.replaceMachine _) hj hopm.1
    (op' := { op with stop := some (s.time + occupiedFor outs) }) (by simp [opKey])
  have hs2 := hs1.replaceJob w (s := s.replaceMachine _) hj hk1
  have hsame : Same s ((s.replaceMachine (m.toOutage outs (s.time + occupiedFor outs))).replaceJob
      (j.replaceOp { op with stop := some (s.time + occupiedFor outs) })) := {
    store := by
      intro i
      rw [storeAt_replaceJob]
      exact storeAt_replaceMachine_same hs w hm hmk rfl rfl rfl i
    locs := locs_replaceJob_same (s := s.replaceMachine _) (hs.jobsNodup w) hj rfl rfl }
  exact ⟨hs2, hsame.conserved hI.cons, hsame.cap hI.cap⟩

theorem outageToIdle_struct (w : WF inst) {s s' : State} {r r' : Rng} {m : MachineState}
    (hI : StructInv inst s) (hm : m ∈ s.machines)
    (h : handleMachineOutageToIdle inst s r m = .ok (s', r')) : StructInv inst s' := by
  obtain ⟨j, op, mc, rest, bss1, bss2, hst, hj, hop, hmc, hmcid, hcap, _, rfl⟩ := outageToIdle_spec h
  have hs := hI.shape
  have hopm := find?_mem_ops hop
  have hne := machine_buf_ids_ne hs w hm
  have hk1 := replaceOp_at_jKey hs w hj hopm.1 (op' := { op with stop := some s.time, st := .done })
    (by simp [opKey]) m.post.id
  have hs1 := hs.replaceJob w hj hk1
  have hmk : mKey (m.toIdle j.id bss1 bss2) = mKey m := by simp [mKey, MachineState.toIdle]
  have hs2 := hs1.replaceMachine w hm hmk
  have hpre : storeAt s m.pre.id = m.pre.store := storeAt_of_mem (hs.bufNodup w) (mem_allBufs_of_machine hm).1
  have hbuf : storeAt s m.buffer.id = m.buffer.store := storeAt_of_mem (hs.bufNodup w) (mem_allBufs_of_machine hm).2.1
  have hpost : storeAt s m.post.id = m.post.store := storeAt_of_mem (hs.bufNodup w) (mem_allBufs_of_machine hm).2.2
  have hmv : Moved s _ j.id m.buffer.id m.post.id := {
    ne := hne.2.2
    was := hI.cons.stored _ _ (by rw [hbuf, hst]; simp)
    storeA := by
      rw [storeAt_replaceMachine hs1 w hm hmk]
      simp [hbuf, MachineState.toIdle, hne.1.symm]
    storeB := by
      rw [storeAt_replaceMachine hs1 w hm hmk]
      simp [hne.2.1.symm, hne.2.2.symm, hpost, MachineState.toIdle]
    storeO := by
      intro i hia hib
      rw [storeAt_replaceMachine hs1 w hm hmk]
      simp only [hia, hib, if_false]
      split
      · rename_i h3; rw [h3]; simp [MachineState.toIdle, hpre]
      · rfl
    locs := by simp [locs_replaceJob] }
  have hids := hs.machine_cfg_ids w hm hmc hmcid
  exact ⟨hs2, hmv.conserved (hs.jobsNodup w) hI.cons,
    hmv.cap (by
      intro c hc hcid
      rw [hpost]
      exact room_of_cfg w (mem_allBufCfgs_of_machine hmc).2.2 hcap c hc (by rw [hcid, hids.2.2])) hI.cap⟩

end JSL
