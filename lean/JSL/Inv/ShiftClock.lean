import JSL.Inv.ShiftOffers

/-!
# Translation of simulated time: time machines (shifted result) and validation (unchanged)
-/

namespace JSL
variable (δ : Int) {inst : Instance}

theorem min_add (a b : Int) : min (a + δ) (b + δ) = min a b + δ := by
  simp only [Int.min_def]; split <;> split <;> omega

theorem max_add (a b : Int) : max (a + δ) (b + δ) = max a b + δ := by
  simp only [Int.max_def]; split <;> split <;> omega

theorem foldl_min_add (xs : List Int) : ∀ x : Int, (xs.map (· + δ)).foldl min (x + δ) = xs.foldl min x + δ := by
  induction xs with
  | nil => intro x; rfl
  | cons y ys ih => intro x; simp only [List.map_cons, List.foldl_cons, min_add, ih]

theorem foldl_max_add (xs : List Int) : ∀ x : Int, (xs.map (· + δ)).foldl max (x + δ) = xs.foldl max x + δ := by
  induction xs with
  | nil => intro x; rfl
  | cons y ys ih => intro x; simp only [List.map_cons, List.foldl_cons, max_add, ih]

theorem minList_shift (l : List Int) : minList (l.map (· + δ)) = (minList l).map (· + δ) := by
  cases l with
  | nil => rfl
  | cons x xs => simp only [List.map_cons, minList, foldl_min_add, Option.map_some]

theorem allOps_shift (s : State) :
    (shiftState δ s).jobs.flatMap (·.ops) = (s.jobs.flatMap (·.ops)).map (shiftOp δ) := by
  simp only [shiftState_jobs, List.flatMap_map, List.map_flatMap]
  rfl

theorem mapM_map_equiv_self {α β} (f : α → α) (k : β → β) (g : α → Except Err β)
    (hg : ∀ x, g (f x) = (g x).map k) (l : List α) : (l.map f).mapM g = (l.mapM g).map (List.map k) :=
  mapM_map_equiv f k g g hg l

theorem mapM_map_inv_self {α β} (f : α → α) (g : α → Except Err β) (hg : ∀ x, g (f x) = g x) (l : List α) :
    (l.map f).mapM g = l.mapM g :=
  mapM_map_inv f g g hg l

theorem filterE_map_self {α} (f : α → α) (p : α → Except Err Bool) (hp : ∀ x, p (f x) = p x) (l : List α) :
    filterE p (l.map f) = (filterE p l).map (List.map f) :=
  filterE_map f p p hp l

theorem forceJump_shift (s : State) : forceJump (shiftState δ s) = (forceJump s).map (· + δ) := by
  unfold forceJump
  rw [allOps_shift, filter_map_inv (shiftOp δ) (fun o => o.st == .processing) (fun _ => rfl),
    mapM_map_equiv_self (shiftOp δ) (· + δ)]
  · refine bind_map_peel rfl fun procEnds => ?_
    simp only [shiftState_transports]
    rw [filter_map_inv (shiftTransport δ), mapM_map_equiv_self (shiftTransport δ) (· + δ)]
    · refine bind_map_peel rfl fun trEnds => ?_
      simp only [minList_shift, shiftState_time]
      cases minList procEnds <;> cases minList trEnds <;>
        simp only [Option.map_none, Option.map_some, except_pure, except_map'_ok, min_add,
          Int.add_right_comm _ δ 1]
    · intro t
      simp only [shiftTransport_occ]
      cases t.occ <;> rfl
    · intro t
      simp only [shiftTransport_occ, shiftTransport_st]
      cases t.occ <;> rfl
  · intro o
    simp only [shiftOp_stop]
    cases o.stop <;> rfl

theorem jumpToEvent_shift (cfg : SMConfig) (s : State) :
    jumpToEvent inst cfg (shiftState δ s) = (jumpToEvent inst cfg s).map (· + δ) := by
  unfold jumpToEvent
  rw [numPossibleEvents_shift]
  exact bind_peel _ _ _ _ fun n => ite_peel rfl (forceJump_shift δ s)

theorem runTimeMachine_shift (cfg : SMConfig) (s : State) (tm : TimeMachine) :
    runTimeMachine inst cfg (shiftState δ s) tm = (runTimeMachine inst cfg s tm).map (· + δ) := by
  cases tm with
  | jumpByOne =>
    simp only [runTimeMachine, shiftState_time, except_pure, except_map'_ok, Int.add_right_comm _ δ 1]
  | jumpToEvent => exact jumpToEvent_shift δ cfg s
  | forceJump => exact forceJump_shift δ s

theorem machineJobCheck_shift (s : State) (m : MachineState) (job : Option Nat) :
    machineJobCheck (shiftState δ s) (shiftMachine δ m) job = machineJobCheck s m job := by
  unfold machineJobCheck
  cases job with
  | none => rfl
  | some jid =>
    exact bind_map_congr (getJob_shift δ s.jobs jid) fun j => bind_map_congr (shiftJob_nextNotDone δ j) fun op => rfl

theorem machineTransitionValid_shift (s : State) (m : MachineState) (tr : Transition) :
    machineTransitionValid (shiftState δ s) (shiftMachine δ m) tr = machineTransitionValid s m tr := by
  unfold machineTransitionValid
  simp only [shiftMachine_st, machineJobCheck_shift]

theorem transitionValid_shift (s : State) (tr : Transition) :
    transitionValid (shiftState δ s) tr = transitionValid s tr := by
  unfold transitionValid
  cases tr.comp with
  | m mid =>
    exact bind_map_congr (getMachine_shift δ s.machines mid) fun m => machineTransitionValid_shift δ s m tr
  | t tid => exact bind_map_congr (getTransport_shift δ s.transports tid) fun t => rfl
  | b bid => rfl
end JSL
