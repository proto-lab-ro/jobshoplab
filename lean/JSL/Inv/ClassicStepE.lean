import JSL.Inv.ClassicTotalDefs
import JSL.Inv.ClassicMachTotal
import JSL.Inv.ClassicAgvTotalA
import JSL.Inv.ClassicAgvTotalB
import JSL.Inv.ClassicTotalsE

/-!
# One applied transition keeps the classic invariant with early dispatch

`cinvE_step`: for a classic instance, every enabled transition (`EnE`) that applies keeps `CInvE`
(AGVs on their way, carrying or in their drop-off outage and machines in SETUP / OUTAGE are due now, claimed
jobs are `Pickable`, jobs in standalone non-output buffers are fresh, setup records have start = end).

The proof goes kind by kind (`EnE` has ten), each through the closed form of the handler that ran,
and field by field through three frame lemmas:

* `cinvE_replaceTransport` – only one AGV record changes (dispatch, wait, re-wait, release);
* `cinvE_machine_step`     – one job record and one machine record change (the four machine kinds);
* `cinvE_agv_move`         – one job is relocated, one AGV record changes, machines keep state and
                             `occupied_till` (pickup, delivery).

A claimed job may lie in the internal buffer of a machine (`Pickable`), and a waiting AGV
need not be due – then its waiting time is the end of the running record of its job (`waitDue`).  The
machine transitions on a claimed job keep this: whenever a running record's end is rewritten or the record
is finished, the old end has been reached (the machine was due).
-/

namespace JSL

variable {orc : Oracle} {inst : Instance}

def ProcEndE (j : JobState) (c : Int) : Prop := ∃ o ∈ j.ops, o.st = .processing ∧ o.stop = some c

theorem cse_pre_not_pickable (w : WF inst) {s : State} (hs : Shape inst s) {m : MachineState} (hm : m ∈ s.machines)
    {j : JobState} (hloc : j.loc = m.pre.id) : ¬ Pickable inst j := by
  intro h
  rcases h with h | h
  · rw [hloc] at h; exact (cs_machine_not_pickup w hs hm).1 h
  · rw [hloc] at h
    obtain ⟨m2, hm2, e⟩ := internal_machine w hs h
    exact (internal_ne_pre_post hs w hm2 hm).1 e


structure TGoodE (inst : Instance) (s : State) (t : TransportState) : Prop where
  noDep : ∀ b j tr, t.occ ≠ .dep b j tr
  noWorking : t.st ≠ .working
  claimed : t.st = .pickup ∨ t.st = .waitingpickup → ∃ j ∈ s.jobs, t.job = some j.id ∧ Pickable inst j
  isAt : t.st ≠ .idle → ∃ c, t.occ = .at c
  due : t.st = .pickup ∨ t.st = .transit ∨ t.st = .outage → ∀ c, t.occ = .at c → c ≤ s.time
  waitDue : t.st = .waitingpickup → ∀ j ∈ s.jobs, t.job = some j.id → ∀ c, t.occ = .at c →
    c ≤ s.time ∨ ProcEndE j c
  parked : t.st = .idle ∨ t.st = .outage → ∃ l, t.loc = .at l ∧ l ∈ locsOf inst

theorem CInvE.tgoodE {s : State} (h : CInvE inst s) {t : TransportState} (ht : t ∈ s.transports) : TGoodE inst s t :=
  ⟨h.noDep t ht, h.noWorking t ht, h.claimed t ht, h.agvAt t ht, h.agvDue t ht, h.waitDue t ht, h.parked t ht⟩

/-- `CInvE` from its per-AGV part and the three fields on jobs and machines -/
theorem cinvE_of_parts {s : State} (key : ∀ t ∈ s.transports, TGoodE inst s t)
    (fresh : ∀ j ∈ s.jobs, j.loc ∈ inst.buffers.map (·.id) → j.loc ∉ outputIds inst → ∃ o, j.nextIdle? = some o)
    (machDue : ∀ m ∈ s.machines, m.st = .setup ∨ m.st = .outage → ∃ c, m.occ = some c ∧ c ≤ s.time)
    (setupRec : ∀ m ∈ s.machines, m.st = .setup → ∀ j ∈ s.jobs, ∀ o ∈ j.ops, o.st = .processing →
      o.machine = m.id → o.start = o.stop) : CInvE inst s :=
  ⟨fun t ht => (key t ht).noDep, fun t ht => (key t ht).noWorking, fun t ht => (key t ht).claimed,
   fun t ht => (key t ht).isAt, fun t ht => (key t ht).due, fun t ht => (key t ht).waitDue,
   fun t ht => (key t ht).parked, fresh, machDue, setupRec⟩

/-- an AGV record that is good in `s` is good in `s'` when the clock is the same, every job keeps its id, and
the job it claims (if `Pickable`) stays `Pickable` and every end of a running record of it either has been
reached or is still the end of a running record -/
theorem TGoodE.frame {s s' : State} {t : TransportState} (h : TGoodE inst s t)
    (hnd : (s.jobs.map (·.id)).Nodup) (htime : s'.time = s.time)
    (hfwd : ∀ j ∈ s.jobs, ∃ j' ∈ s'.jobs, j'.id = j.id)
    (hback : ∀ j' ∈ s'.jobs, t.job = some j'.id → ∃ j ∈ s.jobs, j.id = j'.id ∧
      (Pickable inst j → Pickable inst j' ∧ ∀ c, ProcEndE j c → c ≤ s.time ∨ ProcEndE j' c)) :
    TGoodE inst s' t := by
  refine ⟨h.noDep, h.noWorking, ?_, h.isAt, ?_, ?_, h.parked⟩
  · intro hst
    obtain ⟨j, hj, e, hl⟩ := h.claimed hst
    obtain ⟨j', hj', e'⟩ := hfwd j hj
    obtain ⟨j1, hj1, e1, hp⟩ := hback j' hj' (by rw [e, e'])
    have : j1 = j := eq_of_mem_of_key_eq (key := fun (y : JobState) => y.id) hnd hj1 hj (by rw [e1, e'])
    subst this
    exact ⟨j', hj', by rw [e, e'], (hp hl).1⟩
  · intro hst c hc
    rw [htime]; exact h.due hst c hc
  · intro hst j' hj' e' c hc
    obtain ⟨j1, hj1, e1, hp⟩ := hback j' hj' e'
    obtain ⟨j, hj, e, hl⟩ := h.claimed (Or.inr hst)
    have : j1 = j := eq_of_mem_of_key_eq (key := fun (y : JobState) => y.id) hnd hj1 hj
      (by rw [e'] at e; simp only [Option.some.injEq] at e; rw [e1, e])
    subst this
    rw [htime]
    rcases h.waitDue hst j1 hj1 (by rw [e', e1]) c hc with h1 | h1
    · exact Or.inl h1
    · exact (hp hl).2 c h1

theorem cinvE_replaceTransport {s : State} (hc : CInvE inst s) {t' : TransportState} (hg : TGoodE inst s t') :
    CInvE inst (s.replaceTransport t') := by
  have key : ∀ t ∈ (s.replaceTransport t').transports, TGoodE inst s t := by
    intro t ht
    rcases cs_mem_replaceTransport ht with rfl | ⟨ht', _⟩
    · exact hg
    · exact hc.tgoodE ht'
  exact ⟨fun t ht => (key t ht).noDep, fun t ht => (key t ht).noWorking, fun t ht => (key t ht).claimed,
    fun t ht => (key t ht).isAt, fun t ht => (key t ht).due, fun t ht => (key t ht).waitDue,
    fun t ht => (key t ht).parked, hc.fresh, hc.machDue, hc.setupRec⟩

theorem cinvE_machine_step (w : WF inst) {s s' : State} (hs : Shape inst s) (hS : SchedInv s) (hc : CInvE inst s)
    {j J : JobState} {m M : MachineState} (hj : j ∈ s.jobs) (hm : m ∈ s.machines) (hJid : J.id = j.id)
    (hMid : M.id = m.id) (htime : s'.time = s.time) (htr : s'.transports = s.transports)
    (hjobs : s'.jobs = (s.replaceJob J).jobs) (hmach : s'.machines = (s.replaceMachine M).machines)
    (hpick : Pickable inst j → Pickable inst J ∧ ∀ c, ProcEndE j c → c ≤ s.time ∨ ProcEndE J c)
    (hJloc : J.loc ∉ inst.buffers.map (·.id))
    (hdue : M.st = .setup ∨ M.st = .outage → ∃ c, M.occ = some c ∧ c ≤ s.time)
    (hops : ∀ o ∈ J.ops, o ∈ j.ops ∨ o.machine = m.id ∨ o.st ≠ .processing)
    (hnew : M.st = .setup → m.st = .idle ∧ ∀ o ∈ J.ops, o ∈ j.ops ∨ o.start = o.stop) :
    CInvE inst s' := by
  have hjn := hs.jobsNodup w
  have hmn := hs.machNodup w
  have key : ∀ t ∈ s'.transports, TGoodE inst s' t := by
    intro t ht
    rw [htr] at ht
    refine (hc.tgoodE ht).frame hjn htime ?_ ?_
    · intro j0 hj0
      by_cases e : j0.id = j.id
      · exact ⟨J, by rw [hjobs]; exact (mem_replaceJob hjn hj hJid J).mpr (Or.inl rfl), by rw [hJid, e]⟩
      · exact ⟨j0, by rw [hjobs]; exact cs_keep_replaceJob hj0 (by rw [hJid]; exact e), rfl⟩
    · intro j' hj' _
      rw [hjobs] at hj'
      rcases cs_mem_replaceJob hj' with rfl | ⟨hj0, _⟩
      · exact ⟨j, hj, hJid.symm, hpick⟩
      · exact ⟨j', hj0, rfl, fun hp => ⟨hp, fun c hc => Or.inr hc⟩⟩
  have idle_no_proc : m.st = .idle → ∀ j0 ∈ s.jobs, ∀ o ∈ j0.ops, o.st = .processing → o.machine = m.id → False := by
    intro hidle j0 hj0 o ho hp hmm
    obtain ⟨m2, hm2, hid2, hbusy, _⟩ := hS.procOnBusy j0 hj0 o ho hp
    have : m2 = m := eq_of_mem_of_key_eq (key := fun (y : MachineState) => y.id) hmn hm2 hm (by rw [hid2, hmm])
    subst this
    exact hbusy hidle
  refine cinvE_of_parts key ?_ ?_ ?_
  · intro j' hj' h1 h2
    rw [hjobs] at hj'
    rcases cs_mem_replaceJob hj' with rfl | ⟨hj0, _⟩
    · exact absurd h1 hJloc
    · exact hc.fresh j' hj0 h1 h2
  · intro m' hm' hst
    rw [hmach] at hm'
    rw [htime]
    rcases cs_mem_replaceMachine hm' with rfl | ⟨hm0, _⟩
    · exact hdue hst
    · exact hc.machDue m' hm0 hst
  · intro m' hm' hst j' hj' o ho hp hmm
    rw [hmach] at hm'
    rw [hjobs] at hj'
    rcases cs_mem_replaceMachine hm' with rfl | ⟨hm0, hne⟩
    · obtain ⟨hidle, hJ⟩ := hnew hst
      rw [hMid] at hmm
      rcases cs_mem_replaceJob hj' with rfl | ⟨hj0, _⟩
      · rcases hJ o ho with ho' | e
        · exact (idle_no_proc hidle j hj o ho' hp hmm).elim
        · exact e
      · exact (idle_no_proc hidle j' hj0 o ho hp hmm).elim
    · rcases cs_mem_replaceJob hj' with rfl | ⟨hj0, _⟩
      · rcases hops o ho with ho' | e | e
        · exact hc.setupRec m' hm0 hst j hj o ho' hp hmm
        · exact absurd (by rw [← hmm, e, hMid]) hne
        · exact absurd hp e
      · exact hc.setupRec m' hm0 hst j' hj0 o ho hp hmm

theorem cinvE_agv_move {s s' : State} (hnd : (s.jobs.map (·.id)).Nodup) (hA : AgvInv s) (hc : CInvE inst s)
    {j : JobState} {t t' : TransportState} {l : Nat} (hj : j ∈ s.jobs) (ht : t ∈ s.transports)
    (hclaim : t.job = some j.id) (hid : t'.id = t.id) (htime : s'.time = s.time)
    (hjobs : s'.jobs = (s.replaceJob (j.at l)).jobs) (htrs : s'.transports = (s.replaceTransport t').transports)
    (hmach : ∀ m' ∈ s'.machines, ∃ m ∈ s.machines, m.id = m'.id ∧ m.st = m'.st ∧ m.occ = m'.occ)
    (hl : l ∈ inst.buffers.map (·.id) → l ∈ outputIds inst) (hgood : TGoodE inst s' t') : CInvE inst s' := by
  have key : ∀ t2 ∈ s'.transports, TGoodE inst s' t2 := by
    intro t2 ht2
    rw [htrs] at ht2
    rcases cs_mem_replaceTransport ht2 with rfl | ⟨ht2', hne⟩
    · exact hgood
    · refine (hc.tgoodE ht2').frame hnd htime ?_ ?_
      · intro j0 hj0
        by_cases e : j0.id = j.id
        · exact ⟨j.at l, by rw [hjobs]; exact (mem_replaceJob (j' := j.at l) hnd hj rfl (j.at l)).mpr (Or.inl rfl), by
            simp only [JobState.at_id]; exact e.symm⟩
        · exact ⟨j0, by rw [hjobs]; exact cs_keep_replaceJob hj0 (by simp only [JobState.at_id]; exact e), rfl⟩
      · intro j' hj' e'
        rw [hjobs] at hj'
        rcases cs_mem_replaceJob hj' with rfl | ⟨hj0, _⟩
        · simp only [JobState.at_id] at e'
          exact absurd (by rw [hid]; exact hA.unique t2 ht2' t ht j.id e' hclaim) hne
        · exact ⟨j', hj0, rfl, fun hp => ⟨hp, fun c hc => Or.inr hc⟩⟩
  have hrec : ∀ j' ∈ s'.jobs, ∃ j0 ∈ s.jobs, j'.ops = j0.ops := by
    intro j' hj'
    rw [hjobs] at hj'
    rcases cs_mem_replaceJob hj' with rfl | ⟨hj0, _⟩
    · exact ⟨j, hj, rfl⟩
    · exact ⟨j', hj0, rfl⟩
  refine cinvE_of_parts key ?_ ?_ ?_
  · intro j' hj' h1 h2
    rw [hjobs] at hj'
    rcases cs_mem_replaceJob hj' with rfl | ⟨hj0, _⟩
    · exact absurd (hl h1) h2
    · exact hc.fresh j' hj0 h1 h2
  · intro m' hm' hst
    obtain ⟨m, hm, _, e1, e2⟩ := hmach m' hm'
    rw [← e1] at hst
    rw [← e2, htime]
    exact hc.machDue m hm hst
  · intro m' hm' hst j' hj' o ho hp hmm
    obtain ⟨m, hm, e0, e1, _⟩ := hmach m' hm'
    obtain ⟨j0, hj0, e⟩ := hrec j' hj'
    exact hc.setupRec m hm (by rw [e1]; exact hst) j0 hj0 o (by rw [← e]; exact ho) hp (by rw [hmm, e0])

theorem cse_procEnd_busy (w : WF inst) {s : State} (hs : Shape inst s) (hS : SchedInv s) {m : MachineState}
    (hm : m ∈ s.machines) (hb : m.st ≠ .idle) {j : JobState} (hj : j ∈ s.jobs) (hin : j.id ∈ m.buffer.store)
    {c : Int} (hc : ProcEndE j c) : m.occ = some c := by
  obtain ⟨j1, hj1, hst, op, hp, _, hstop, _⟩ := hS.busyHolds m hm hb
  have : j1 = j := eq_of_mem_of_key_eq (key := fun (y : JobState) => y.id) (hs.jobsNodup w) hj1 hj
    (by rw [hst] at hin; simp only [List.mem_singleton] at hin; exact hin.symm)
  subst this
  obtain ⟨o, ho, hop, hoc⟩ := hc
  obtain ⟨_, _, _, _, hpst⟩ := processing?_split' hp
  have : o = op := OpsOK_one_processing _ _ (hS.ops j1 hj) o ho op (find?_mem_ops hp).1 hop hpst
  subst this
  rw [← hstop, hoc]

theorem cinvE_start_machine (w : WF inst) (hC : Classic inst) {s s' : State} {r r' : Rng} {a : Transition}
    (hI : StructInv inst s) (hS : SchedInv s) (hB : BundleE inst s) {m : MachineState} (hm : m ∈ s.machines)
    (hst : m.st = .idle) (h : handleMachineIdleToSetup orc inst s r a m = .ok (s', r')) : CInvE inst s' := by
  have hs := hI.shape
  obtain ⟨j, op, oc, mc, sd, bss1, bss2, hj, _, hin, _, _, _, _, hmc, _, _, ⟨c, hlk, hsd⟩, rfl⟩ := idleToSetup_spec h
  have hc0 : c = .det 0 := hC.setup0 mc hmc _ (lookup_mem hlk)
  have hsd0 : sd = 0 := by
    rw [hc0] at hsd
    simp only [TimeCfg.readUpd, Prod.mk.injEq] at hsd
    exact hsd.1
  subst hsd0
  have hloc : j.loc = m.pre.id := cs_loc_of_store w hI hj (mem_allBufs_of_machine hm).1 hin
  refine cinvE_machine_step w hs hS hB.cinv (j := j) (m := m)
    (J := (j.replaceOp (opRec oc s.time (s.time + 0) m.id)).at m.buffer.id)
    (M := m.toSetup j.id bss1 bss2 (s.time + 0) oc.tool) hj hm rfl rfl rfl rfl rfl rfl ?_ ?_ ?_ ?_ ?_
  · intro hp; exact absurd hp (cse_pre_not_pickable w hs hm hloc)
  · exact (cs_machine_not_standalone w hs hm).2.1
  · intro _
    exact ⟨s.time + 0, rfl, Int.le_of_eq (Int.add_zero _)⟩
  · intro o ho
    rcases cs_mem_replaceOp ho with ho' | rfl
    · exact Or.inl ho'
    · exact Or.inr (Or.inl rfl)
  · intro _
    refine ⟨hst, ?_⟩
    intro o ho
    rcases cs_mem_replaceOp ho with ho' | rfl
    · exact Or.inl ho'
    · right; simp [opRec]

theorem cinvE_mWork (w : WF inst) {s s' : State} {r r' : Rng} {a : Transition}
    (hI : StructInv inst s) (hS : SchedInv s) (hB : BundleE inst s) {m : MachineState} (hm : m ∈ s.machines)
    (hst : m.st = .setup) (h : handleMachineSetupToWorking orc inst s r a m = .ok (s', r')) : CInvE inst s' := by
  have hs := hI.shape
  obtain ⟨j, op, oc, d, hj, _, hin, _, _, _, _, _, rfl⟩ := setupToWorking_spec h
  have hloc : j.loc = m.buffer.id := cs_loc_of_store w hI hj (mem_allBufs_of_machine hm).2.1 hin
  refine cinvE_machine_step w hs hS hB.cinv (j := j) (m := m)
    (J := j.replaceOp (opRec oc s.time (s.time + d) m.id)) (M := m.toWorking (s.time + d))
    hj hm rfl rfl rfl rfl rfl rfl ?_ ?_ ?_ ?_ ?_
  · intro hp
    refine ⟨hp, fun c hc => Or.inl ?_⟩
    obtain ⟨c0, e0, hle⟩ := hB.cinv.machDue m hm (Or.inl hst)
    have := cse_procEnd_busy w hs hS hm (by rw [hst]; simp) hj hin hc
    rw [e0] at this
    simp only [Option.some.injEq] at this
    exact this ▸ hle
  · show j.loc ∉ _
    rw [hloc]; exact (cs_machine_not_standalone w hs hm).2.1
  · intro h; rcases h with h | h <;> cases h
  · intro o ho
    rcases cs_mem_replaceOp ho with ho' | rfl
    · exact Or.inl ho'
    · exact Or.inr (Or.inl rfl)
  · intro h; cases h

theorem cinvE_mOut (w : WF inst) (hC : Classic inst) {s s' : State} {r r' : Rng} {a : Transition}
    (hI : StructInv inst s) (hS : SchedInv s) (hB : BundleE inst s) {m : MachineState} (hm : m ∈ s.machines)
    (hst : m.st = .working) {x : Nat} (hx : m.buffer.store = [x]) (hjob : a.job = some x)
    (hdue : dueAt m.occ s.time = true)
    (h : handleMachineWorkingToOutage orc inst s r a m = .ok (s', r')) : CInvE inst s' := by
  have hs := hI.shape
  obtain ⟨_, j, op, hj, htj, hp, rfl⟩ := workingToOutage_classic hC h
  have hjx : j.id = x := by rw [hjob] at htj; simpa using htj.symm
  obtain ⟨j0, hj0, hid0, _, op0, hp0, _, hmach0, _, _⟩ := busy_running w hI hS hm (by rw [hst]; simp) hx
  have : j0 = j := eq_of_mem_of_key_eq (key := fun (y : JobState) => y.id) (hs.jobsNodup w) hj0 hj (by rw [hid0, hjx])
  subst this
  have : op0 = op := by rw [hp0] at hp; simpa using hp
  subst this
  have hin : j0.id ∈ m.buffer.store := by rw [hx, hjx]; simp
  have hloc : j0.loc = m.buffer.id := cs_loc_of_store w hI hj (mem_allBufs_of_machine hm).2.1 hin
  refine cinvE_machine_step w hs hS hB.cinv (j := j0) (m := m)
    (J := j0.replaceOp { op0 with stop := some s.time }) (M := m.toOutage [] s.time) hj hm rfl rfl rfl rfl rfl rfl
    ?_ ?_ ?_ ?_ ?_
  · intro hpk
    refine ⟨hpk, fun c hc => Or.inl ?_⟩
    have := cse_procEnd_busy w hs hS hm (by rw [hst]; simp) hj hin hc
    rw [this] at hdue
    simpa [dueAt] using hdue
  · show j0.loc ∉ _
    rw [hloc]; exact (cs_machine_not_standalone w hs hm).2.1
  · intro _
    exact ⟨s.time, rfl, Int.le_refl _⟩
  · intro o ho
    rcases cs_mem_replaceOp ho with ho' | rfl
    · exact Or.inl ho'
    · exact Or.inr (Or.inl hmach0)
  · intro h; cases h

theorem cinvE_mIdle (w : WF inst) {s s' : State} {r r' : Rng}
    (hI : StructInv inst s) (hS : SchedInv s) (hB : BundleE inst s) {m : MachineState} (hm : m ∈ s.machines)
    (hst : m.st = .outage) (h : handleMachineOutageToIdle inst s r m = .ok (s', r')) : CInvE inst s' := by
  have hs := hI.shape
  obtain ⟨j, op, mc, rest, bss1, bss2, hstore, hj, _, _, _, _, _, rfl⟩ := outageToIdle_spec h
  have hin : j.id ∈ m.buffer.store := by rw [hstore]; simp
  have hloc : j.loc = m.buffer.id := cs_loc_of_store w hI hj (mem_allBufs_of_machine hm).2.1 hin
  refine cinvE_machine_step w hs hS hB.cinv (j := j) (m := m)
    (J := (j.replaceOp { op with stop := some s.time, st := .done }).at m.post.id) (M := m.toIdle j.id bss1 bss2)
    hj hm rfl rfl rfl rfl rfl rfl ?_ ?_ ?_ ?_ ?_
  · intro _
    refine ⟨Or.inl (cs_post_pickup hs hm), fun c hc => Or.inl ?_⟩
    obtain ⟨c0, e0, hle⟩ := hB.cinv.machDue m hm (Or.inr hst)
    have := cse_procEnd_busy w hs hS hm (by rw [hst]; simp) hj hin hc
    rw [e0] at this
    simp only [Option.some.injEq] at this
    exact this ▸ hle
  · exact (cs_machine_not_standalone w hs hm).2.2
  · intro h; rcases h with h | h <;> cases h
  · intro o ho
    rcases cs_mem_replaceOp ho with ho' | rfl
    · exact Or.inl ho'
    · exact Or.inr (Or.inr (by simp))
  · intro h; cases h

theorem cs_travel_zero (hC : Classic inst) {src dst : Loc} (hs : src ∈ locsOf inst) (hd : dst ∈ locsOf inst)
    {r r' : Rng} {tt : Int} (h : travelTimeFromSpec orc inst r src dst = .ok (tt, r')) : tt = 0 := by
  have h0 := hC.travel0 src hs dst hd
  unfold travelTimeFromSpec at h
  cases src <;> cases dst <;> simp_all [TimeCfg.updRead]

theorem cs_drop_place (w : WF inst) {s : State} (hs : Shape inst s) {j : JobState} (hj : j ∈ s.jobs)
    {pick : JobState → Option OpState} (hpick : ∀ o, pick j = some o → o ∈ j.ops) {dst : Loc}
    (h : dropOK inst j pick dst) : dst ∈ locsOf inst := by
  rcases h with ⟨_, o, ho, rfl⟩ | ⟨_, op, hop, rfl⟩
  · exact (firstOutput_place ho).1
  · exact op_machine_mem_locs w hs hj (hpick op hop)


theorem cse_source_locs (w : WF inst) (hC : Classic inst) {bc : BufCfg} (hbc : bc ∈ allBufCfgs inst)
    (hid : bc.id ∈ pickupPlaces inst ∨ bc.id ∈ internalIds inst) :
    (bc.parent = none → Loc.b bc.id ∈ locsOf inst) ∧ (∀ mid, bc.parent = some (.m mid) → Loc.m mid ∈ locsOf inst) := by
  rcases hid with hid | hid
  · obtain ⟨src, hsrc, hl⟩ := pickupSource_locs w hC hbc hid
    constructor
    · intro hp
      simp only [pickupSource, hp, except_pure, Except.ok.injEq] at hsrc
      rw [hsrc]; exact hl
    · intro mid hp
      simp only [pickupSource, hp, except_pure, Except.ok.injEq] at hsrc
      rw [hsrc]; exact hl
  · unfold internalIds at hid
    obtain ⟨mc, hmc, e⟩ := List.mem_map.mp hid
    have : mc.buf = bc := eq_of_mem_of_key_eq (key := fun (y : BufCfg) => y.id) w.bufNodup
      (mem_allBufCfgs_of_machine hmc).2.1 hbc e
    subst this
    have hp := hC.parentBuf mc hmc
    constructor
    · intro h; rw [hp] at h; cases h
    · intro mid h
      rw [hp] at h
      simp only [Option.some.injEq, Comp.m.injEq] at h
      subst h
      unfold locsOf
      exact List.mem_append.mpr (Or.inl (List.mem_map.mpr ⟨mc, hmc, rfl⟩))

theorem cse_waitingTime (w : WF inst) (hC : Classic inst) {s : State} (hI : StructInv inst s) (hS : SchedInv s)
    {j : JobState} (hj : j ∈ s.jobs) {c : Comp} {ns : NewSt} {occ : Occ}
    (h : getWaitingTime inst s ⟨c, ns, some j.id⟩ = .ok occ) : ∃ e, occ = .at e ∧ (e = s.time ∨ ProcEndE j e) := by
  have hs := hI.shape
  obtain ⟨j', hgj, hcase⟩ := getWaitingTime_spec h
  have e : j = j' := Except.ok.inj ((getJob_of_mem (hs.jobsNodup w) hj).symm.trans hgj)
  subst e
  rcases hcase with rfl | ⟨bc, mid, ms, _, _, hms, hcase⟩
  · exact ⟨s.time, rfl, Or.inl rfl⟩
  · have hms' := getMachine_ok hms
    rcases hcase with ⟨hin, _⟩ | ⟨_, op, hpr, rfl⟩
    · -- in the post-buffer: a pickup place
      have hloc := cs_loc_of_store w hI hj (mem_allBufs_of_machine hms'.1).2.2 hin
      rw [getWaitingTime_classic w hC hI hj (by rw [hloc]; exact cs_post_pickup hs hms'.1) c ns] at h
      exact ⟨s.time, (Except.ok.inj h).symm, Or.inl rfl⟩
    · obtain ⟨_, _, _, _, hpst⟩ := processing?_split' hpr
      have hmem := (find?_mem_ops hpr).1
      obtain ⟨a, b, _, hb, _⟩ := (OpsOK_mem _ _ (hS.ops j hj) op hmem).2.1 hpst
      rw [hb]
      exact ⟨b, rfl, Or.inr ⟨op, hmem, hpst, hb⟩⟩

theorem cinvE_dispatch (w : WF inst) (hC : Classic inst) {s s' : State} {r r' : Rng}
    (hI : StructInv inst s) (hB : BundleE inst s) {t : TransportState} (ht : t ∈ s.transports) (hst : t.st = .idle)
    {j : JobState} (hj : j ∈ s.jobs) (hpk : Pickable inst j)
    (h : handleAgvIdleToWorking orc inst s r ⟨.t t.id, .t .working, some j.id⟩ t = .ok (s', r')) : CInvE inst s' := by
  have hs := hI.shape
  obtain ⟨l, hl, hlo⟩ := hB.cinv.parked t ht (Or.inl hst)
  obtain ⟨j', cur, target, src, bc, c, hj', htj, hcur, _, hbc, hbid, hsrc, htc, _, rfl⟩ := idleToWorking_spec h
  have : j' = j := eq_of_mem_of_key_eq (key := fun (y : JobState) => y.id) (hs.jobsNodup w) hj' hj
    (by simpa using htj.symm)
  subst this
  have : cur = l := by rw [hl] at hcur; simpa using hcur.symm
  subst this
  have hsl : src ∈ locsOf inst := by
    have hloc := cse_source_locs w hC hbc (by rw [hbid]; exact hpk)
    rcases hsrc with ⟨hp, rfl⟩ | ⟨mid, hp, rfl⟩
    · rw [← hbid]; exact hloc.1 hp
    · exact hloc.2 mid hp
  have hc0 : c = .det 0 := by
    have := hC.travel0 cur hlo src hsl
    rw [this] at htc
    simpa using htc.symm
  subst hc0
  refine cinvE_replaceTransport hB.cinv ⟨?_, ?_, ?_, ?_, ?_, ?_, ?_⟩
  · intro b x tr; simp [TransportState.toPickup]
  · simp [TransportState.toPickup]
  · intro _; exact ⟨j', hj, rfl, hpk⟩
  · intro _; exact ⟨_, rfl⟩
  · intro _ c hc
    simp only [TransportState.toPickup, TimeCfg.cur, Occ.at.injEq] at hc
    exact hc ▸ Int.le_of_eq (Int.add_zero _)
  · intro h; cases h
  · intro h; rcases h with h | h <;> cases h

theorem cse_waiting_good (w : WF inst) (hC : Classic inst) {s : State} (hI : StructInv inst s) (hS : SchedInv s)
    (hB : BundleE inst s) {t : TransportState} (ht : t ∈ s.transports) (hst : t.st = .pickup ∨ t.st = .waitingpickup)
    {j : JobState} (hj : j ∈ s.jobs) (hjob : t.job = some j.id) {c : Comp} {ns : NewSt} {occ : Occ}
    (h : getWaitingTime inst s ⟨c, ns, some j.id⟩ = .ok occ) : TGoodE inst s (t.toWaiting occ) := by
  obtain ⟨e, rfl, he⟩ := cse_waitingTime w hC hI hS hj h
  refine ⟨?_, ?_, ?_, ?_, ?_, ?_, ?_⟩
  · intro b x tr; simp [TransportState.toWaiting]
  · simp [TransportState.toWaiting]
  · intro _; exact hB.cinv.claimed t ht hst
  · intro _; exact ⟨e, rfl⟩
  · intro h; rcases h with h | h | h <;> cases h
  · intro _ j2 hj2 e2 c2 hc2
    have : j2 = j := eq_of_mem_of_key_eq (key := fun (y : JobState) => y.id) (hI.shape.jobsNodup w) hj2 hj
      (by
        have e3 : t.job = some j2.id := e2
        rw [hjob] at e3
        simpa using e3.symm)
    subst this
    have : e = c2 := by simpa [TransportState.toWaiting] using hc2
    subst this
    rcases he with he | he
    · exact Or.inl (Int.le_of_eq he)
    · exact Or.inr he
  · intro h; rcases h with h | h <;> cases h

theorem cinvE_release (w : WF inst) (hC : Classic inst) {s s' : State} {r r' : Rng}
    (hI : StructInv inst s) (hB : BundleE inst s) {t : TransportState} (ht : t ∈ s.transports) (hst : t.st = .outage)
    (h : applyTransition orc inst s r ⟨.t t.id, .t .idle, none⟩ = .ok (s', r')) : CInvE inst s' := by
  have happ := agvToIdle_result (orc := orc) w hC hI ht hst r
  rw [happ] at h
  simp only [Except.ok.injEq, Prod.mk.injEq] at h
  obtain ⟨rfl, _⟩ := h
  refine cinvE_replaceTransport hB.cinv ⟨?_, ?_, ?_, ?_, ?_, ?_, ?_⟩
  · exact hB.cinv.noDep t ht
  · simp
  · intro h; rcases h with h | h <;> cases h
  · intro h; exact absurd rfl h
  · intro h; rcases h with h | h | h <;> cases h
  · intro h; cases h
  · intro _; exact hB.cinv.parked t ht (Or.inr hst)

theorem cinvE_pick (w : WF inst) (hC : Classic inst) {s s' : State} {r r' : Rng} {a : Transition}
    (hI : StructInv inst s) (hB : BundleE inst s) {t : TransportState} (ht : t ∈ s.transports)
    {j : JobState} (hj : j ∈ s.jobs) (hjob : t.job = some j.id) (haj : a.job = some j.id)
    (h : handleAgvPickupToTransit orc inst s r a t = .ok (s', r')) : CInvE inst s' := by
  have hs := hI.shape
  have hjn := hs.jobsNodup w
  obtain ⟨j', src, dst, tt, bss1, bss2, hj', htj, hdrop, htt, _, hcase⟩ := pickupToTransit_spec h
  have : j' = j := eq_of_mem_of_key_eq (key := fun (y : JobState) => y.id) hjn hj' hj
    (by rw [haj] at htj; simpa using htj.symm)
  subst this
  have hdl : dst ∈ locsOf inst :=
    cs_drop_place w hs hj (fun o ho => (find?_mem_ops ho).1) hdrop
  have hnst := cs_transport_not_standalone w hs ht
  -- the new record of the AGV is good once the travel time is known to be 0
  have good : ∀ s1 : State, s1.time = s.time → tt = 0 → TGoodE inst s1 (t.toTransit (s.time + tt) j'.id bss2) := by
    intro s1 h1 h0
    refine ⟨?_, ?_, ?_, ?_, ?_, ?_, ?_⟩
    · intro b x tr; simp [TransportState.toTransit]
    · simp [TransportState.toTransit]
    · intro h; rcases h with h | h <;> cases h
    · intro _; exact ⟨s.time + tt, rfl⟩
    · intro _ c hc
      simp only [TransportState.toTransit, Occ.at.injEq] at hc
      rw [h1, ← hc, h0]
      exact Int.le_of_eq (Int.add_zero _)
    · intro h; cases h
    · intro h; rcases h with h | h <;> cases h
  rcases hcase with ⟨fb, rfl, _, hfb, hfid, _, rfl⟩ | ⟨mid, ms, bs, ms', rfl, _, hms, rfl, _, _, hrep, rfl⟩
  · have hsl : Loc.b j'.loc ∈ locsOf inst := by rw [← hfid]; exact cs_loc_b_mem hs hfb
    have h0 := cs_travel_zero hC hsl hdl htt
    refine cinvE_agv_move hjn hB.full.agv hB.cinv (j := j') (t := t) (l := t.buffer.id)
      (t' := t.toTransit (s.time + tt) j'.id bss2) hj ht hjob rfl rfl rfl rfl ?_ ?_ (good _ rfl h0)
    · intro m' hm'; exact ⟨m', hm', rfl, rfl, rfl⟩
    · intro h; exact absurd h hnst
  · have hsl : Loc.m ms.id ∈ locsOf inst := cs_loc_m_mem hs hms
    have h0 := cs_travel_zero hC hsl hdl htt
    obtain ⟨_, e1, e2, e3, _⟩ := replaceBufInMachine_same hrep
    refine cinvE_agv_move hjn hB.full.agv hB.cinv (j := j') (t := t) (l := t.buffer.id)
      (t' := t.toTransit (s.time + tt) j'.id bss2) hj ht hjob rfl rfl rfl rfl ?_ ?_ (good _ rfl h0)
    · intro m' hm'
      rcases cs_mem_replaceMachine hm' with rfl | ⟨hm0, _⟩
      · exact ⟨ms, hms, e1.symm, e2.symm, e3.symm⟩
      · exact ⟨m', hm0, rfl, rfl, rfl⟩
    · intro h; exact absurd h hnst

theorem cinvE_deliver (w : WF inst) (hC : Classic inst) {s s' : State} {r r' : Rng} {a : Transition}
    (hI : StructInv inst s) (hB : BundleE inst s) {t : TransportState} (ht : t ∈ s.transports) (hst : t.st = .transit)
    {j : JobState} (hj : j ∈ s.jobs) (hstore : t.buffer.store = [j.id]) (haj : a.job = some j.id)
    (h : handleAgvTransitToOutage orc inst s r a t = .ok (s', r')) : CInvE inst s' := by
  have hs := hI.shape
  have hjn := hs.jobsNodup w
  obtain ⟨j', cur, pick, drop, tc, outs, bss1, bss2, hj', htj, hloc, _, htc, _, hno, hcase⟩ := transitToOutage_spec h
  have : j' = j := eq_of_mem_of_key_eq (key := fun (y : JobState) => y.id) hjn hj' hj
    (by rw [haj] at htj; simpa using htj.symm)
  subst this
  rw [hC.noOutT tc htc, newOutageStates_nil] at hno
  simp only [Except.ok.injEq, Prod.mk.injEq] at hno
  obtain ⟨rfl, _⟩ := hno
  have hclaim : t.job = some j'.id := hB.full.route.transitOwn t ht hst j'.id (by rw [hstore]; simp)
  obtain ⟨cur', pick', drop', hloc', hdrop⟩ := hB.full.route.route t ht j'.id hclaim j' hj rfl
  rw [hloc] at hloc'
  simp only [TLoc.route.injEq] at hloc'
  obtain ⟨_, _, rfl⟩ := hloc'
  have good : ∀ s1 : State, s1.time = s.time → drop ∈ locsOf inst →
      TGoodE inst s1 (t.toOutage j'.id bss1 [] (s.time + occupiedFor []) drop) := by
    intro s1 h1 hd
    refine ⟨?_, ?_, ?_, ?_, ?_, ?_, ?_⟩
    · intro b x tr; simp [TransportState.toOutage]
    · simp [TransportState.toOutage]
    · intro h; rcases h with h | h <;> cases h
    · intro _; exact ⟨s.time + occupiedFor [], rfl⟩
    · intro _ c hc
      simp only [TransportState.toOutage, Occ.at.injEq, occupiedFor_nil] at hc
      rw [h1, ← hc]
      exact Int.le_of_eq (Int.add_zero _)
    · intro h; cases h
    · intro _; exact ⟨drop, rfl, hd⟩
  rcases hcase with ⟨mid, ms, rfl, hms, rfl, _, rfl⟩ | ⟨bid, b, rfl, hb, rfl, _, rfl⟩
  · refine cinvE_agv_move hjn hB.full.agv hB.cinv (j := j') (t := t) (l := ms.pre.id)
      (t' := t.toOutage j'.id bss1 [] (s.time + occupiedFor []) (.m ms.id)) hj ht hclaim rfl rfl rfl rfl ?_ ?_
      (good _ rfl (cs_loc_m_mem hs hms))
    · intro m' hm'
      rcases cs_mem_replaceMachine hm' with rfl | ⟨hm0, _⟩
      · exact ⟨ms, hms, rfl, rfl, rfl⟩
      · exact ⟨m', hm0, rfl, rfl, rfl⟩
    · intro h; exact absurd h (cs_machine_not_standalone w hs hms).1
  · refine cinvE_agv_move hjn hB.full.agv hB.cinv (j := j') (t := t) (l := b.id)
      (t' := t.toOutage j'.id bss1 [] (s.time + occupiedFor []) (.b b.id)) hj ht hclaim rfl rfl rfl rfl ?_ ?_
      (good _ rfl (cs_loc_b_mem hs hb))
    · intro m' hm'; exact ⟨m', hm', rfl, rfl, rfl⟩
    · intro _
      rcases hdrop with ⟨_, o, ho, e⟩ | ⟨_, op, _, e⟩
      · simp only [Loc.b.injEq] at e
        rw [e]; exact (firstOutput_place ho).2.1
      · cases e


/-- **one applied transition keeps the classic invariant with early dispatch**; `hdue`: a machine that goes
WORKING → OUTAGE is due (timed transitions are only created for due machines: `DueGS`) -/
theorem cinvE_step (w : WF inst) (hC : Classic inst) {s s' : State} {r r' : Rng} {a : Transition}
    (hI : StructInv inst s) (hS : SchedInv s) (hB : BundleE inst s) (hE : EnE inst s a)
    (hdue : ∀ m ∈ s.machines, a.comp = .m m.id → a.new = .m .outage → dueAt m.occ s.time = true)
    (h : applyTransition orc inst s r a = .ok (s', r')) : CInvE inst s' := by
  have hs := hI.shape
  cases hE with
  | start tr hn =>
    obtain ⟨m, hm, hst, hh⟩ := apply_start hn h
    exact cinvE_start_machine w hC hI hS hB hm hst hh
  | mWork m x hm hst hx => exact cinvE_mWork w hI hS hB hm hst (apply_mach w hs hm hst h)
  | mOut m x hm hst hx =>
    exact cinvE_mOut w hC hI hS hB hm hst hx rfl (hdue m hm rfl rfl) (apply_mach w hs hm hst h)
  | mIdle m x hm hst hx => exact cinvE_mIdle w hI hS hB hm hst (apply_mach w hs hm hst h)
  | dispatch t j ht hst hj hpk _ => exact cinvE_dispatch w hC hI hB ht hst hj hpk (apply_agv w hs ht hst h)
  | wait t j ht hst hj hjob =>
    obtain ⟨occ, ho, _, _, rfl⟩ := pickupToWaiting_spec (apply_agv w hs ht hst h)
    exact cinvE_replaceTransport hB.cinv (cse_waiting_good w hC hI hS hB ht (Or.inl hst) hj hjob ho)
  | rewait t j ht hst hj hjob =>
    obtain ⟨occ, ho, _, rfl⟩ := waitingToWaiting_spec (apply_agv w hs ht hst h)
    exact cinvE_replaceTransport hB.cinv (cse_waiting_good w hC hI hS hB ht (Or.inr hst) hj hjob ho)
  | pick t j ht hst hj hjob _ => exact cinvE_pick w hC hI hB ht hj hjob rfl (apply_agv w hs ht hst h)
  | deliver t j ht hst hj hstore =>
    exact cinvE_deliver w hC hI hB ht hst hj hstore rfl (apply_agv w hs ht hst h)
  | release t ht hst => exact cinvE_release w hC hI hB ht hst h

end JSL
