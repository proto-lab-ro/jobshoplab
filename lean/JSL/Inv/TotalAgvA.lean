import JSL.Inv.TotalOut

/-!
# C05 for a class of instances: the AGV handlers that read where the job lies

`handleAgvIdleToWorking` (dispatch), `handleAgvPickupToWaiting` and `handleAgvWaitingToWaiting`
(both call `getWaitingTime`) never raise in a state that satisfies `TotInv`.
-/

namespace JSL

variable {inst : Instance}

theorem job_buffer_cases (w : WF inst) {s : State} (hI : StructInv inst s) {j : JobState} (hj : j ∈ s.jobs) :
    ∃ bc, getBufCfg (allBufCfgs inst) j.loc = .ok bc ∧ bc.id = j.loc ∧
      (bc ∈ inst.buffers ∨
       (∃ mc ∈ inst.machines, ∃ m ∈ s.machines, m.id = mc.id ∧
          ((bc = mc.pre ∧ j.loc = m.pre.id ∧ j.id ∈ m.pre.store) ∨
           (bc = mc.buf ∧ j.loc = m.buffer.id ∧ j.id ∈ m.buffer.store) ∨
           (bc = mc.post ∧ j.loc = m.post.id ∧ j.id ∈ m.post.store))) ∨
       (∃ t ∈ s.transports, j.id ∈ t.buffer.store)) := by
  have hs := hI.shape
  have h1 := hI.cons.located (j.id, j.loc) (List.mem_map.mpr ⟨j, hj, rfl⟩)
  simp only at h1
  obtain ⟨b, hb, hbi, _⟩ := storeAt_mem h1
  have hidm : b.id ∈ (allBufCfgs inst).map (·.id) := by
    rw [← hs.bufIds]; exact List.mem_map.mpr ⟨b, hb, rfl⟩
  obtain ⟨bc, hbc, hbcid⟩ := List.mem_map.mp hidm
  have hid : bc.id = j.loc := by rw [hbcid, hbi]
  have hget := findE_of_mem (key := fun (y : BufCfg) => y.id) w.bufNodup hbc .invalidValue
  simp only [hid] at hget
  refine ⟨bc, hget, hid, ?_⟩
  unfold allBufCfgs at hbc
  rcases List.mem_append.mp hbc with hbc | hbc
  · rcases List.mem_append.mp hbc with hbc | hbc
    · exact Or.inl hbc
    · right; left
      obtain ⟨mc, hmc, hin⟩ := List.mem_flatMap.mp hbc
      simp only [List.mem_cons, List.not_mem_nil, or_false] at hin
      obtain ⟨m, hm, hk⟩ := mem_of_map_eq hs.machines.symm hmc
      simp only [mKey, mcKey, Prod.mk.injEq] at hk
      have hst := mem_allBufs_of_machine hm
      refine ⟨mc, hmc, m, hm, hk.1.symm, ?_⟩
      rcases hin with e | e | e
      · have hl : j.loc = m.pre.id := by rw [← hid, e, hk.2.1]
        refine Or.inl ⟨e, hl, ?_⟩
        rw [← storeAt_of_mem (hs.bufNodup w) hst.1, ← hl]; exact h1
      · have hl : j.loc = m.buffer.id := by rw [← hid, e, hk.2.2.1]
        refine Or.inr (Or.inl ⟨e, hl, ?_⟩)
        rw [← storeAt_of_mem (hs.bufNodup w) hst.2.1, ← hl]; exact h1
      · have hl : j.loc = m.post.id := by rw [← hid, e, hk.2.2.2]
        refine Or.inr (Or.inr ⟨e, hl, ?_⟩)
        rw [← storeAt_of_mem (hs.bufNodup w) hst.2.2, ← hl]; exact h1
  · right; right
    obtain ⟨tcf, htcf, e⟩ := List.mem_map.mp hbc
    obtain ⟨t, ht, hk⟩ := mem_of_map_eq hs.transports.symm htcf
    simp only [tKey, tcKey, Prod.mk.injEq] at hk
    refine ⟨t, ht, ?_⟩
    rw [← storeAt_of_mem (hs.bufNodup w) (mem_allBufs_of_transport ht), ← hk.2, e, hid]
    exact h1

/-- where a job claimed by an AGV that is not in transit lies: in a stand-alone buffer (config in
`inst.buffers`), or in the internal or post buffer of a machine -- never in a pre-buffer
(`RouteInv.preUnclaimed`) and never in the buffer of an AGV (`AgvInv.empty`, `RouteInv.transitOwn`, `AgvInv.unique`) -/
theorem claimed_job_place (w : WF inst) {s : State} (hV : TotInv inst s) {t : TransportState} (ht : t ∈ s.transports)
    (hst : t.st ≠ .transit) {j : JobState} (hj : j ∈ s.jobs) (hc : t.job = some j.id) :
    ∃ bc, getBufCfg (allBufCfgs inst) j.loc = .ok bc ∧ bc.id = j.loc ∧
      (bc ∈ inst.buffers ∨ ∃ mc ∈ inst.machines, ∃ m ∈ s.machines, m.id = mc.id ∧
          ((bc = mc.buf ∧ j.loc = m.buffer.id ∧ j.id ∈ m.buffer.store) ∨ (bc = mc.post ∧ j.loc = m.post.id ∧ j.id ∈ m.post.store))) := by
  obtain ⟨bc, hget, hid, hcase⟩ := job_buffer_cases w hV.struct hj
  refine ⟨bc, hget, hid, ?_⟩
  rcases hcase with h | ⟨mc, hmc, m, hm, hmid, h⟩ | ⟨t2, ht2, hin⟩
  · exact Or.inl h
  · rcases h with ⟨_, _, hin⟩ | h | h
    · exact absurd hc (hV.full.route.preUnclaimed m hm j.id hin t ht)
    · exact Or.inr ⟨mc, hmc, m, hm, hmid, Or.inl h⟩
    · exact Or.inr ⟨mc, hmc, m, hm, hmid, Or.inr h⟩
  · exfalso
    have htr2 : t2.st = .transit := by
      apply Classical.byContradiction
      intro hne
      rw [hV.full.agv.empty t2 ht2 hne] at hin
      cases hin
    have hown := hV.full.route.transitOwn t2 ht2 htr2 j.id hin
    have hidt := hV.full.agv.unique t2 ht2 t ht j.id hown hc
    have : t2 = t := eq_of_mem_of_key_eq (key := fun (y : TransportState) => y.id) (hV.struct.shape.trNodup w) ht2 ht hidt
    subst this
    exact hst htr2

/-- `_get_waiting_time` for the job a machine holds in its internal buffer: the recorded end of the
running operation, which is the machine's `occupied_till` -/
theorem getWaitingTime_held (w : WF inst) (P : Parents inst) {s : State} (hI : StructInv inst s) (hS : SchedInv s)
    {m : MachineState} (hm : m ∈ s.machines) {j : JobState} (hj : j ∈ s.jobs) (hin : j.id ∈ m.buffer.store)
    {tr : Transition} (hgj : getJobOpt s.jobs tr.job = .ok j) :
    ∃ e, m.occ = some e ∧ getWaitingTime inst s tr = .ok (.at e) := by
  have hs := hI.shape
  have hjn := hs.jobsNodup w
  have hbusy : m.st ≠ .idle := by
    intro hidle
    rw [hS.idleEmpty m hm hidle] at hin
    cases hin
  obtain ⟨j2, hj2, hstore, op, hop, _, hstop, hne⟩ := hS.busyHolds m hm hbusy
  have hjj : j = j2 := by
    rw [hstore] at hin
    exact eq_of_mem_of_key_eq (key := fun (y : JobState) => y.id) hjn hj hj2 (by simpa using hin)
  subst hjj
  have hloc : j.loc = m.buffer.id :=
    job_of_store hI.cons hj (by rw [storeAt_of_mem (hs.bufNodup w) (mem_allBufs_of_machine hm).2.1]; exact hin) hjn
  obtain ⟨mc, hmc, hk⟩ := hs.machine_cfg hm
  simp only [mKey, mcKey, Prod.mk.injEq] at hk
  have hget : getBufCfg (allBufCfgs inst) j.loc = .ok mc.buf := by
    have := findE_of_mem (key := fun (y : BufCfg) => y.id) w.bufNodup (mem_allBufCfgs_of_machine hmc).2.1
      Err.invalidValue
    rw [hloc, hk.2.2.1]; exact this
  have hgm : getMachine s.machines mc.id = .ok m := by
    rw [← hk.1]; exact getMachine_of_mem (hs.machNodup w) hm
  have hnot : m.post.store.contains j.id = false := by
    cases hc : m.post.store.contains j.id with
    | false => rfl
    | true =>
      exfalso
      have hloc2 : j.loc = m.post.id :=
        job_of_store hI.cons hj (by rw [storeAt_of_mem (hs.bufNodup w) (mem_allBufs_of_machine hm).2.2]
                                    exact List.contains_iff_mem.mp hc) hjn
      exact (machine_buf_ids_ne hs w hm).2.2 (by rw [← hloc, hloc2])
  cases hmo : m.occ with
  | none => exact absurd hmo hne
  | some e =>
    refine ⟨e, rfl, ?_⟩
    unfold getWaitingTime
    simp only [hgj, hget, except_bind_ok, (P.machine mc hmc).2.1, hgm, hnot, Bool.false_eq_true, if_false,
      waitProcessing, hop, hstop, hmo]
    rfl

theorem getWaitingTime_total (w : WF inst) (C : TotClassP inst) {s : State} (hV : TotInv inst s) {t : TransportState}
    (ht : t ∈ s.transports) (hst : t.st = .pickup ∨ t.st = .waitingpickup) {tr : Transition} (hjob : tr.job = t.job) :
    ∃ occ, getWaitingTime inst s tr = .ok occ := by
  have hs := hV.struct.shape
  have hjn := hs.jobsNodup w
  obtain ⟨x, hx⟩ := hV.shape.busyClaims t ht hst
  obtain ⟨j, hj, hjx⟩ := hV.full.agv.claimed t ht x hx
  subst hjx
  have hnt : t.st ≠ .transit := by rcases hst with e | e <;> rw [e] <;> decide
  obtain ⟨bc, hget, hid, hcase⟩ := claimed_job_place w hV ht hnt hj hx
  have hgj : getJobOpt s.jobs tr.job = .ok j := by
    rw [hjob, hx]; exact getJob_of_mem hjn hj
  rcases hcase with hb | ⟨mc, hmc, m, hm, hmid, ⟨_, hloc, hin⟩ | ⟨hbc, hloc, hin⟩⟩
  · unfold getWaitingTime
    simp only [hgj, hget, except_bind_ok, C.parents.standalone bc hb]
    exact ⟨_, rfl⟩
  · -- the internal buffer: the job is being processed
    obtain ⟨e, _, h⟩ := getWaitingTime_held w C.parents hV.struct hV.sched hm hj hin hgj
    exact ⟨_, h⟩
  · -- the post-buffer: the job is ready
    have hgm : getMachine s.machines mc.id = .ok m := by
      rw [← hmid]; exact getMachine_of_mem (hs.machNodup w) hm
    have hc : m.post.store.contains j.id = true := List.contains_iff_mem.mpr hin
    have hr := readyForPickup_flex w C.pflex hs (mem_allBufs_of_machine hm).2.2 hloc hin (kind_of_post hs hm)
    unfold getWaitingTime
    simp only [hgj, hget, except_bind_ok, hbc, (C.parents.machine mc hmc).2.2, hgm, hc, hr, if_true]
    exact ⟨_, rfl⟩

theorem agv_toWaiting_applies (w : WF inst) (C : TotClassP inst) {s : State} (hV : TotInv inst s) {t : TransportState}
    (ht : t ∈ s.transports) (hst : t.st = .pickup ∨ t.st = .waitingpickup) {tr : Transition} (hjob : tr.job = t.job) (r : Rng) :
    (∃ out, handleAgvPickupToWaiting inst s r tr t = .ok out) ∧ (∃ out, handleAgvWaitingToWaiting inst s r tr t = .ok out) := by
  obtain ⟨occ, hocc⟩ := getWaitingTime_total w C hV ht hst hjob
  obtain ⟨x, hx⟩ := hV.shape.busyClaims t ht hst
  have hsome : tr.job.isNone = false := by rw [hjob, hx]; rfl
  constructor
  · unfold handleAgvPickupToWaiting
    simp only [hsome, Bool.false_eq_true, if_false, hocc, except_bind_ok, except_pure]
    exact ⟨_, rfl⟩
  · unfold handleAgvWaitingToWaiting
    simp only [hocc, except_bind_ok, except_pure]
    exact ⟨_, rfl⟩

theorem dispatch_source (w : WF inst) (C : TotClassP inst) {s : State} (hV : TotInv inst s) {j : JobState} (hj : j ∈ s.jobs)
    (hout : j.loc ∉ outputIds inst) (hfree : ∀ t' ∈ s.transports, t'.job ≠ some j.id) {l : Loc} (hreach : reaches inst l) :
    ∃ bc src, getBufCfg (allBufCfgs inst) j.loc = .ok bc ∧ pickupSource bc j.loc = .ok src ∧
      (travelCfg inst l src).isSome = true := by
  obtain ⟨bc, hget, hid, hcase⟩ := job_buffer_cases w hV.struct hj
  rcases hcase with hb | ⟨mc, hmc, m, hm, hmid, hcase⟩ | ⟨t2, ht2, hin⟩
  · -- a stand-alone buffer that is not an output buffer
    have hpar := C.parents.standalone bc hb
    have hpick : bc ∈ pickupBufs inst := by
      unfold pickupBufs
      apply List.mem_append.mpr; left
      apply List.mem_filter.mpr
      refine ⟨hb, ?_⟩
      cases hrole : (bc.role == BufRole.output) with
      | false => simp [bne, hrole]
      | true =>
        exfalso
        apply hout
        rw [← hid]
        unfold outputIds outputBuffers
        exact List.mem_map.mpr ⟨bc, List.mem_filter.mpr ⟨hb, hrole⟩, rfl⟩
    have hsrc : ∀ n, pickupSource bc n = .ok (Loc.b n) := by
      intro n; unfold pickupSource; rw [hpar]; rfl
    refine ⟨bc, Loc.b j.loc, hget, hsrc _, ?_⟩
    have := hreach bc hpick (Loc.b bc.id) (hsrc _)
    rw [hid] at this
    exact this
  · -- a buffer of a machine: the AGV goes to the machine
    obtain ⟨hp1, hp2, hp3⟩ := C.parents.machine mc hmc
    have hpar : bc.parent = some (Comp.m mc.id) := by
      rcases hcase with ⟨e, _, _⟩ | ⟨e, _, _⟩ | ⟨e, _, _⟩ <;> rw [e] <;> assumption
    have hpick : mc.post ∈ pickupBufs inst := by
      unfold pickupBufs
      exact List.mem_append.mpr (Or.inr (List.mem_flatMap.mpr ⟨mc, hmc, by simp⟩))
    have hsrc : pickupSource bc j.loc = .ok (Loc.m mc.id) := by
      unfold pickupSource; rw [hpar]; rfl
    have hsrc2 : pickupSource mc.post mc.post.id = .ok (Loc.m mc.id) := by
      unfold pickupSource; rw [hp3]; rfl
    exact ⟨bc, Loc.m mc.id, hget, hsrc, hreach mc.post hpick _ hsrc2⟩
  · -- the buffer of an AGV: the carrier claims what it carries
    exfalso
    have htr2 : t2.st = .transit := by
      apply Classical.byContradiction
      intro hne
      rw [hV.full.agv.empty t2 ht2 hne] at hin
      cases hin
    exact hfree t2 ht2 (hV.full.route.transitOwn t2 ht2 htr2 j.id hin)

theorem agv_dispatch_applies (w : WF inst) (C : TotClassP inst) {s : State} (hV : TotInv inst s) {t : TransportState}
    (ht : t ∈ s.transports) (hst : t.st = .idle) {tr : Transition} {j : JobState} (hj : j ∈ s.jobs)
    (hjob : tr.job = some j.id) (hout : j.loc ∉ outputIds inst) (hfree : ∀ t' ∈ s.transports, t'.job ≠ some j.id)
    (orc : Oracle) (r : Rng) : ∃ out, handleAgvIdleToWorking orc inst s r tr t = .ok out := by
  have hs := hV.struct.shape
  obtain ⟨l, hl, hreach⟩ := hV.ready.parked t ht (Or.inl hst)
  obtain ⟨d, hd⟩ := dropLoc_total C.tables j
  obtain ⟨bc, src, hbc, hsrc, htc⟩ := dispatch_source w C hV hj hout hfree hreach
  obtain ⟨c, hc⟩ := Option.isSome_iff_exists.mp htc
  simp only [handleAgvIdleToWorking, hjob, hl, except_pure, except_bind_ok, getJob_of_mem (hs.jobsNodup w) hj, hd, hbc,
    hsrc, travelNoUpdate, hc]
  exact ⟨_, rfl⟩

end JSL
