import JSL.Inv.Travel

/-!
# The travel invariant along every execution
-/

namespace JSL

variable {orc : Oracle} {inst : Instance}

theorem timedTransport_outage_due {s : State} (hS : SchedInv s) {t : TransportState} (ht : t ∈ s.transports) {tr : Transition}
    (h : timedTransport inst s t = .ok (some tr)) (hn : tr.new = .t .outage) :
    tr.comp = .t t.id ∧ ∀ o, t.occ = .at o → o ≤ s.time := by
  rcases timedTransport_ok h with ⟨b, j, hocc, _⟩ | ⟨o, hocc, hle, hc, _⟩
  · rw [hS.depWaiting t ht b j tr hocc] at hn; cases hn
  · refine ⟨hc, fun o' ho' => ?_⟩
    rw [hocc] at ho'
    cases ho'
    exact hle

theorem timedTransports_arr {s : State} (hS : SchedInv s) : ∀ (ts : List TransportState), (∀ t ∈ ts, t ∈ s.transports) →
    (ts.map (·.id)).Nodup → ∀ r, ts.mapM (timedTransport inst s) = .ok r →
    (∀ tr ∈ r.filterMap id, tr.new = .t .outage → ∃ t ∈ ts, tr.comp = .t t.id ∧ ∀ o, t.occ = .at o → o ≤ s.time) ∧
    (r.filterMap id).Pairwise (fun a b => b.new = .t .outage → a.comp = b.comp → a.new = .t .waitingpickup)
  | [], _, _, r, h => by simp [List.mapM_nil] at h; subst h; simp
  | t :: ts, hsub, hnd, r, h => by
    rw [List.mapM_cons] at h
    obtain ⟨x, hx, h⟩ := except_bind_eq_ok h
    obtain ⟨xs, hxs, h⟩ := except_bind_eq_ok h
    simp at h; subst h
    simp only [List.map_cons, List.nodup_cons, List.mem_map, not_exists, not_and] at hnd
    have ih := timedTransports_arr hS ts (fun y hy => hsub y (by simp [hy])) hnd.2 xs hxs
    cases x with
    | none =>
      simp only [List.filterMap_cons, id]
      exact ⟨fun tr htr hn => by
        obtain ⟨t', ht', e⟩ := ih.1 tr htr hn
        exact ⟨t', by simp [ht'], e⟩, ih.2⟩
    | some tr0 =>
      simp only [List.filterMap_cons, id]
      have h0 := timedTransport_shape hS (hsub t (by simp)) hx
      constructor
      · intro tr htr hn
        rcases List.mem_cons.mp htr with rfl | htr
        · exact ⟨t, by simp, timedTransport_outage_due hS (hsub t (by simp)) hx hn⟩
        · obtain ⟨t', ht', e⟩ := ih.1 tr htr hn
          exact ⟨t', by simp [ht'], e⟩
      · apply List.pairwise_cons.mpr
        refine ⟨?_, ih.2⟩
        intro b hb hbn hcomp
        rcases h0 with e | ⟨e, _⟩
        · exact e
        · exfalso
          obtain ⟨t', ht', ec, _⟩ := ih.1 b hb hbn
          rw [e, ec] at hcomp
          simp at hcomp
          exact hnd.1 t' ht' hcomp.symm

theorem timed_arr (w : WF inst) {s : State} (hI : StructInv inst s) (hS : SchedInv s) {tt tele : List Transition}
    (htt : timedTransitions inst s = .ok tt) (htele : ∀ tr ∈ tele, tr.new = .t .working) : ArrGS s (tt ++ tele) := by
  have hs := hI.shape
  obtain ⟨ra, rb, hra, hrb, rfl⟩ := timedTransitions_ok htt
  have hA := timedMachines_spec (inst := inst) s.machines (fun m hm => hm) (hs.machNodup w) ra hra
  have hB := timedTransports_arr (inst := inst) hS s.transports (fun t ht => ht) (hs.trNodup w) rb hrb
  -- machine transitions and dispatches are no deliveries
  have hM : ∀ tr ∈ ra.filterMap id, ∃ ns mid, tr.new = .m ns ∧ tr.comp = .m mid := by
    intro tr htr
    obtain ⟨⟨m, _, hc, hcase⟩, _⟩ := hA.1 tr htr
    rcases hcase with ⟨ns, _, e, _⟩ | ⟨_, e, _⟩
    · exact ⟨ns, m.id, e, hc⟩
    · exact ⟨.setup, m.id, e, hc⟩
  rw [List.append_assoc]
  constructor
  · intro tr htr hn t ht hc hst o ho
    rcases List.mem_append.mp htr with h | h
    · obtain ⟨ns, _, e, _⟩ := hM tr h
      rw [e] at hn; cases hn
    · rcases List.mem_append.mp h with h | h
      · obtain ⟨t', ht', ec, hdue⟩ := hB.1 tr h hn
        rw [ec] at hc
        simp at hc
        have : t' = t := eq_of_mem_of_key_eq (key := fun (y : TransportState) => y.id) (hs.trNodup w) ht' ht hc
        subst this
        exact hdue o ho
      · rw [htele tr h] at hn; cases hn
  · apply List.pairwise_append.mpr
    refine ⟨?_, ?_, ?_⟩
    · apply List.pairwise_of_forall_mem_list
      intro x _ y hy hn
      obtain ⟨ns, _, e, _⟩ := hM y hy
      rw [e] at hn; cases hn
    · apply List.pairwise_append.mpr
      refine ⟨hB.2, ?_, ?_⟩
      · apply List.pairwise_of_forall_mem_list
        intro x _ y hy hn
        rw [htele y hy] at hn; cases hn
      · intro x _ y hy hn
        rw [htele y hy] at hn; cases hn
    · intro x hx y hy hn hcomp
      exfalso
      obtain ⟨_, mid, _, ec⟩ := hM x hx
      rcases List.mem_append.mp hy with h | h
      · obtain ⟨t', _, ec', _⟩ := hB.1 y h hn
        rw [ec, ec'] at hcomp; cases hcomp
      · rw [htele y h] at hn; cases hn

variable {ι : Type} {f : ι → TimeCfg}

structure AgvTravel (inst : Instance) (s : State) : Prop where
  full : AgvFull inst s
  travel : TravelInv inst s

structure AgvTravelS (orc : Oracle) (inst : Instance) (s : State) : Prop where
  full : AgvFull inst s
  travel : TravelInvS orc inst s

structure AgvTravelG (orc : Oracle) (inst : Instance) (f : ι → TimeCfg) (s : State) : Prop where
  full : AgvFull inst s
  travel : TravelInvG orc inst f s

structure TravelGS (s : State) (L : List Transition) : Prop where
  full : FullGS s L
  arr : ArrGS s L

theorem TravelInvG.advance {s : State} (h : TravelInvG orc inst f s) {t : Int} (hle : s.time ≤ t) :
    TravelInvG orc inst f { s with time := t } := by
  intro j hj
  exact (h j hj).keep hle (fun m hm => ⟨m, hm, rfl⟩) (fun x hx _ => ⟨x, hx, rfl, rfl⟩)

theorem TravelInvG.of_time {s : State} {t : Int} (h : TravelInvG orc inst f { s with time := t }) (hle : t ≤ s.time) :
    TravelInvG orc inst f s := by
  intro j hj
  exact (h j hj).keep hle (fun m hm => ⟨m, hm, rfl⟩) (fun x hx _ => ⟨x, hx, rfl, rfl⟩)

theorem TravelInv.advance {s : State} (h : TravelInv inst s) {t : Int} (hle : s.time ≤ t) :
    TravelInv inst { s with time := t } :=
  fun j hj => (TravelInvG.advance (orc := fun _ _ => 0) (fun j hj => (h j hj).toG) hle j hj).det

theorem TravelInv.of_time {s : State} {t : Int} (h : TravelInv inst { s with time := t }) (hle : t ≤ s.time) :
    TravelInv inst s :=
  fun j hj => (TravelInvG.of_time (orc := fun _ _ => 0) (fun j hj => (h j hj).toG) hle j hj).det

theorem TravelInvS.advance {s : State} (h : TravelInvS orc inst s) {t : Int} (hle : s.time ≤ t) :
    TravelInvS orc inst { s with time := t } :=
  fun j hj => (TravelInvG.advance (fun j hj => (h j hj).toG) hle j hj).stoch

theorem TravelInvS.of_time {s : State} {t : Int} (h : TravelInvS orc inst { s with time := t }) (hle : t ≤ s.time) :
    TravelInvS orc inst s :=
  fun j hj => (TravelInvG.of_time (fun j hj => (h j hj).toG) hle j hj).stoch

/-- at rest nothing is finished: the travel invariant holds vacuously -/
theorem TravelInvG.of_rest {s : State} (h : restB s = true) : TravelInvG orc inst f s := by
  simp only [restB, Bool.and_eq_true, List.all_eq_true, beq_iff_eq] at h
  obtain ⟨⟨_, hj⟩, _⟩ := h
  intro j hj'
  constructor
  · intro a b hadj ha
    rw [hj j hj' a (adjL_mem hadj).1] at ha; cases ha
  · intro a b hadj ha
    rw [hj j hj' a (adjL_mem hadj).1] at ha; cases ha

theorem TravelInv.of_rest {s : State} (h : restB s = true) : TravelInv inst s :=
  fun j hj => (TravelInvG.of_rest (orc := fun _ _ => 0) h j hj).det

def TravelPassG (orc : Oracle) (inst : Instance) (cfg : SMConfig) (w : WF inst) (f : ι → TimeCfg) : Pass orc inst cfg where
  P := AgvTravelG orc inst f
  GS := TravelGS
  Adm := AdmOffer inst cfg
  tail := fun h => ⟨(FullPass orc inst cfg w).tail h.full, h.arr.tail⟩
  step := fun hI hS hP hv hsafe hfresh hgs ha => by
    obtain ⟨h1, h2⟩ := (FullPass orc inst cfg w).step hI hS hP.full hv hsafe hfresh hgs.full ha
    obtain ⟨h3, h4⟩ := applyTransition_travel w hI hS hP.full hP.travel hv hgs.full hgs.arr ha
    exact ⟨⟨h1, h3⟩, ⟨h2, h4⟩⟩
  advance := fun hI hS hP hle hp => ⟨(FullPass orc inst cfg w).advance hI hS hP.full hle hp, hP.travel.advance hle⟩
  timed := fun hI hS hP htt hposs htele =>
    ⟨(FullPass orc inst cfg w).timed hI hS hP.full htt hposs htele, timed_arr w hI hS htt (filterTeleport_shape hposs htele)⟩
  timedOnly := fun hI hS hP htt =>
    ⟨(FullPass orc inst cfg w).timedOnly hI hS hP.full htt, by simpa using timed_arr w hI hS (tele := []) htt (by simp)⟩
  action := fun {s a} hI hS hP hadm => by
    refine ⟨(FullPass orc inst cfg w).action hI hS hP.full hadm, ?_⟩
    have hsh : ∀ tr ∈ sortedByTransport a.transitions, tr.new ≠ .t .outage := by
      intro tr htr hn
      have hm := mem_sortedByTransport htr
      rcases hadm with e | ⟨poss, hposs, tr0, hp, e⟩
      · rw [e] at hm; cases hm
      · rw [e] at hm; simp at hm; subst hm
        rcases offers_offerShaped hposs tr hp with e' | e' <;> rw [e'] at hn <;> cases hn
    refine ⟨fun tr htr hn => absurd hn (hsh tr htr), ?_⟩
    apply List.pairwise_of_forall_mem_list
    intro x _ y hy hn
    exact absurd hn (hsh y hy)

def TravelPass (orc : Oracle) (inst : Instance) (cfg : SMConfig) (w : WF inst) : Pass orc inst cfg :=
  (TravelPassG orc inst cfg w .det).map (AgvTravel inst) (fun h => ⟨h.full, fun j hj => (h.travel j hj).toG⟩)
    (fun h => ⟨h.full, fun j hj => (h.travel j hj).det⟩)

/-- the clause of the travel invariant that does not mention the clock: a started operation
started no earlier than its predecessor's end plus the travel time -/
def TravelStart (inst : Instance) (s : State) : Prop :=
  ∀ j ∈ s.jobs, ∀ a b, AdjL j.ops a b → a.st = .done → ∀ e, a.stop = some e → ∀ d, detTravel inst a b d →
    b.st ≠ .idle → ∀ x, b.start = some x → e + d ≤ x

theorem TravelInv.toStart {s : State} (h : TravelInv inst s) : TravelStart inst s :=
  fun j hj => (h j hj).start

/-- the clause of the invariant that does not mention the clock: a started operation started no
earlier than its predecessor's end plus a sample (of index ≥ 1) of the travel time -/
def TravelStartS (orc : Oracle) (inst : Instance) (s : State) : Prop :=
  ∀ j ∈ s.jobs, ∀ a b, AdjL j.ops a b → a.st = .done → ∀ e, a.stop = some e → ∀ sid, stochTravel inst a b sid →
    b.st ≠ .idle → ∀ x, b.start = some x → ∃ k, 1 ≤ k ∧ e + orc sid k ≤ x

end JSL
