import JSL.Inv.ClassicDefs
import JSL.Inv.ClassicInv
import JSL.Inv.ClassicTotalDefs
import JSL.Inv.ClassicMachTotal
import JSL.Inv.ClassicAgvTotalA

/-!
# Point updates, places of the shop, and the stage measure

* what membership in a component list means after one record has been replaced by key;
* buffer ids: pre-buffers and internal buffers are no pickup places, a job at a pickup place is not running;
* `en_of_frame` – an enabled transition stays enabled across a step that leaves its component, its job and
  the claims alone (`EnFrame`);
* `stage` – a measure of how far the machines and AGVs are from idle;
* `en_effect` – what an enabled transition other than a machine start or a dispatch does (`EnEffect`): its
  component goes one stage down (`stage_step`), one job record is rewritten or relocated.  The lemmas about one
  such transition (`staleCount_step`, `apply_frameE`, `atPickup_step`) case on it.
-/

namespace JSL

variable {orc : Oracle} {inst : Instance}


theorem cs_mem_repl {α} {key : α → Nat} {l : List α} {m' x : α}
    (hx : x ∈ l.map (fun y => if key y == key m' then m' else y)) : x = m' ∨ (x ∈ l ∧ key x ≠ key m') := by
  obtain ⟨y, hy, rfl⟩ := List.mem_map.mp hx
  by_cases h : key y = key m'
  · left; simp [h]
  · right; simp [h]; exact hy

theorem cs_mem_repl_keep {α} {key : α → Nat} {l : List α} {m' x : α} (hx : x ∈ l) (hne : key x ≠ key m') :
    x ∈ l.map (fun y => if key y == key m' then m' else y) :=
  List.mem_map.mpr ⟨x, hx, by simp [hne]⟩

theorem cs_mem_replaceJob {s : State} {J x : JobState} (hx : x ∈ (s.replaceJob J).jobs) :
    x = J ∨ (x ∈ s.jobs ∧ x.id ≠ J.id) := cs_mem_repl (key := fun (y : JobState) => y.id) hx

theorem cs_mem_replaceMachine {s : State} {M x : MachineState} (hx : x ∈ (s.replaceMachine M).machines) :
    x = M ∨ (x ∈ s.machines ∧ x.id ≠ M.id) := cs_mem_repl (key := fun (y : MachineState) => y.id) hx

theorem cs_mem_replaceTransport {s : State} {T x : TransportState} (hx : x ∈ (s.replaceTransport T).transports) :
    x = T ∨ (x ∈ s.transports ∧ x.id ≠ T.id) := cs_mem_repl (key := fun (y : TransportState) => y.id) hx

theorem cs_keep_replaceJob {s : State} {J x : JobState} (hx : x ∈ s.jobs) (hne : x.id ≠ J.id) :
    x ∈ (s.replaceJob J).jobs := cs_mem_repl_keep (key := fun (y : JobState) => y.id) hx hne

theorem cs_keep_replaceTransport {s : State} {T x : TransportState} (hx : x ∈ s.transports) (hne : x.id ≠ T.id) :
    x ∈ (s.replaceTransport T).transports := cs_mem_repl_keep (key := fun (y : TransportState) => y.id) hx hne

theorem cs_mem_replaceOp {j : JobState} {o' o : OpState} (ho : o ∈ (j.replaceOp o').ops) : o ∈ j.ops ∨ o = o' := by
  unfold JobState.replaceOp at ho
  obtain ⟨y, hy, rfl⟩ := List.mem_map.mp ho
  by_cases h : (y.job == o'.job && y.idx == o'.idx) = true
  · right; simp [h]
  · left; simp [h]; exact hy

theorem frame_replaceMachine {s : State} (hnd : (s.machines.map (·.id)).Nodup) {m0 m0' : MachineState}
    (hm0 : m0 ∈ s.machines) (hid : m0'.id = m0.id) {m : MachineState} (hm : m ∈ s.machines)
    (h : m.id ≠ m0.id ∨ (m0'.st = m0.st ∧ m0'.buffer.store = m0.buffer.store ∧ m0'.occ = m0.occ)) :
    ∃ m' ∈ (s.replaceMachine m0').machines,
      m'.id = m.id ∧ m'.st = m.st ∧ m'.buffer.store = m.buffer.store ∧ m'.occ = m.occ := by
  by_cases e : m.id = m0.id
  · have : m = m0 := eq_of_mem_of_key_eq (key := fun (y : MachineState) => y.id) hnd hm hm0 e
    subst this
    rcases h with h | h
    · exact absurd e h
    · exact ⟨m0', (mem_replaceMachine hnd hm hid m0').mpr (Or.inl rfl), hid, h.1, h.2.1, h.2.2⟩
  · exact ⟨m, (mem_replaceMachine hnd hm0 hid m).mpr (Or.inr ⟨hm, e⟩), rfl, rfl, rfl, rfl⟩

theorem frame_replaceJob {s : State} (hnd : (s.jobs.map (·.id)).Nodup) {j0 J : JobState}
    (hj0 : j0 ∈ s.jobs) (hid : J.id = j0.id) {j : JobState} (hj : j ∈ s.jobs) :
    ∃ j' ∈ (s.replaceJob J).jobs, j'.id = j.id ∧ (some j0.id ≠ some j.id → j' = j) := by
  by_cases e : j.id = j0.id
  · refine ⟨J, (mem_replaceJob hnd hj0 hid J).mpr (Or.inl rfl), by rw [hid, e], ?_⟩
    intro h; exact absurd (by rw [e]) h
  · exact ⟨j, (mem_replaceJob hnd hj0 hid j).mpr (Or.inr ⟨hj, e⟩), rfl, fun _ => rfl⟩

theorem frame_machines_same {s s' : State} (h : s'.machines = s.machines) {m : MachineState} (hm : m ∈ s.machines) :
    ∃ m' ∈ s'.machines, m'.id = m.id ∧ m'.st = m.st ∧ m'.buffer.store = m.buffer.store ∧ m'.occ = m.occ :=
  ⟨m, h ▸ hm, rfl, rfl, rfl, rfl⟩


theorem cs_loc_m_mem {s : State} (hs : Shape inst s) {m : MachineState} (hm : m ∈ s.machines) :
    Loc.m m.id ∈ locsOf inst := by
  obtain ⟨mc, hmc, hk⟩ := mem_of_map_eq hs.machineIds hm
  unfold locsOf
  exact List.mem_append.mpr (Or.inl (List.mem_map.mpr ⟨mc, hmc, by rw [hk]⟩))

theorem cs_loc_b_mem {s : State} (hs : Shape inst s) {b : BufState} (hb : b ∈ s.buffers) :
    Loc.b b.id ∈ locsOf inst := by
  obtain ⟨bc, hbc, hk⟩ := mem_of_map_eq hs.buffers hb
  unfold locsOf
  exact List.mem_append.mpr (Or.inr (List.mem_map.mpr ⟨bc, hbc, by rw [hk]⟩))

theorem cs_machine_not_standalone (w : WF inst) {s : State} (hs : Shape inst s) {m : MachineState} (hm : m ∈ s.machines) :
    m.pre.id ∉ inst.buffers.map (·.id) ∧ m.buffer.id ∉ inst.buffers.map (·.id) ∧
      m.post.id ∉ inst.buffers.map (·.id) := by
  have hp := (ids_parts hs w).1
  rw [← hs.buffers]
  refine ⟨?_, ?_, ?_⟩ <;> intro h <;> obtain ⟨b, hb, e⟩ := List.mem_map.mp h
  · exact (hp b hb m hm).1 e
  · exact (hp b hb m hm).2.1 e
  · exact (hp b hb m hm).2.2 e

theorem cs_transport_not_standalone (w : WF inst) {s : State} (hs : Shape inst s) {t : TransportState}
    (ht : t ∈ s.transports) : t.buffer.id ∉ inst.buffers.map (·.id) := by
  rw [← hs.buffers]
  intro h
  obtain ⟨b, hb, e⟩ := List.mem_map.mp h
  exact (ids_parts hs w).2.1 b hb t ht e

theorem pickupPlace_state {s : State} (hs : Shape inst s) {l : Nat} (hl : l ∈ pickupPlaces inst) :
    (∃ b ∈ s.buffers, b.id = l) ∨ ∃ m ∈ s.machines, m.post.id = l := by
  rcases mem_pickupPlaces.mp hl with ⟨bc, hbc, _, e⟩ | ⟨mc, hmc, e⟩
  · have : l ∈ s.buffers.map (·.id) := by rw [hs.buffers]; exact List.mem_map.mpr ⟨bc, hbc, e⟩
    exact Or.inl (List.mem_map.mp this)
  · obtain ⟨m, hm, hk⟩ := mem_of_map_eq hs.machines.symm hmc
    simp only [mKey, mcKey, Prod.mk.injEq] at hk
    exact Or.inr ⟨m, hm, by rw [← hk.2.2.2, e]⟩

theorem cs_machine_not_pickup (w : WF inst) {s : State} (hs : Shape inst s) {m : MachineState} (hm : m ∈ s.machines) :
    m.pre.id ∉ pickupPlaces inst ∧ m.buffer.id ∉ pickupPlaces inst := by
  have hp := (ids_parts hs w).1
  constructor
  · intro h
    rcases pickupPlace_state hs h with ⟨b, hb, e⟩ | ⟨m2, hm2, e⟩
    · exact (hp b hb m hm).1 e
    · by_cases hid : m.id = m2.id
      · have : m = m2 := eq_of_mem_of_key_eq (key := fun (y : MachineState) => y.id) (hs.machNodup w) hm hm2 hid
        subst this
        exact (machine_buf_ids_ne hs w hm).2.1 e.symm
      · exact machines_bufs_ne hs w hm hm2 hid _ (by simp) _ (by simp) e.symm
  · intro h
    rcases pickupPlace_state hs h with ⟨b, hb, e⟩ | ⟨m2, hm2, e⟩
    · exact (hp b hb m hm).2.1 e
    · exact (internal_ne_pre_post hs w hm hm2).2 e.symm

theorem cs_post_pickup {s : State} (hs : Shape inst s) {m : MachineState} (hm : m ∈ s.machines) :
    m.post.id ∈ pickupPlaces inst := by
  obtain ⟨mc, hmc, hk⟩ := mem_of_map_eq hs.machines hm
  simp only [mKey, mcKey, Prod.mk.injEq] at hk
  exact mem_pickupPlaces.mpr (Or.inr ⟨mc, hmc, hk.2.2.2.symm⟩)

theorem cs_loc_of_store (w : WF inst) {s : State} (hI : StructInv inst s) {j : JobState} (hj : j ∈ s.jobs)
    {b : BufState} (hb : b ∈ allBufStates s) (hin : j.id ∈ b.store) : j.loc = b.id :=
  job_of_store hI.cons hj (by rw [storeAt_of_mem (hI.shape.bufNodup w) hb]; exact hin) (hI.shape.jobsNodup w)

theorem running_in_machine (w : WF inst) {s : State} (hI : StructInv inst s) (hS : SchedInv s) {j : JobState}
    (hj : j ∈ s.jobs) (hr : j.running = true) : ∃ m ∈ s.machines, j.loc = m.buffer.id := by
  unfold JobState.running at hr
  obtain ⟨o, ho, hp⟩ := List.any_eq_true.mp hr
  obtain ⟨m, hm, _, _, hstore⟩ := hS.procOnBusy j hj o ho (by simpa using hp)
  exact ⟨m, hm, cs_loc_of_store w hI hj (mem_allBufs_of_machine hm).2.1 (by rw [hstore]; simp)⟩

theorem pickup_not_running (w : WF inst) {s : State} (hI : StructInv inst s) (hS : SchedInv s) {j : JobState}
    (hj : j ∈ s.jobs) (hloc : j.loc ∈ pickupPlaces inst) : j.running = false := by
  cases hr : j.running with
  | false => rfl
  | true =>
    obtain ⟨m, hm, e⟩ := running_in_machine w hI hS hj hr
    exact absurd (e ▸ hloc) (cs_machine_not_pickup w hI.shape hm).2

theorem pre_not_running (w : WF inst) {s : State} (hI : StructInv inst s) (hS : SchedInv s) {m : MachineState}
    (hm : m ∈ s.machines) {j : JobState} (hj : j ∈ s.jobs) (hin : j.id ∈ m.pre.store) : j.running = false := by
  cases hr : j.running with
  | false => rfl
  | true =>
    obtain ⟨m2, hm2, e⟩ := running_in_machine w hI hS hj hr
    rw [cs_loc_of_store w hI hj (mem_allBufs_of_machine hm).1 hin] at e
    exact absurd e.symm (internal_ne_pre_post hI.shape w hm2 hm).1

theorem en_job_ne (w : WF inst) {s : State} {a : Transition} (hI : StructInv inst s) (hA : AgvFull inst s)
    (hE : En inst s a) (hns : a.new ≠ .m .setup) (hnd : a.new ≠ .t .working) {j : JobState} (hj : j ∈ s.jobs)
    (hloc : j.loc ∈ pickupPlaces inst) (hfree : ∀ t ∈ s.transports, t.job ≠ some j.id) : a.job ≠ some j.id := by
  have hs := hI.shape
  have hmach : ∀ m ∈ s.machines, ∀ x, m.buffer.store = [x] → some x ≠ some j.id := by
    intro m hm x hst e
    simp at e; subst e
    have hin : j.id ∈ storeAt s m.buffer.id := by
      rw [(pre_storeAt w hs hm).2, hst]; simp
    have := job_of_store hI.cons hj hin (hs.jobsNodup w)
    exact (cs_machine_not_pickup w hs hm).2 (by rw [← this]; exact hloc)
  cases hE with
  | start tr hn => exact absurd hn hns
  | mWork m x hm hst hstore => exact hmach m hm x hstore
  | mOut m x hm hst hstore => exact hmach m hm x hstore
  | mIdle m x hm hst hstore => exact hmach m hm x hstore
  | dispatch t j2 ht hst hj2 hloc2 hfree2 => exact absurd rfl hnd
  | wait t j2 ht hst hj2 htjob =>
    intro e; simp only at e
    exact hfree t ht (by rw [htjob, e])
  | pick t j2 ht hst hj2 htjob =>
    intro e; simp only at e
    exact hfree t ht (by rw [htjob, e])
  | deliver t j2 ht hst hj2 hstore =>
    intro e; simp only at e
    have := hA.route.transitOwn t ht hst j2.id (by rw [hstore]; simp)
    exact hfree t ht (by rw [this, e])
  | release t ht hst => intro e; cases e

theorem en_of_frame {s s' : State} {a b : Transition} (F : EnFrame s s' a) (hab : Apart a b)
    (hjob : ∀ t j, b = ⟨.t t, .t .working, some j.id⟩ → j ∈ s.jobs → j.loc ∈ pickupPlaces inst →
      (∀ t' ∈ s.transports, t'.job ≠ some j.id) → a.job ≠ some j.id)
    (hE : En inst s b) : En inst s' b := by
  cases hE with
  | start tr hn => exact .start _ hn
  | mWork m x hm hst hstore =>
    obtain ⟨m', hm', e1, e2, e3, _⟩ := F.machines m hm hab.1
    rw [← e1]
    exact .mWork m' x hm' (by rw [e2, hst]) (by rw [e3, hstore])
  | mOut m x hm hst hstore =>
    obtain ⟨m', hm', e1, e2, e3, _⟩ := F.machines m hm hab.1
    rw [← e1]
    exact .mOut m' x hm' (by rw [e2, hst]) (by rw [e3, hstore])
  | mIdle m x hm hst hstore =>
    obtain ⟨m', hm', e1, e2, e3, _⟩ := F.machines m hm hab.1
    rw [← e1]
    exact .mIdle m' x hm' (by rw [e2, hst]) (by rw [e3, hstore])
  | dispatch t j ht hst hj hloc hfree =>
    have ht' := F.transports t ht hab.1
    have hne := hjob t.id j rfl hj hloc hfree
    obtain ⟨j', hj', _, e2⟩ := F.jobs j hj
    have := e2 hne; subst this
    refine .dispatch t j' ht' hst hj' hloc ?_
    intro t' h' e
    rcases F.claims t' h' j'.id e with ⟨t0, ht0, e0⟩ | ⟨hn, e0⟩
    · exact hfree t0 ht0 e0
    · exact hab.2 hn rfl e0
  | wait t j ht hst hj htjob =>
    have ht' := F.transports t ht hab.1
    obtain ⟨j', hj', e1, _⟩ := F.jobs j hj
    rw [← e1]
    exact .wait t j' ht' hst hj' (by rw [e1]; exact htjob)
  | pick t j ht hst hj htjob =>
    have ht' := F.transports t ht hab.1
    obtain ⟨j', hj', e1, _⟩ := F.jobs j hj
    rw [← e1]
    exact .pick t j' ht' hst hj' (by rw [e1]; exact htjob)
  | deliver t j ht hst hj hstore =>
    have ht' := F.transports t ht hab.1
    obtain ⟨j', hj', e1, _⟩ := F.jobs j hj
    rw [← e1]
    exact .deliver t j' ht' hst hj' (by rw [e1]; exact hstore)
  | release t ht hst => exact .release t (F.transports t ht hab.1) hst


def stageM : MSt → Nat | .idle => 0 | .setup => 3 | .working => 2 | .outage => 1
def stageT : TSt → Nat | .idle => 0 | .working => 5 | .pickup => 4 | .waitingpickup => 3 | .transit => 2 | .outage => 1
def stage (s : State) : Nat :=
  (s.machines.map fun m => stageM m.st).sum + (s.transports.map fun t => stageT t.st).sum

theorem stage_time (s : State) (t : Int) : stage { s with time := t } = stage s := rfl

theorem sum_map_le_mul {α} (l : List α) (f : α → Nat) (c : Nat) (h : ∀ x, f x ≤ c) : (l.map f).sum ≤ c * l.length := by
  have := sum_le_sum (l := l) (f := f) (g := fun _ => c) (fun a _ => h a)
  rwa [List.map_const', List.sum_replicate_nat, Nat.mul_comm] at this

theorem Shape.machines_length {s : State} (hs : Shape inst s) : s.machines.length = inst.machines.length := by
  have := congrArg List.length hs.machines
  rwa [List.length_map, List.length_map] at this

theorem Shape.transports_length {s : State} (hs : Shape inst s) : s.transports.length = inst.transports.length := by
  have := congrArg List.length hs.transports
  rwa [List.length_map, List.length_map] at this

theorem stage_le {s : State} (hs : Shape inst s) : stage s ≤ 3 * inst.machines.length + 5 * inst.transports.length := by
  have h1 := sum_map_le_mul s.machines (fun m => stageM m.st) 3 (fun m => by cases m.st <;> decide)
  have h2 := sum_map_le_mul s.transports (fun t => stageT t.st) 5 (fun t => by cases t.st <;> decide)
  rw [hs.machines_length] at h1
  rw [hs.transports_length] at h2
  exact Nat.add_le_add h1 h2

theorem sum_map_replace {α} {key : α → Nat} {l : List α} (hnd : (l.map key).Nodup) {m m' : α} (hm : m ∈ l)
    (hk : key m' = key m) (f : α → Nat) :
    ((l.map (fun y => if key y == key m' then m' else y)).map f).sum + f m = (l.map f).sum + f m' := by
  induction l with
  | nil => cases hm
  | cons x xs ih =>
    simp only [List.map_cons, List.nodup_cons, List.mem_map, not_exists, not_and] at hnd
    simp only [List.map_cons, List.sum_cons]
    rcases List.mem_cons.mp hm with rfl | hm'
    · have hid : xs.map (fun y => if key y == key m' then m' else y) = xs := by
        have : ∀ y ∈ xs, (fun y => if key y == key m' then m' else y) y = id y := by
          intro y hy
          have := hnd.1 y hy
          simp [hk, this]
        rw [List.map_congr_left this, List.map_id]
      rw [hid]
      have e : (if key m == key m' then m' else m) = m' := by simp [hk]
      rw [e, Nat.add_right_comm, Nat.add_right_comm (f m), Nat.add_comm (f m')]
    · have hne : key x ≠ key m' := by
        intro e
        exact hnd.1 m hm' (by rw [e, hk])
      have := ih hnd.2 hm'
      have e : (if key x == key m' then m' else x) = x := by simp [hne]
      rw [e, Nat.add_assoc, this, Nat.add_assoc]

theorem stage_machine {s S : State} (hnd : (s.machines.map (·.id)).Nodup) {m0 M : MachineState}
    (hm0 : m0 ∈ s.machines) (hid : M.id = m0.id) (hM : S.machines = (s.replaceMachine M).machines)
    (hT : S.transports = s.transports) : stage S + stageM m0.st = stage s + stageM M.st := by
  have := sum_map_replace (key := fun (y : MachineState) => y.id) hnd hm0 hid (fun m => stageM m.st)
  unfold stage
  rw [hM, hT, Nat.add_right_comm]
  exact (congrArg (· + _) this).trans (Nat.add_right_comm _ _ _)

theorem stage_transport {s S : State} (hnd : (s.transports.map (·.id)).Nodup) {t0 T : TransportState}
    (ht0 : t0 ∈ s.transports) (hid : T.id = t0.id)
    (hM : (S.machines.map fun m => stageM m.st) = s.machines.map fun m => stageM m.st)
    (hT : S.transports = (s.replaceTransport T).transports) : stage S + stageT t0.st = stage s + stageT T.st := by
  have := sum_map_replace (key := fun (y : TransportState) => y.id) hnd ht0 hid (fun t => stageT t.st)
  unfold stage
  rw [hM, hT, Nat.add_assoc, Nat.add_assoc]
  exact congrArg (_ + ·) this

theorem one_down {a b x y : Nat} (h : a + x = b + y) (hxy : y + 1 = x) : a + 1 = b := by
  subst hxy
  exact Nat.add_right_cancel (by rw [Nat.add_assoc, Nat.add_comm 1 y]; exact h)

/-- What an enabled transition `a` other than a machine start or a dispatch does.  Its machine or AGV goes one
stage down, and
* `machine`: the record of the job `j` in the internal buffer is rewritten; `j` stays there or goes to the post-buffer;
* `agv` (the AGV starts to wait, or is released): nothing else changes;
* `move` (pickup, delivery): the job `j` is relocated, and one machine may get other buffers – its internal buffer
  keeps its store unless `j` is picked up there. -/
inductive EnEffect (s s' : State) (a : Transition) : Prop
  | machine (m M : MachineState) (j J : JobState) (ns : NewSt) (ha : a = ⟨.m m.id, ns, some j.id⟩)
      (hm : m ∈ s.machines) (hid : M.id = m.id) (hst : stageM M.st + 1 = stageM m.st) (hj : j ∈ s.jobs)
      (hin : j.id ∈ m.buffer.store) (hJ : J.id = j.id) (hloc : J.loc = j.loc ∨ J.loc = m.post.id)
      (eM : s'.machines = (s.replaceMachine M).machines) (eJ : s'.jobs = (s.replaceJob J).jobs)
      (eT : s'.transports = s.transports)
  | agv (t T : TransportState) (ha : a.comp = .t t.id) (ht : t ∈ s.transports) (hid : T.id = t.id)
      (hst : stageT T.st + 1 = stageT t.st) (hjob : T.job = t.job)
      (hw : T.st = .pickup ∨ T.st = .waitingpickup → t.st = .pickup) (es : s' = s.replaceTransport T)
  | move (t T : TransportState) (j : JobState) (l : Nat) (ns : NewSt) (ha : a = ⟨.t t.id, ns, some j.id⟩)
      (ht : t ∈ s.transports) (hid : T.id = t.id) (hst : stageT T.st + 1 = stageT t.st)
      (hjob : ∀ x, T.job = some x → t.job = some x) (hT : T.st = .transit ∨ T.st = .outage) (hj : j ∈ s.jobs)
      (hclaim : t.job = some j.id ∨ (t.st = .transit ∧ t.buffer.store = [j.id]))
      (eT : s'.transports = (s.replaceTransport T).transports) (eJ : s'.jobs = (s.replaceJob (j.at l)).jobs)
      (eM : s'.machines = s.machines ∨ ∃ ms ∈ s.machines, ∃ M, M.id = ms.id ∧ M.st = ms.st ∧ M.occ = ms.occ ∧
        ((ns = .t .transit → j.loc ≠ ms.buffer.id) → M.buffer.store = ms.buffer.store) ∧ s'.machines = (s.replaceMachine M).machines)

theorem en_effect (w : WF inst) {s s' : State} {r r' : Rng} {a : Transition} (hI : StructInv inst s)
    (hE : En inst s a) (hns : a.new ≠ .m .setup) (hnd : a.new ≠ .t .working)
    (h : applyTransition orc inst s r a = .ok (s', r')) : EnEffect s s' a := by
  have hs := hI.shape
  have same : ∀ {j2 j : JobState} {x : Option Nat}, j2 ∈ s.jobs → j ∈ s.jobs → x = some j2.id → x = some j.id →
      j2 = j := fun hj2 hj e2 e =>
    eq_of_mem_of_key_eq (key := fun (y : JobState) => y.id) (hs.jobsNodup w) hj2 hj (Option.some.inj (e2.symm.trans e))
  cases hE with
  | start tr hn => exact absurd hn hns
  | dispatch t j ht hst hj hloc hfree => exact absurd rfl hnd
  | mWork m x hm hst hstore =>
    obtain ⟨j, op, oc, d, hj, htj, hin, _, _, _, _, _, rfl⟩ := setupToWorking_spec (apply_mach w hs hm hst h)
    cases htj
    exact .machine m (m.toWorking (s.time + d)) j (j.replaceOp (opRec oc s.time (s.time + d) m.id)) _ rfl hm rfl
      (by rw [hst]; rfl) hj hin rfl (Or.inl rfl) rfl rfl rfl
  | mOut m x hm hst hstore =>
    obtain ⟨mc, outs, j, op, _, _, _, hj, htj, _, rfl⟩ := workingToOutage_spec (apply_mach w hs hm hst h)
    cases htj
    exact .machine m (m.toOutage outs (s.time + occupiedFor outs)) j
      (j.replaceOp { op with stop := some (s.time + occupiedFor outs) }) _ rfl hm rfl (by rw [hst]; rfl) hj
      (by rw [hstore]; exact List.mem_singleton_self _) rfl (Or.inl rfl) rfl rfl rfl
  | mIdle m x hm hst hstore =>
    obtain ⟨j, op, mc, rest, bss1, bss2, hst0, hj, _, _, _, _, _, rfl⟩ := outageToIdle_spec (apply_mach w hs hm hst h)
    rw [hstore] at hst0
    obtain ⟨rfl, _⟩ := List.cons.inj hst0
    exact .machine m (m.toIdle j.id bss1 bss2) j ((j.replaceOp { op with stop := some s.time, st := .done }).at m.post.id)
      _ rfl hm rfl (by rw [hst]; rfl) hj (by rw [hstore]; exact List.mem_singleton_self _) rfl (Or.inr rfl) rfl rfl rfl
  | wait t j ht hst hj htjob =>
    obtain ⟨occ, _, _, _, e⟩ := pickupToWaiting_spec (apply_agv w hs ht hst h)
    exact .agv t (t.toWaiting occ) rfl ht rfl (by rw [hst]; rfl) rfl (fun _ => hst) e
  | release t ht hst =>
    obtain ⟨_, e⟩ := agvOutageToIdle_spec (apply_agv w hs ht hst h)
    exact .agv t t.toIdle rfl ht rfl (by rw [hst]; rfl) rfl (fun hw => by rcases hw with hw | hw <;> cases hw) e
  | pick t j ht hst hj htjob =>
    obtain ⟨j2, src, dst, tt, bss1, bss2, hj2, htj, _, _, _, hcase⟩ := pickupToTransit_spec (apply_agv w hs ht hst h)
    obtain rfl := same hj2 hj htj rfl
    rcases hcase with ⟨fb, _, _, _, _, _, rfl⟩ | ⟨mid, ms, bs, ms', _, _, hms, _, hbs, _, hrep, rfl⟩
    · exact .move t (t.toTransit (s.time + tt) j2.id bss2) j2 t.buffer.id _ rfl ht rfl (by rw [hst]; rfl)
        (fun _ hx => hx) (Or.inl rfl) hj (Or.inl htjob) rfl rfl (Or.inl rfl)
    · obtain ⟨_, e1, e2, e3, e4⟩ := replaceBufInMachine_same hrep
      refine .move t (t.toTransit (s.time + tt) j2.id bss2) j2 t.buffer.id _ rfl ht rfl (by rw [hst]; rfl)
        (fun _ hx => hx) (Or.inl rfl) hj (Or.inl htjob) rfl rfl
        (Or.inr ⟨ms, hms, ms', e1, e2, e3, fun hne => congrArg BufState.store (e4 ?_), rfl⟩)
      rw [BufState.without_id, (bufOfMachine_ok hbs).1]
      exact hne rfl
  | deliver t j ht hst hj hstore =>
    obtain ⟨j2, cur, pick, drop, tc, outs, bss1, bss2, hj2, htj, _, _, _, _, _, hcase⟩ :=
      transitToOutage_spec (apply_agv w hs ht hst h)
    obtain rfl := same hj2 hj htj rfl
    rcases hcase with ⟨mid, ms, _, hms, _, _, rfl⟩ | ⟨bid, b, _, _, _, _, rfl⟩
    · exact .move t (t.toOutage j2.id bss1 outs (s.time + occupiedFor outs) drop) j2 ms.pre.id _ rfl ht rfl
        (by rw [hst]; rfl) nofun (Or.inr rfl) hj (Or.inr ⟨hst, hstore⟩) rfl rfl
        (Or.inr ⟨ms, hms, ms.withPre j2.id bss2, rfl, rfl, rfl, fun _ => rfl, rfl⟩)
    · exact .move t (t.toOutage j2.id bss1 outs (s.time + occupiedFor outs) drop) j2 b.id _ rfl ht rfl
        (by rw [hst]; rfl) nofun (Or.inr rfl) hj (Or.inr ⟨hst, hstore⟩) rfl rfl (Or.inl rfl)

theorem stage_step (w : WF inst) {s s' : State} {r r' : Rng} {a : Transition} (hI : StructInv inst s)
    (hE : En inst s a) (hns : a.new ≠ .m .setup) (hnd : a.new ≠ .t .working)
    (h : applyTransition orc inst s r a = .ok (s', r')) : stage s' + 1 = stage s := by
  have hmn := hI.shape.machNodup w
  have htn := hI.shape.trNodup w
  cases en_effect w hI hE hns hnd h with
  | machine m M j J _ _ hm hid hst _ _ _ _ eM _ eT => exact one_down (stage_machine hmn hm hid eM eT) hst
  | agv t T _ ht hid hst _ _ es => exact one_down (stage_transport htn ht hid (by rw [es]; rfl) (by rw [es])) hst
  | move t T j l _ _ ht hid hst _ _ _ _ eT _ eM =>
    refine one_down (stage_transport htn ht hid ?_ eT) hst
    rcases eM with eM | ⟨ms, hms, M, hMid, hMst, _, _, eM⟩
    · rw [eM]
    · rw [eM]
      exact map_replace (key := fun (y : MachineState) => y.id) hmn hms hMid _ (by rw [hMst])

end JSL
