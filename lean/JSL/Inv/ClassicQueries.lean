import JSL.Inv.ClassicDefs
import JSL.Inv.TotalQueryB

/-!
# Classic instances: the query functions of `state.step` never raise

Totality of `timedTransitions`, `possibleTransitions`, `numPossibleEvents` and `filterTeleport`
in every state of a classic instance that satisfies the structural, schedule and AGV invariants and
in which no AGV is parked on a time dependency or in the legacy `working` state and a dispatched AGV claims an
existing job; and the lemmas about states in which nothing is on offer.
-/

namespace JSL

variable {orc : Oracle} {inst : Instance}

structure AgvTame (inst : Instance) (s : State) : Prop where
  noDep : ∀ t ∈ s.transports, ∀ b j tr, t.occ ≠ .dep b j tr
  noWorking : ∀ t ∈ s.transports, t.st ≠ .working
  claimed : ∀ t ∈ s.transports, t.st = .pickup ∨ t.st = .waitingpickup →
    ∃ j ∈ s.jobs, t.job = some j.id ∧ j.loc ∈ pickupPlaces inst

theorem job_buffer {s : State} (hI : StructInv inst s) {j : JobState} (hj : j ∈ s.jobs) :
    ∃ b ∈ allBufStates s, b.id = j.loc ∧ j.id ∈ b.store := by
  have hst : j.id ∈ storeAt s j.loc := hI.cons.located (j.id, j.loc) (List.mem_map.mpr ⟨j, hj, rfl⟩)
  obtain ⟨b, hb, hbid, hbs⟩ := storeAt_mem hst
  exact ⟨b, hb, hbid, by rw [← hbs]; exact hst⟩

theorem op_machine_cfg (w : WF inst) {s : State} (hs : Shape inst s) {j : JobState} (hj : j ∈ s.jobs)
    {o : OpState} (ho : o ∈ j.ops) : ∃ mc ∈ inst.machines, mc.id = o.machine := by
  obtain ⟨mc, hmc, _, _, hid, _⟩ := op_machine w hs hj ho
  exact ⟨mc, hmc, hid⟩

theorem op_machine_mem (w : WF inst) {s : State} (hs : Shape inst s) {j : JobState} (hj : j ∈ s.jobs)
    {o : OpState} (ho : o ∈ j.ops) : ∃ m ∈ s.machines, m.id = o.machine := by
  obtain ⟨_, _, m, hm, _, hid, _⟩ := op_machine w hs hj ho
  exact ⟨m, hm, hid⟩


theorem timedMachineTransitions_total (w : WF inst) {s : State} (hI : StructInv inst s)
    (hS : SchedInv s) : ∃ r, timedMachineTransitions inst s = .ok r := by
  unfold timedMachineTransitions
  obtain ⟨l, hl⟩ := mapM_total (f := timedMachine inst s.time) (l := s.machines)
    (fun m hm => timedMachine_totalT w hI hS hm s.time)
  rw [hl]
  exact ⟨_, rfl⟩

theorem timedTransport_total (w : WF inst) {s : State} (hI : StructInv inst s) (hA : AgvFull inst s)
    {t : TransportState} (ht : t ∈ s.transports) (hnd : ∀ b j tr, t.occ ≠ .dep b j tr) (hnw : t.st ≠ .working)
    (hcl : t.st = .pickup ∨ t.st = .waitingpickup → ∃ j ∈ s.jobs, t.job = some j.id) :
    ∃ r, timedTransport inst s t = .ok r := by
  have hs := hI.shape
  have hjn := hs.jobsNodup w
  unfold timedTransport
  cases hocc : t.occ with
  | dep b j tr => exact absurd hocc (hnd b j tr)
  | none => exact ⟨_, rfl⟩
  | «at» o =>
    simp only
    by_cases hdue : o ≤ s.time
    · rw [if_pos hdue]
      have claim : t.st = .pickup ∨ t.st = .waitingpickup → ∃ r, agvIdleToPickTransition inst s t = .ok r := by
        intro hst
        obtain ⟨j, hj, htj⟩ := hcl hst
        obtain ⟨b, hb⟩ := readyForPickup_totalT w hI hj
        unfold agvIdleToPickTransition
        simp only [htj, optE, except_pure, except_bind_ok, getJob_of_mem hjn hj, hb]
        exact ⟨_, rfl⟩
      cases hst : t.st with
      | idle => simp only [agvTimedCreator]; exact ⟨_, rfl⟩
      | working => exact absurd hst hnw
      | pickup => simp only [agvTimedCreator]; exact claim (Or.inl hst)
      | waitingpickup => simp only [agvTimedCreator]; exact claim (Or.inr hst)
      | transit =>
        obtain ⟨j, hj, hstore⟩ := hA.agv.holds t ht hst
        simp only [agvTimedCreator, hstore, getJob_of_mem hjn hj, except_bind_ok, except_pure]
        exact ⟨_, rfl⟩
      | outage => simp only [agvTimedCreator]; exact ⟨_, rfl⟩
    · rw [if_neg hdue]; exact ⟨_, rfl⟩

/-- **`create_timed_transitions` never raises** in a state of a classic instance -/
theorem timedTransitions_total (w : WF inst) {s : State} (hI : StructInv inst s)
    (hS : SchedInv s) (hA : AgvFull inst s) (hnd : ∀ t ∈ s.transports, ∀ b j tr, t.occ ≠ .dep b j tr)
    (hnw : ∀ t ∈ s.transports, t.st ≠ .working)
    (hcl : ∀ t ∈ s.transports, t.st = .pickup ∨ t.st = .waitingpickup → ∃ j ∈ s.jobs, t.job = some j.id) :
    ∃ tt, timedTransitions inst s = .ok tt := by
  obtain ⟨a, ha⟩ := timedMachineTransitions_total w hI hS
  obtain ⟨l, hl⟩ := mapM_total (f := timedTransport inst s) (l := s.transports)
    (fun t ht => timedTransport_total w hI hA ht (hnd t ht) (hnw t ht) (hcl t ht))
  have hb : timedTransportTransitions inst s = .ok (l.filterMap id) := by
    unfold timedTransportTransitions; rw [hl]; rfl
  unfold timedTransitions
  simp only [ha, hb, except_bind_ok, except_pure]
  exact ⟨_, rfl⟩


theorem nextNotDone_of_idle {s : State} (hS : SchedInv s) {j : JobState} (hj : j ∈ s.jobs) (hr : j.running = false)
    {o : OpState} (hn : j.nextIdle? = some o) : j.nextNotDone = .ok o := by
  have : j.nextNotDone? = some o := by rw [nextNotDone_eq_nextIdle (hS.ops j hj) hr, hn]
  simp [JobState.nextNotDone, this]

theorem actionPossible_total (w : WF inst) (hC : Classic inst) {s : State} (hI : StructInv inst s) (hS : SchedInv s)
    {j : JobState} (hj : j ∈ s.jobs) : ∃ b, actionPossible inst s j = .ok b := by
  have hs := hI.shape
  unfold actionPossible
  by_cases hfree : j.nextOpFree = true
  · obtain ⟨hr, o, hn⟩ := nextOpFree_iff.mp hfree
    have hnn := nextNotDone_of_idle hS hj hr hn
    have ho : o ∈ j.ops := List.mem_of_find?_eq_some hn
    obtain ⟨m, _, _, hgm⟩ := machine_of_op w hs hj ho
    obtain ⟨tc, htc, _⟩ := hC.hasAgv
    cases ht0 : inst.transports with
    | nil => rw [ht0] at htc; cases htc
    | cons t0 ts =>
      have hty : t0.type = .agv := hC.allAgv t0 (by rw [ht0]; simp)
      by_cases hat : m.pre.id = j.loc <;>
        simp [hfree, hty, hnn, hgm, jobAtMachine, bind, Except.bind, pure, Except.pure, hat]
  · simp only [hfree]
    exact ⟨false, rfl⟩

theorem possibleJobs_total (w : WF inst) (hC : Classic inst) {s : State} (hI : StructInv inst s) (hS : SchedInv s) :
    ∃ pj, possibleJobs inst s = .ok pj :=
  filterE_ok_of_forall (fun _ hj => actionPossible_total w hC hI hS hj)

/-- **`get_possible_transport_transition` never raises** -/
theorem possibleTransportTransitions_total (w : WF inst) {s : State} (hI : StructInv inst s)
    (hS : SchedInv s) (cfg : SMConfig) : ∃ pt, possibleTransportTransitions inst cfg s = .ok pt := by
  have hs := hI.shape
  obtain ⟨ts, hts⟩ := possibleTransports_totalT (inst := inst) hs
  obtain ⟨idle, hidle⟩ := filterE_ok_of_forall (p := transportable inst s) (l := s.jobs.filter (!·.running))
    (fun j hj => transportable_totalT w hs hS (List.mem_filter.mp hj).1 (by simpa using (List.mem_filter.mp hj).2))
  have hsub : ∀ j ∈ (s.jobs.filter (·.running) ++ idle).filter
      (fun j => !(s.transports.filterMap (·.job)).contains j.id), j ∈ s.jobs := by
    intro j hjm
    rcases List.mem_append.mp (List.mem_filter.mp hjm).1 with h1 | h1
    · exact (List.mem_filter.mp h1).1
    · exact (List.mem_filter.mp (filterE_ok hidle j h1).1).1
  obtain ⟨lonely, hlonely⟩ : ∃ l, earlyFilter inst cfg s ((s.jobs.filter (·.running) ++ idle).filter
      (fun j => !(s.transports.filterMap (·.job)).contains j.id)) = .ok l := by
    unfold earlyFilter
    by_cases he : cfg.allowEarly = true
    · rw [if_pos he]; exact ⟨_, rfl⟩
    · rw [if_neg he]
      exact filterE_ok_of_forall (fun j hj => readyForPickup_totalT w hI (hsub j hj))
  unfold possibleTransportTransitions
  simp only [hts, hidle, hlonely, except_bind_ok, except_pure]
  exact ⟨_, rfl⟩

theorem nextOpFree_of_actionPossible {s : State} {j : JobState} (h : actionPossible inst s j = .ok true) :
    j.nextOpFree = true := by
  unfold actionPossible at h
  by_cases hfree : j.nextOpFree = true
  · exact hfree
  · simp [hfree, pure, Except.pure] at h

/-- **`get_possible_transitions` never raises** in a state of a classic instance -/
theorem possibleTransitions_total (w : WF inst) (hC : Classic inst) {s : State} (hI : StructInv inst s)
    (hS : SchedInv s) (cfg : SMConfig) : ∃ poss, possibleTransitions inst cfg s = .ok poss := by
  obtain ⟨pj, hpj⟩ := possibleJobs_total w hC hI hS
  obtain ⟨pt, hpt⟩ := possibleTransportTransitions_total w hI hS cfg
  unfold possibleTransitions
  simp only [hpj, hpt, except_bind_ok]
  apply bind_total
  · apply mapM_total
    intro j hjm
    have hap := (filterE_ok hpj j hjm).2
    obtain ⟨_, o, hn⟩ := nextOpFree_iff.mp (nextOpFree_of_actionPossible hap)
    simp only [hn, except_pure]
    exact ⟨_, rfl⟩
  · intro l _; exact ⟨_, rfl⟩

/-- **`get_num_possible_events` never raises** in a state of a classic instance -/
theorem numPossibleEvents_total (w : WF inst) (hC : Classic inst) {s : State} (hI : StructInv inst s)
    (hS : SchedInv s) (cfg : SMConfig) : ∃ n, numPossibleEvents inst cfg s = .ok n := by
  obtain ⟨pj, hpj⟩ := possibleJobs_total w hC hI hS
  obtain ⟨pt, hpt⟩ := possibleTransportTransitions_total w hI hS cfg
  unfold numPossibleEvents
  simp only [hpj, hpt, except_bind_ok, except_pure]
  exact ⟨_, rfl⟩


theorem firstOutput_locsOf {o : Nat} (h : firstOutput inst = .ok o) : Loc.b o ∈ locsOf inst := by
  unfold firstOutput at h
  cases hob : outputBuffers inst with
  | nil => simp [hob] at h
  | cons b bs =>
    simp [hob] at h
    have hb : b ∈ outputBuffers inst := by rw [hob]; simp
    unfold outputBuffers at hb
    have hb' := (List.mem_filter.mp hb).1
    unfold locsOf
    exact List.mem_append.mpr (Or.inr (List.mem_map.mpr ⟨b, hb', by rw [h]⟩))

theorem machine_locsOf {mc : MachineCfg} (h : mc ∈ inst.machines) : Loc.m mc.id ∈ locsOf inst := by
  unfold locsOf
  exact List.mem_append.mpr (Or.inl (List.mem_map.mpr ⟨mc, h, rfl⟩))

theorem buffer_locsOf {bc : BufCfg} (h : bc ∈ inst.buffers) : Loc.b bc.id ∈ locsOf inst := by
  unfold locsOf
  exact List.mem_append.mpr (Or.inr (List.mem_map.mpr ⟨bc, h, rfl⟩))

theorem nextIdle_of_not_noOpIdle (w : WF inst) {s : State} (hs : Shape inst s) {j : JobState} (hj : j ∈ s.jobs)
    (hn : ¬ j.noOpIdle = true) : ∃ o, j.nextIdle? = some o ∧ Loc.m o.machine ∈ locsOf inst := by
  cases hni : j.nextIdle? with
  | some o =>
    obtain ⟨mc, hmc, hid⟩ := op_machine_cfg w hs hj (List.mem_of_find?_eq_some hni)
    exact ⟨o, rfl, by rw [← hid]; exact machine_locsOf hmc⟩
  | none =>
    exfalso
    apply hn
    unfold JobState.nextIdle? at hni
    have := List.find?_eq_none.mp hni
    unfold JobState.noOpIdle
    apply List.all_eq_true.mpr
    intro x hx
    simpa using this x hx

theorem travel_tail_total (hC : Classic inst) {c n : Loc} (hc : c ∈ locsOf inst) (hn : n ∈ locsOf inst)
    (orc : Oracle) (r : Rng) :
    ∃ tt, (if c == n then pure 0 else
      match travelCfg inst c n with
      | some x => pure (x.cur orc r)
      | none => throw .notImplemented : Except Err Int) = .ok tt := by
  have ht := hC.travel0 c hc n hn
  by_cases he : (c == n) = true
  · rw [if_pos he]; exact ⟨_, rfl⟩
  · rw [if_neg he]; simp only [ht]; exact ⟨_, rfl⟩

theorem travelTimeForTransport_total (w : WF inst) (hC : Classic inst) {s : State} (hs : Shape inst s) {j : JobState}
    (hj : j ∈ s.jobs) {bc : BufCfg} (hgc : getBufCfg (allBufCfgs inst) j.loc = .ok bc) {c : Loc} (hc : c ∈ locsOf inst)
    (hpar : (bc.parent = none ∧ c = .b j.loc) ∨ (∃ mid, bc.parent = some (.m mid) ∧ c = .m mid))
    (orc : Oracle) (r : Rng) : ∃ tt, travelTimeForTransport orc inst r s (some j.id) = .ok tt := by
  have hnxt : ∃ nxt, ttNxt inst j = .ok nxt ∧ nxt ∈ locsOf inst := by
    unfold ttNxt
    by_cases hn : j.noOpIdle = true
    · obtain ⟨o, ho⟩ := hC.tables.output
      exact ⟨.b o, by rw [if_pos hn, ho]; rfl, firstOutput_locsOf ho⟩
    · obtain ⟨o, hni, hl⟩ := nextIdle_of_not_noOpIdle w hs hj hn
      exact ⟨.m o.machine, by rw [if_neg hn, hni]; rfl, hl⟩
  have hcur : ttCur bc j = .ok c := by
    unfold ttCur
    rcases hpar with ⟨hp, rfl⟩ | ⟨mid, hp, rfl⟩
    · rw [hp]; rfl
    · rw [hp]; rfl
  obtain ⟨nxt, hnxt, hl⟩ := hnxt
  rw [travelTime_factored]
  simp only [getJobOpt, getJob_of_mem (hs.jobsNodup w) hj, hgc, hnxt, hcur, except_bind_ok]
  exact travel_tail_total hC hc hl orc r

theorem pickupBufs_parent (hC : Classic inst) {bc : BufCfg} (h : bc ∈ pickupBufs inst) :
    (bc.parent = none ∧ Loc.b bc.id ∈ locsOf inst) ∨ (∃ mid, bc.parent = some (.m mid) ∧ Loc.m mid ∈ locsOf inst) := by
  unfold pickupBufs at h
  rcases List.mem_append.mp h with h | h
  · have hb := (List.mem_filter.mp h).1
    exact Or.inl ⟨hC.parentB bc hb, buffer_locsOf hb⟩
  · obtain ⟨mc, hmc, hin⟩ := List.mem_flatMap.mp h
    simp only [List.mem_cons, List.not_mem_nil, or_false] at hin
    rcases hin with rfl | rfl
    · exact Or.inr ⟨mc.id, hC.parentBuf mc hmc, machine_locsOf hmc⟩
    · exact Or.inr ⟨mc.id, hC.parentPost mc hmc, machine_locsOf hmc⟩

/-- **`_filter_teleport_transitions` never raises** on the offers of a state of a classic instance -/
theorem filterTeleport_total (w : WF inst) (hC : Classic inst) {s : State} (hI : StructInv inst s)
    (hS : SchedInv s) (hA : AgvFull inst s) {cfg : SMConfig} {poss : List Transition}
    (hp : possibleTransitions inst cfg s = .ok poss) (r : Rng) :
    ∃ tele, filterTeleport orc inst r s poss = .ok tele := by
  have hs := hI.shape
  have key : ∀ x ∈ poss, ∃ tt, travelTimeForTransport orc inst r s x.job = .ok tt := by
    intro x hx
    rcases mem_possibleTransitions hp hx with ⟨j, hj, o, hap, hn, rfl⟩ | ⟨pt, hpt, hin⟩
    · -- a machine start: the job stands in the pre-buffer of the machine
      obtain ⟨m, hgm, _, hloc, _⟩ := actionPossible_facts hS hj hap hn
      have hm := (getMachine_ok hgm).1
      obtain ⟨mc, hmc, hk⟩ := hs.machine_cfg hm
      simp only [mKey, mcKey, Prod.mk.injEq] at hk
      have hgc := findE_of_mem (key := fun (y : BufCfg) => y.id) w.bufNodup (mem_allBufCfgs_of_machine hmc).1 .invalidValue
      have hid : mc.pre.id = j.loc := by rw [← hk.2.1, hloc]
      simp only [hid] at hgc
      exact travelTimeForTransport_total w hC hs hj hgc (machine_locsOf hmc)
        (Or.inr ⟨mc.id, hC.parentPre mc hmc, rfl⟩) orc r
    · -- a dispatch
      obtain ⟨t, ht, tc, j, hj, rfl, hst, htc, hty, hfree, hkind, _⟩ := possibleTransport_offer hpt x hin
      have hnpre := offers_not_in_pre w hI hS hA.route hp _ hx rfl j.id rfl
      obtain ⟨bc, hbc, hpick, hid⟩ := offered_job_buffer w hI hA hj hfree hkind hnpre
      rcases pickupBufs_parent hC hpick with ⟨hp1, hl⟩ | ⟨mid, hp1, hl⟩
      · rw [hid] at hl
        exact travelTimeForTransport_total w hC hs hj hbc hl (Or.inl ⟨hp1, rfl⟩) orc r
      · exact travelTimeForTransport_total w hC hs hj hbc hl (Or.inr ⟨mid, hp1, rfl⟩) orc r
  unfold filterTeleport
  apply bind_total
  · apply filterE_ok_of_forall
    intro x hx
    obtain ⟨tt, htt⟩ := key x hx
    simp only [htt, except_bind_ok, except_pure]
    exact ⟨_, rfl⟩
  · intro l _; exact ⟨_, rfl⟩


/-- a job that is not running, is claimed by nobody and lies in a buffer AGVs pick up from (not an output
buffer) is on offer for a dispatch to any idle AGV — whatever `cfg.allowEarly` is -/
theorem dispatch_offered (w : WF inst) (hF : FlexInst inst) (hall : ∀ tc ∈ inst.transports, tc.type = .agv)
    {cfg : SMConfig} {s : State}
    (hI : StructInv inst s) {t0 : TransportState} (ht0 : t0 ∈ s.transports) (hidle0 : t0.st = .idle)
    {j : JobState} (hj : j ∈ s.jobs) (hrun : j.running = false)
    (hcl : ∀ t ∈ s.transports, t.job ≠ some j.id)
    {b : BufState} (hb : b ∈ allBufStates s) (hloc : j.loc = b.id) (hin : j.id ∈ b.store)
    (hk : pickupBufferKind inst b.id = true) (hout : j.loc ∉ outputIds inst)
    (hpre : ∀ m ∈ s.machines, m.pre.id ≠ j.loc)
    {pt : List Transition} (hpt : possibleTransportTransitions inst cfg s = .ok pt) :
    ({ comp := .t t0.id, new := .t .working, job := some j.id } : Transition) ∈ pt := by
  have hs := hI.shape
  obtain ⟨tc, htc, hk0⟩ := hs.transport_cfg ht0
  simp only [tKey, tcKey, Prod.mk.injEq] at hk0
  have hty := hall tc htc
  unfold possibleTransportTransitions at hpt
  obtain ⟨ts, hts, hpt⟩ := except_bind_eq_ok hpt
  obtain ⟨idle, hidl, hpt⟩ := except_bind_eq_ok hpt
  simp only at hpt
  obtain ⟨lonely, hlonely, hpt⟩ := except_bind_eq_ok hpt
  simp at hpt; subst hpt
  have ht0' : t0 ∈ ts := possibleTransports_mem w hts ht0 hidle0 htc hk0.1.symm hty
  have hjf : j ∈ s.jobs.filter (!·.running) := List.mem_filter.mpr ⟨hj, by simp [hrun]⟩
  obtain ⟨b', hb'⟩ := filterE_total hidl j hjf
  have hbt := transportable_true hout hpre hb'
  subst hbt
  have hji : j ∈ idle := filterE_mem_of_true hidl j hjf hb'
  have hjl : j ∈ (s.jobs.filter (·.running) ++ idle).filter
      (fun j => !(s.transports.filterMap (·.job)).contains j.id) := by
    apply List.mem_filter.mpr
    refine ⟨List.mem_append.mpr (Or.inr hji), ?_⟩
    cases hc : (s.transports.filterMap (·.job)).contains j.id with
    | false => rfl
    | true =>
      obtain ⟨t, ht, e⟩ := List.mem_filterMap.mp (List.contains_iff_mem.mp hc)
      exact absurd e (hcl t ht)
  have hjlo : j ∈ lonely := by
    unfold earlyFilter at hlonely
    by_cases he : cfg.allowEarly = true
    · rw [if_pos he] at hlonely
      injection hlonely with h'
      rw [← h']; exact hjl
    · rw [if_neg he] at hlonely
      exact filterE_mem_of_true hlonely j hjl (readyForPickup_flex w hF.pick hs hb hloc hin hk)
  exact List.mem_flatMap.mpr ⟨t0, ht0', List.mem_map.mpr ⟨j, hjlo, rfl⟩⟩

theorem running_of_internal (w : WF inst) {s : State} (hI : StructInv inst s) (hS : SchedInv s) {m : MachineState}
    (hm : m ∈ s.machines) {j : JobState} (hj : j ∈ s.jobs) (hin : j.id ∈ m.buffer.store) : j.running = true := by
  have hbusy : m.st ≠ .idle := by
    intro e
    rw [hS.idleEmpty m hm e] at hin; cases hin
  obtain ⟨j', hj', hst, op, hp, _⟩ := hS.busyHolds m hm hbusy
  rw [hst] at hin
  have : j = j' := eq_of_mem_of_key_eq (key := fun (y : JobState) => y.id) (hI.shape.jobsNodup w) hj hj'
    (by simpa using hin)
  subst this
  unfold JobState.processing? at hp
  exact List.any_eq_true.mpr ⟨op, (find?_mem_ops hp).1, (find?_mem_ops hp).2⟩

/-- some AGV is idle and no dispatch is on offer: a job that is not running, is claimed by nobody and has an idle
record stands in the pre-buffer of the machine of that record (anywhere else a dispatch for it would be on offer) -/
theorem at_pre_of_no_dispatch (w : WF inst) (hC : Classic inst) {s : State} (hI : StructInv inst s) (hS : SchedInv s)
    (hA : AgvFull inst s) {cfg : SMConfig} (hpt : possibleTransportTransitions inst cfg s = .ok [])
    {t0 : TransportState} (ht0 : t0 ∈ s.transports) (hidle0 : t0.st = .idle)
    {j : JobState} (hj : j ∈ s.jobs) (hrun : j.running = false) (hcl : ∀ t ∈ s.transports, t.job ≠ some j.id)
    {o : OpState} (hn : j.nextIdle? = some o) :
    ∃ m ∈ s.machines, m.id = o.machine ∧ m.pre.id = j.loc ∧ j.id ∈ m.pre.store := by
  have hs := hI.shape
  obtain ⟨b, hb, hbid, hin⟩ := job_buffer hI hj
  have hout : j.loc ∉ outputIds inst := by
    intro h
    have hd := hA.route.delivered j hj h o (List.mem_of_find?_eq_some hn)
    have hi : (o.st == OSt.idle) = true := (find?_mem_ops hn).2
    rw [hd] at hi; cases hi
  rcases (mem_allBufs s b).mp hb with hb1 | ⟨m, hm, rfl | rfl | rfl⟩ | ⟨t, ht, rfl⟩
  · -- a standalone buffer that is not an output buffer
    have hp := (ids_parts hs w).1 b hb1
    exact nomatch dispatch_offered w hC.flex hC.allAgv hI ht0 hidle0 hj hrun hcl hb hbid.symm hin
      (kind_of_buffer hs hb1) hout (fun m hm => by rw [← hbid]; exact (hp m hm).1.symm) hpt
  · obtain ⟨op, hni, hopm⟩ := hA.route.preNext m hm j.id hin j hj rfl
    rw [hn] at hni
    injection hni with hni
    subst hni
    exact ⟨m, hm, hopm.symm, hbid, hin⟩
  · rw [running_of_internal w hI hS hm hj hin] at hrun; cases hrun
  · -- the post-buffer of `m`
    exact nomatch dispatch_offered w hC.flex hC.allAgv hI ht0 hidle0 hj hrun hcl hb hbid.symm hin
      (kind_of_post hs hm) hout
      (fun m2 hm2 => by
        rw [← hbid]
        by_cases e2 : m2.id = m.id
        · have : m2 = m := eq_of_mem_of_key_eq (key := fun (y : MachineState) => y.id) (hs.machNodup w) hm2 hm e2
          subst this; exact (machine_buf_ids_ne hs w hm2).2.1
        · exact machines_bufs_ne hs w hm2 hm e2 _ (by simp) _ (by simp)) hpt
  · -- on an AGV: a carried job is claimed
    exfalso
    by_cases htr : t.st = .transit
    · exact hcl t ht (hA.route.transitOwn t ht htr j.id hin)
    · have := hA.agv.empty t ht htr
      rw [this] at hin; cases hin

theorem no_dispatch_at_pre (w : WF inst) (hC : Classic inst) {s : State} (hI : StructInv inst s) (hS : SchedInv s)
    (hA : AgvFull inst s) {cfg : SMConfig} (hidle : ∀ t ∈ s.transports, t.st = .idle)
    {pt : List Transition} (hpt : possibleTransportTransitions inst cfg s = .ok pt) (hnil : pt = []) :
    ∀ j ∈ s.jobs, j.running = false → ∀ o, j.nextIdle? = some o →
      ∃ m ∈ s.machines, m.id = o.machine ∧ m.pre.id = j.loc ∧ j.id ∈ m.pre.store := by
  intro j hj hrun o hn
  subst hnil
  obtain ⟨tc, htc, _⟩ := hC.hasAgv
  have : tc.id ∈ s.transports.map (·.id) := by
    rw [hI.shape.transportIds]; exact List.mem_map.mpr ⟨tc, htc, rfl⟩
  obtain ⟨t0, ht0, _⟩ := List.mem_map.mp this
  refine at_pre_of_no_dispatch w hC hI hS hA hpt ht0 (hidle t0 ht0) hj hrun ?_ hn
  intro t ht htj
  rw [hS.freeNoClaim t ht (Or.inl (hidle t ht))] at htj; cases htj

theorem no_offers_of_zero {cfg : SMConfig} {s : State} (h0 : numPossibleEvents inst cfg s = .ok 0) :
    possibleTransportTransitions inst cfg s = .ok [] ∧ possibleJobs inst s = .ok [] := by
  unfold numPossibleEvents at h0
  obtain ⟨pt, hpt, h0⟩ := except_bind_eq_ok h0
  obtain ⟨pj, hpj, h0⟩ := except_bind_eq_ok h0
  simp only [except_pure, Except.ok.injEq] at h0
  rw [hpt, hpj, List.eq_nil_of_length_eq_zero (l := pt) (by omega), List.eq_nil_of_length_eq_zero (l := pj) (by omega)]
  exact ⟨rfl, rfl⟩

theorem busy_of_no_start (w : WF inst) {s : State} (hI : StructInv inst s) (hS : SchedInv s) (hR : RouteInv inst s)
    (hpj : possibleJobs inst s = .ok []) {j : JobState} (hj : j ∈ s.jobs) {m' : MachineState} (hm' : m' ∈ s.machines)
    (hin : j.id ∈ m'.pre.store) : ∀ m ∈ s.machines, m.id = m'.id → m.st ≠ .idle := by
  intro m hm hid hst
  have : m = m' := eq_of_mem_of_key_eq (key := fun (y : MachineState) => y.id) (hI.shape.machNodup w) hm hm' hid
  subst this
  unfold possibleJobs at hpj
  obtain ⟨b', hb'⟩ := filterE_total hpj j hj
  have := actionPossible_true w hI hS hR hj hm hst hin hb'
  subst this
  exact nomatch filterE_mem_of_true hpj j hj hb'

/-- a dead point: every AGV idle and nothing on offer — then the machine of the next operation of every waiting job is busy -/
theorem dead_point_busy (w : WF inst) (hC : Classic inst) {s : State} (hI : StructInv inst s) (hS : SchedInv s)
    (hA : AgvFull inst s) {cfg : SMConfig} (hidle : ∀ t ∈ s.transports, t.st = .idle)
    (h0 : numPossibleEvents inst cfg s = .ok 0) :
    ∀ j ∈ s.jobs, j.running = false → ∀ o, j.nextIdle? = some o → ∀ m ∈ s.machines, m.id = o.machine → m.st ≠ .idle := by
  intro j hj hrun o hn m hm hmid
  obtain ⟨hpt, hpj⟩ := no_offers_of_zero h0
  obtain ⟨m', hm', hid', _, hin⟩ := no_dispatch_at_pre w hC hI hS hA hidle hpt rfl j hj hrun o hn
  exact busy_of_no_start w hI hS hA.route hpj hj hm' hin m hm (by rw [hid', hmid])

end JSL
