import JSL.Inv.EnvPass
import JSL.Inv.SetupPass

/-!
# C09: consecutive operations on one machine are separated by the setup time

The setup invariant (`SetupInvG`, `Inv/SetupDefs.lean`) holds in every state an episode exposes.  It
is read here for an entry `c` of a machine's setup matrix, constant or stochastic, whose value after
`k` calls of `update()` is `c.at orc k`: the entry at `(tool a, tool b)` – from-tool first –
separates consecutive finished operations `a`, `b` of the machine, and the operation in progress on a
WORKING / OUTAGE machine from the last finished one; while a machine is in SETUP the record of the
accepted operation spans exactly a value of the entry and the machine is occupied until its end.
-/

namespace JSL

variable {orc : Oracle} {inst : Instance} {ι : Type} {f : ι → TimeCfg}

theorem exposed_setup {ec : EnvCfg} {st : RewardStatic} {s0 σ : State} (hst : Start orc inst s0)
    (h : Exposed orc inst ec st s0 σ) : SetupInvG orc inst f σ := by
  obtain ⟨w, _⟩ := initOKB_sound hst.init
  obtain ⟨t, ht⟩ := exposed_pass (SetupPass orc inst ec.sm w f) hst (SetupInvG.of_rest hst.rest) (fun _ _ ha => ha.shaped) h
  exact ht.of_time

theorem occursA_setupS {cfg : SMConfig} {s0 σ : State} (hst : Start orc inst s0) (h : OccursA orc inst cfg s0 σ) :
    SetupInvS orc inst σ :=
  (occursA_setup hst h).stoch

/-- the state a step returns (its clock possibly stamped with the makespan) -/
theorem final_setupS {cfg : SMConfig} {s0 s : State} (hst : Start orc inst s0) (h : OccursA orc inst cfg s0 s)
    {a : Action} (ha : Admissible a) {fuel : Nat} {r r' : Rng} {res : SMResult} {mic : List State}
    (hstep : smStep orc inst cfg fuel s r a = .ok (res, r', mic)) : SetupInvS orc inst res.state :=
  (final_setup hst h ha hstep).stoch

def LastDoneOn (s : State) (mid : Nat) (p : OpState) : Prop :=
  DoneOn (recs s) mid p ∧ ∀ c, DoneOn (recs s) mid c → c ≠ p → tS c < tE p

/-- a witness that is the last record or lies after it is the last record -/
theorem LastDoneOn.pick {s : State} {mid : Nat} {p : OpState} (hl : LastDoneOn s mid p) {Φ : OpState → Prop}
    (h : ∃ q, DoneOn (recs s) mid q ∧ NotBefore p q ∧ Φ q) : Φ p := by
  obtain ⟨q, hq, hnb, hΦ⟩ := h
  by_cases e : q = p
  · rw [← e]; exact hΦ
  · rcases hnb with e' | hle
    · exact absurd e' e
    · have := hl.2 q hq e
      omega

theorem tS_of {o : OpState} {x : Int} (h : o.start = some x) : tS o = x := by simp [tS, h]
theorem tE_of {o : OpState} {x : Int} (h : o.stop = some x) : tE o = x := by simp [tE, h]

/-- **Consecutive operations on one machine are separated by the setup time**, and the matrix is
read from-tool → to-tool.  In every state an episode exposes: `a` and `b` are finished operations
of one machine, `a` ended no later than `b` started (`a` is before `b`; one of the two has positive
length, which rules out the tie of two operations of length zero at one instant), no third
finished operation of that machine lies between them, and the machine's setup matrix has the
entry `c` at `(tool of a, tool of b)`.  Then `b` started at `a.stop + c.at orc k` or later for some
`k`: the constant itself, or one of the samples of a stochastic object. -/
theorem setup_separates {ec : EnvCfg} {st : RewardStatic} {s0 σ : State} (hst : Start orc inst s0)
    (h : Exposed orc inst ec st s0 σ)
    {ja jb : JobState} (hja : ja ∈ σ.jobs) (hjb : jb ∈ σ.jobs) {a b : OpState} (ha : a ∈ ja.ops) (hb : b ∈ jb.ops)
    (hda : a.st = .done) (hdb : b.st = .done) (hm : a.machine = b.machine)
    {sa ea sb eb : Int} (hsa : a.start = some sa) (hea : a.stop = some ea) (hsb : b.start = some sb) (heb : b.stop = some eb)
    (hab : ea ≤ sb) (hpos : sa < ea ∨ sb < eb)
    (hnone : ∀ jc ∈ σ.jobs, ∀ c ∈ jc.ops, c.st = .done → c.machine = b.machine → c ≠ a → c ≠ b →
      ∀ sc ec', c.start = some sc → c.stop = some ec' → ¬ (ea ≤ sc ∧ ec' ≤ sb))
    {mc : MachineCfg} (hmc : mc ∈ inst.machines) (hmcid : mc.id = b.machine)
    {ta tb : Nat} (hta : toolOf inst a = some ta) (htb : toolOf inst b = some tb)
    {c : TimeCfg} (hd : mc.setup.lookup (ta, tb) = some c) : ∃ k, ea + c.at orc k ≤ sb := by
  obtain ⟨_, _, t, hS⟩ := exposed_inv hst h
  have hP := exposed_setup (f := id) hst h
  have haR : a ∈ recs σ := mem_recs.mpr ⟨ja, hja, ha⟩
  have hbR : b ∈ recs σ := mem_recs.mpr ⟨jb, hjb, hb⟩
  have hta' := done_times (s := { σ with time := t }) hS haR hda
  have htb' := done_times (s := { σ with time := t }) hS hbR hdb
  have e1 := tS_of hsa; have e2 := tE_of hea; have e3 := tS_of hsb; have e4 := tE_of heb
  have hne : a ≠ b := by
    intro e; subst e
    omega
  rcases hP.chain b a hbR haR hdb hda hm hne with h1 | ⟨p, hp, hpb, hnb, hsep⟩
  · omega
  · by_cases hpa : p = a
    · subst hpa
      obtain ⟨k, (hk : _ + c.at orc k ≤ _)⟩ := hsep.2 c ⟨mc, hmc, hmcid, ta, tb, hta, htb, hd⟩
      exact ⟨k, by omega⟩
    · exfalso
      rcases hnb with e | hle
      · exact hpa e
      · obtain ⟨jc, hjc, hpc⟩ := mem_recs.mp hp.mem
        have htp := done_times (s := { σ with time := t }) hS hp.mem hp.st
        refine hnone jc hjc p hpc hp.st hp.mach hpa hpb (tS p) (tE p) htp.1 htp.2.1 ⟨by omega, ?_⟩
        have := hsep.1
        omega

theorem setup_separates_running {ec : EnvCfg} {st : RewardStatic} {s0 σ : State} (hst : Start orc inst s0)
    (h : Exposed orc inst ec st s0 σ) {m : MachineState} (hm : m ∈ σ.machines) (hms : m.st = .working ∨ m.st = .outage)
    {b p : OpState} (hb : ProcOn (recs σ) m.id b) (hp : LastDoneOn σ m.id p) :
    tE p ≤ tS b ∧ ∀ d, detSetup inst m.id p b d → tE p + d ≤ tS b :=
  hp.pick (Φ := fun q => Sep inst m.id q b) (((exposed_setup hst h).det.mach m hm).work hms b hb p hp.1)

theorem setup_separates_runningS {ec : EnvCfg} {st : RewardStatic} {s0 σ : State} (hst : Start orc inst s0)
    (h : Exposed orc inst ec st s0 σ) {m : MachineState} (hm : m ∈ σ.machines) (hms : m.st = .working ∨ m.st = .outage)
    {b p : OpState} (hb : ProcOn (recs σ) m.id b) (hp : LastDoneOn σ m.id p) :
    tE p ≤ tS b ∧ ∀ sid, stochSetup inst m.id p b sid → ∃ k, tE p + orc sid k ≤ tS b :=
  hp.pick (Φ := fun q => SepS orc inst m.id q b) (((exposed_setup hst h).stoch.mach m hm).work hms b hb p hp.1)

/-- **During SETUP** the record of the accepted operation spans exactly a value of the entry of the
machine's matrix at `(tool of the last finished operation, tool of the accepted operation)`, and the
machine is occupied until the end of that interval. -/
theorem setup_interval {ec : EnvCfg} {st : RewardStatic} {s0 σ : State} (hst : Start orc inst s0)
    (h : Exposed orc inst ec st s0 σ) {m : MachineState} (hm : m ∈ σ.machines) (hms : m.st = .setup)
    {b p : OpState} (hb : ProcOn (recs σ) m.id b) (hp : LastDoneOn σ m.id p) {c : TimeCfg}
    (hd : cfgSetup inst m.id p b c) :
    ∃ k, tE p ≤ tS b ∧ b.start = some (tS b) ∧ b.stop = some (tS b + c.at orc k) ∧ m.occ = some (tS b + c.at orc k) := by
  obtain ⟨w, hI, t, hS⟩ := exposed_inv hst h
  have hex : SetupExactG orc inst id m.id p b :=
    hp.pick (Φ := fun q => SetupExactG orc inst id m.id q b) (((exposed_setup hst h).mach m hm).setup hms b hb p hp.1)
  have htb := proc_times (s := { σ with time := t }) hS hb.mem hb.st
  obtain ⟨k, (hE : _ = _ + c.at orc k)⟩ := hex.2 c hd
  have hbusy : m.st ≠ .idle := by rw [hms]; simp
  obtain ⟨j, hj, _, op, hop, hopm, hops, _⟩ := hS.busyHolds m hm hbusy
  obtain ⟨_, _, hl, _, hpst⟩ := processing?_split' hop
  have hopR : op ∈ recs σ := mem_recs.mpr ⟨j, hj, by rw [hl]; simp⟩
  have : op = b := proc_unique (s := { σ with time := t }) w (hI.time t) hS hopR hb.mem (by rw [hopm, hb.mach]) hpst hb.st
  subst this
  exact ⟨k, hex.1, htb.1, by rw [← hE]; exact htb.2.1, by rw [← hops, ← hE]; exact htb.2.1⟩

/-- the same for a stochastic entry `sid`: the interval is one of its samples -/
theorem setup_intervalS {ec : EnvCfg} {st : RewardStatic} {s0 σ : State} (hst : Start orc inst s0)
    (h : Exposed orc inst ec st s0 σ) {m : MachineState} (hm : m ∈ σ.machines) (hms : m.st = .setup)
    {b p : OpState} (hb : ProcOn (recs σ) m.id b) (hp : LastDoneOn σ m.id p) {sid : Nat}
    (hd : stochSetup inst m.id p b sid) :
    ∃ k, tE p ≤ tS b ∧ b.start = some (tS b) ∧ b.stop = some (tS b + orc sid k) ∧ m.occ = some (tS b + orc sid k) :=
  setup_interval hst h hm hms hb hp hd

end JSL
