import JSL.Inv.ObsIndex
import JSL.Lib.Except

/-!
# C15 — every field of the observation equals an independent reading of the state

`simpleObs_ok` says what a successful `SimpleJsspObservationFactory.make` (`simpleObs`) returns,
stage by stage.  From it, for jobs numbered 0 … n-1 and every job `j` of the state:

* `obs_job_progression_of_mem` – entry `j.id` of `job_progression` is the number of finished
  operations of `j`;
* `obs_available_of_mem` – entry `j.id` of `available_jobs` says that `j` has an idle operation
  and is not running;
* `obs_executed_of_mem` – row `j.id`, column `μ` of `job_executed_on_machine` says that `j` has
  a finished operation on machine `μ`;

and of `OperationArrayObservation.make` (`opArrayObs`):

* `opArray_ops_read` – one entry per operation record: 0 idle, 1 done, elapsed fraction when
  processing;
* `opArray_locs_read_at` – one entry per job: its location divided by `opArrayMaxBuf`.  **This array
  is in the internal order of `state.jobs`, not indexed by job number** (the factory does not sort).

`Props/C15.lean` restates these for the number `k` instead of the job.
-/

namespace JSL

theorem mapM_except_forall2 {ε α β} (f : α → Except ε β) :
    ∀ (l : List α) (r : List β), l.mapM f = .ok r →
      List.Forall₂ (fun a b => f a = .ok b) l r := by
  intro l
  induction l with
  | nil =>
    intro r h
    simp only [List.mapM_nil, except_pure, Except.ok.injEq] at h
    subst h
    exact .nil
  | cons x xs ih =>
    intro r h
    rw [List.mapM_cons] at h
    obtain ⟨b, hb, h⟩ := except_bind_eq_ok h
    obtain ⟨bs, hbs, h⟩ := except_bind_eq_ok h
    simp only [except_pure, Except.ok.injEq] at h
    subst h
    exact .cons hb (ih bs hbs)

theorem forall2_getElem_left {α β} {R : α → β → Prop} {l : List α} {r : List β}
    (h : List.Forall₂ R l r) : ∀ (i : Nat) (a : α), l[i]? = some a → ∃ b, r[i]? = some b ∧ R a b := by
  induction h with
  | nil => intro i a ha; cases ha
  | cons hab _ ih =>
    intro i a ha
    cases i with
    | zero =>
      cases ha
      exact ⟨_, rfl, hab⟩
    | succ i => exact ih i a ha

theorem forall2_mem_right {α β} {R : α → β → Prop} {l : List α} {r : List β}
    (h : List.Forall₂ R l r) : ∀ b ∈ r, ∃ a ∈ l, R a b := by
  induction h with
  | nil => intro b hb; cases hb
  | cons hab _ ih =>
    intro b hb
    rcases List.mem_cons.mp hb with rfl | hb
    · exact ⟨_, List.mem_cons_self, hab⟩
    · obtain ⟨a, ha, hr⟩ := ih b hb
      exact ⟨a, List.mem_cons_of_mem _ ha, hr⟩

theorem listSet_ok {α} {l r : List α} {i : Nat} {a : α} (h : listSet? l i a = .ok r) :
    r = l.set i a ∧ i < l.length := by
  unfold listSet? at h
  split at h
  · exact ⟨by simpa using h.symm, by assumption⟩
  · simp at h

theorem foldlM_listSet_ok {α β} (k : β → Nat) (v : β → α) :
    ∀ (l : List β) (acc r : List α),
      l.foldlM (fun acc j => listSet? acc (k j) (v j)) acc = .ok r →
      r.length = acc.length ∧ ∀ x ∈ r, x ∈ acc ∨ ∃ j ∈ l, x = v j := by
  intro l
  induction l with
  | nil =>
    intro acc r h
    simp only [List.foldlM_nil, except_pure, Except.ok.injEq] at h
    subst h
    exact ⟨rfl, fun x hx => Or.inl hx⟩
  | cons y ys ih =>
    intro acc r h
    rw [List.foldlM_cons] at h
    obtain ⟨acc', h1, h⟩ := except_bind_eq_ok h
    obtain ⟨rfl, _⟩ := listSet_ok h1
    obtain ⟨hl, hm⟩ := ih _ _ h
    refine ⟨by rw [hl, List.length_set], ?_⟩
    intro x hx
    rcases hm x hx with hx | ⟨j, hj, e⟩
    · rcases List.mem_or_eq_of_mem_set hx with hx | rfl
      · exact Or.inl hx
      · exact Or.inr ⟨y, List.mem_cons_self, rfl⟩
    · exact Or.inr ⟨j, List.mem_cons_of_mem _ hj, e⟩

theorem foldlM_listSet_untouched {α β} (k : β → Nat) (v : β → α) (i : Nat) :
    ∀ (l : List β) (acc r : List α),
      l.foldlM (fun acc j => listSet? acc (k j) (v j)) acc = .ok r →
      (∀ j ∈ l, k j ≠ i) → r[i]? = acc[i]? := by
  intro l
  induction l with
  | nil =>
    intro acc r h _
    simp only [List.foldlM_nil, except_pure, Except.ok.injEq] at h
    subst h
    rfl
  | cons y ys ih =>
    intro acc r h hne
    rw [List.foldlM_cons] at h
    obtain ⟨acc', h1, h⟩ := except_bind_eq_ok h
    obtain ⟨rfl, _⟩ := listSet_ok h1
    rw [ih _ _ h (fun j hj => hne j (List.mem_cons_of_mem _ hj))]
    exact List.getElem?_set_ne (hne y List.mem_cons_self)

theorem foldlM_listSet_written {α β} (k : β → Nat) (v : β → α) (i : Nat) (x : α) :
    ∀ (l : List β) (acc r : List α),
      l.foldlM (fun acc j => listSet? acc (k j) (v j)) acc = .ok r →
      (∃ j ∈ l, k j = i) → (∀ j ∈ l, k j = i → v j = x) → r[i]? = some x := by
  intro l
  induction l with
  | nil =>
    intro acc r _ hex _
    obtain ⟨j, hj, _⟩ := hex
    cases hj
  | cons y ys ih =>
    intro acc r h hex hval
    rw [List.foldlM_cons] at h
    obtain ⟨acc', h1, h⟩ := except_bind_eq_ok h
    obtain ⟨rfl, hlt⟩ := listSet_ok h1
    by_cases hys : ∃ j ∈ ys, k j = i
    · exact ih _ _ h hys (fun j hj => hval j (List.mem_cons_of_mem _ hj))
    · have hne : ∀ j ∈ ys, k j ≠ i := fun j hj e => hys ⟨j, hj, e⟩
      rw [foldlM_listSet_untouched k v i _ _ _ h hne]
      obtain ⟨j, hj, hji⟩ := hex
      rcases List.mem_cons.mp hj with rfl | hj
      · rw [← hval j List.mem_cons_self hji, ← hji]
        exact List.getElem?_set_self hlt
      · exact absurd hji (hne j hj)

theorem sortById_map_getElem_of_mem {α β} (id : α → Nat) (f : α → β) (l : List α) (n : Nat)
    (hids : (l.map id).Perm (List.range n)) (a : α) (ha : a ∈ l) :
    ((sortById id l).map f)[id a]? = some (f a) := by
  rw [List.getElem?_map, sorted_getElem_of_mem id l n hids a ha]
  rfl

structure SimpleObsParts (nm : Nat) (tmax : Int) (s : State) (o : SimpleObs) : Prop where
  running : o.jobRunning = (sortById (·.id) s.jobs).map (·.running)
  avail : List.Forall₂
    (fun (j : JobState) (b : Bool) =>
      (j.ops.any (·.st == .idle) = false ∧ b = false) ∨
      (j.ops.any (·.st == .idle) = true ∧
        ∃ c, ((sortById (·.id) s.jobs).map (·.running))[j.id]? = some c ∧ b = !c))
    (sortById (·.id) s.jobs) o.availableJobs
  exec : List.Forall₂
    (fun (j : JobState) (row : List Bool) =>
      (j.ops.filter (·.st == .done)).foldlM (fun acc o => listSet? acc o.machine true)
        (List.replicate nm false) = .ok row)
    (sortById (·.id) s.jobs) o.jobExecutedOnMachine
  prog : (sortById (·.id) s.jobs).foldlM
      (fun acc j => listSet? acc j.id (j.ops.filter (·.st == .done)).length)
      (List.replicate (sortById (·.id) s.jobs).length 0) = .ok o.jobProgression

structure SimpleObsFacts (tmax : Int) (s : State) (o : SimpleObs) : Prop where
  mrun : o.machineRunning = (sortById (·.id) s.machines).map (·.st == .working)
  mprog : o.machineProgression = (sortById (·.id) s.machines).map fun m =>
    (((sortById (·.id) s.jobs).flatMap (·.ops)).filter fun o => o.machine == m.id && o.st == .done).length
  tmaxNe : tmax ≠ 0
  time : o.currentTime = (s.time : Rat) / (tmax : Rat)

theorem simpleObs_ok {nm : Nat} {tmax : Int} {s : State} {o : SimpleObs}
    (h : simpleObs nm tmax s = .ok o) : SimpleObsParts nm tmax s o ∧ SimpleObsFacts tmax s o := by
  unfold simpleObs at h
  obtain ⟨avail, h1, h⟩ := except_bind_eq_ok h
  obtain ⟨exec, h2, h⟩ := except_bind_eq_ok h
  obtain ⟨prog, h3, h⟩ := except_bind_eq_ok h
  by_cases ht : tmax = 0
  · rw [if_pos ht] at h; cases h
  · simp only [ht, if_false] at h
    simp only [except_pure, Except.ok.injEq] at h
    subst h
    refine
      ⟨{ running := rfl
         avail := ?_
         exec := mapM_except_forall2 _ _ _ h2
         prog := h3 },
       { mrun := rfl, mprog := rfl, tmaxNe := ht, time := rfl }⟩
    refine (mapM_except_forall2 _ _ _ h1).imp ?_
    intro j b hb
    dsimp only at hb
    by_cases hi : j.ops.any (·.st == .idle) = true
    · right
      refine ⟨hi, ?_⟩
      simp only [hi, Bool.not_true, Bool.false_eq_true, if_false] at hb
      split at hb
      · rename_i c hc
        simp only [except_pure, Except.ok.injEq] at hb
        exact ⟨c, hc, hb.symm⟩
      · simp at hb
    · left
      have hi' : j.ops.any (·.st == .idle) = false := by simpa using hi
      refine ⟨hi', ?_⟩
      simp only [hi', Bool.not_false, if_true, except_pure, Except.ok.injEq] at hb
      exact hb.symm

theorem obs_job_running_of_mem (nm : Nat) (tmax : Int) (s : State) (obs : SimpleObs)
    (h : simpleObs nm tmax s = .ok obs) (n : Nat)
    (hids : (s.jobs.map (·.id)).Perm (List.range n)) (j : JobState) (hj : j ∈ s.jobs) :
    obs.jobRunning[j.id]? = some j.running := by
  rw [(simpleObs_ok h).1.running]
  exact sortById_map_getElem_of_mem (fun (x : JobState) => x.id) _ s.jobs n hids j hj

theorem obs_job_progression_of_mem (nm : Nat) (tmax : Int) (s : State) (obs : SimpleObs)
    (h : simpleObs nm tmax s = .ok obs) (n : Nat)
    (hids : (s.jobs.map (·.id)).Perm (List.range n)) (j : JobState) (hj : j ∈ s.jobs) :
    obs.jobProgression[j.id]? = some (j.ops.filter (·.st == .done)).length := by
  refine foldlM_listSet_written (fun (j : JobState) => j.id)
    (fun (j : JobState) => (j.ops.filter fun (o : OpState) => o.st == .done).length) j.id _
    (sortById (·.id) s.jobs) _ _ (simpleObs_ok h).1.prog ⟨j, mem_sortById.mpr hj, rfl⟩ ?_
  intro j2 hj2 e
  rw [number_unique (fun (x : JobState) => x.id) s.jobs n hids (mem_sortById.mp hj2) hj e]

theorem obs_available_of_mem (nm : Nat) (tmax : Int) (s : State) (obs : SimpleObs)
    (h : simpleObs nm tmax s = .ok obs) (n : Nat)
    (hids : (s.jobs.map (·.id)).Perm (List.range n)) (j : JobState) (hj : j ∈ s.jobs) :
    obs.availableJobs[j.id]? = some (j.ops.any (·.st == .idle) && !j.running) := by
  have hget := sorted_getElem_of_mem (fun (x : JobState) => x.id) s.jobs n hids j hj
  obtain ⟨b, hb, hr⟩ := forall2_getElem_left (simpleObs_ok h).1.avail j.id j hget
  rw [hb]
  rcases hr with ⟨hi, rfl⟩ | ⟨hi, c, hc, rfl⟩
  · simp [hi]
  · rw [sortById_map_getElem_of_mem (fun (x : JobState) => x.id) _ s.jobs n hids j hj] at hc
    cases hc
    simp [hi]

theorem exec_row_read (nm : Nat) (ops : List OpState) (row : List Bool)
    (h : (ops.filter (·.st == .done)).foldlM (fun acc o => listSet? acc o.machine true)
      (List.replicate nm false) = .ok row) (μ : Nat) (hμ : μ < nm) :
    row[μ]? = some (ops.any fun o => o.st == .done && o.machine == μ) := by
  by_cases hex : ∃ o ∈ ops.filter (·.st == .done), o.machine = μ
  · rw [foldlM_listSet_written (fun (o : OpState) => o.machine) (fun _ => true) μ true _ _ _ h hex
      (fun _ _ _ => rfl)]
    obtain ⟨o, ho, hm⟩ := hex
    rw [List.mem_filter] at ho
    have : (ops.any fun o => o.st == .done && o.machine == μ) = true := by
      rw [List.any_eq_true]
      exact ⟨o, ho.1, by simp [ho.2, hm]⟩
    rw [this]
  · have hne : ∀ o ∈ ops.filter (·.st == .done), o.machine ≠ μ := fun o ho e => hex ⟨o, ho, e⟩
    rw [foldlM_listSet_untouched (fun (o : OpState) => o.machine) (fun _ => true) μ _ _ _ h hne]
    have : (ops.any fun o => o.st == .done && o.machine == μ) = false := by
      rw [List.any_eq_false]
      intro o ho hc
      simp only [Bool.and_eq_true, beq_iff_eq] at hc
      exact hne o (List.mem_filter.mpr ⟨ho, by simp [hc.1]⟩) hc.2
    rw [this]
    simp [hμ]

/-- No hypothesis on the machine numbers of the operations: a finished operation whose machine
number is `≥ nm` makes the factory raise `IndexError`, contradicting `h`. -/
theorem obs_executed_of_mem (nm : Nat) (tmax : Int) (s : State) (obs : SimpleObs)
    (h : simpleObs nm tmax s = .ok obs) (n : Nat)
    (hids : (s.jobs.map (·.id)).Perm (List.range n)) (j : JobState) (hj : j ∈ s.jobs) :
    ∃ row, obs.jobExecutedOnMachine[j.id]? = some row ∧ row.length = nm ∧
      ∀ μ, μ < nm → row[μ]? = some (j.ops.any fun o => o.st == .done && o.machine == μ) := by
  have hget := sorted_getElem_of_mem (fun (x : JobState) => x.id) s.jobs n hids j hj
  obtain ⟨row, hrow, hr⟩ := forall2_getElem_left (simpleObs_ok h).1.exec j.id j hget
  refine ⟨row, hrow, ?_, fun μ hμ => exec_row_read nm j.ops row hr μ hμ⟩
  rw [(foldlM_listSet_ok (fun (o : OpState) => o.machine) (fun _ => true) _ _ _ hr).1,
    List.length_replicate]

theorem obs_done_machine_lt (nm : Nat) (tmax : Int) (s : State) (obs : SimpleObs)
    (h : simpleObs nm tmax s = .ok obs) :
    ∀ j ∈ s.jobs, ∀ o ∈ j.ops, o.st = .done → o.machine < nm := by
  intro j hj o ho hst
  obtain ⟨i, hi, hget⟩ := List.getElem_of_mem (mem_sortById.mpr hj : j ∈ sortById (·.id) s.jobs)
  obtain ⟨row, _, hr⟩ := forall2_getElem_left (simpleObs_ok h).1.exec i j (by simp [hi, hget])
  have hlen := (foldlM_listSet_ok (fun (o : OpState) => o.machine) (fun _ => true) _ _ _ hr).1
  have hmem : o ∈ j.ops.filter (·.st == .done) := List.mem_filter.mpr ⟨ho, by simp [hst]⟩
  have hw := foldlM_listSet_written (fun (o : OpState) => o.machine) (fun _ => true) o.machine true
    _ _ _ hr ⟨o, hmem, rfl⟩ (fun _ _ _ => rfl)
  have hlt : o.machine < row.length := by
    rcases Nat.lt_or_ge o.machine row.length with hlt | hge
    · exact hlt
    · rw [List.getElem?_eq_none hge] at hw
      cases hw
  rw [hlen, List.length_replicate] at hlt
  exact hlt

def opArrayMaxBuf (inst : Instance) : Int :=
  (inst.buffers.length + inst.machines.length * 3 + inst.transports.length : Nat) - 1

def OpEntryRead (time : Int) (o : OpState) (v : Rat) : Prop :=
  (o.st = .idle → v = 0) ∧ (o.st = .done → v = 1) ∧
  (o.st = .processing → ∃ a b, o.start = some a ∧ o.stop = some b ∧ b - a ≠ 0 ∧
    v = ((time - a : Int) : Rat) / ((b - a : Int) : Rat)) ∧
  o.st ≠ .transport

theorem opArrayObs_parts {inst : Instance} {s : State} {ops locs : List Rat}
    (h : opArrayObs inst s = .ok (ops, locs)) :
    List.Forall₂ (OpEntryRead s.time) (s.jobs.flatMap (·.ops)) ops ∧
    List.Forall₂ (fun (j : JobState) (v : Rat) =>
      opArrayMaxBuf inst ≠ 0 ∧ v = (j.loc : Rat) / (opArrayMaxBuf inst : Rat)) s.jobs locs := by
  unfold opArrayObs at h
  obtain ⟨ops', h1, h⟩ := except_bind_eq_ok h
  obtain ⟨locs', h2, h⟩ := except_bind_eq_ok h
  cases h
  constructor
  · refine (mapM_except_forall2 _ _ _ h1).imp ?_
    intro o v hv
    unfold OpEntryRead
    cases hst : o.st with
    | idle =>
      rw [hst] at hv
      cases hv
      exact ⟨fun _ => rfl, nofun, nofun, nofun⟩
    | done =>
      rw [hst] at hv
      cases hv
      exact ⟨nofun, fun _ => rfl, nofun, nofun⟩
    | transport => rw [hst] at hv; cases hv
    | processing =>
      rw [hst] at hv
      dsimp only at hv
      split at hv
      · rename_i a b ha hb
        by_cases hz : b - a = 0
        · rw [if_pos hz] at hv; cases hv
        · rw [if_neg hz] at hv
          cases hv
          exact ⟨nofun, nofun, fun _ => ⟨a, b, ha, hb, hz, rfl⟩, nofun⟩
      · cases hv
  · refine (mapM_except_forall2 _ _ _ h2).imp ?_
    intro j v hv
    have hv' : (if opArrayMaxBuf inst = 0 then (throw Err.zeroDivision : Except Err Rat)
        else pure ((j.loc : Rat) / (opArrayMaxBuf inst : Rat))) = .ok v := hv
    by_cases hz : opArrayMaxBuf inst = 0
    · rw [if_pos hz] at hv'
      cases hv'
    · rw [if_neg hz] at hv'
      cases hv'
      exact ⟨hz, rfl⟩

/-- **Operation entries**: the first array has one entry per operation record, in the order of
`state.jobs` and of each job's operations: 0 for an idle operation, 1 for a finished one, the
elapsed fraction `(time - start) / (stop - start)` for one in process (and no operation is in
state `transport`, for which the factory raises `NotImplementedError`). -/
theorem opArray_ops_read (inst : Instance) (s : State) (ops locs : List Rat)
    (h : opArrayObs inst s = .ok (ops, locs)) :
    ops.length = (s.jobs.flatMap (·.ops)).length ∧
    List.Forall₂ (OpEntryRead s.time) (s.jobs.flatMap (·.ops)) ops :=
  ⟨(opArrayObs_parts h).1.length_eq.symm, (opArrayObs_parts h).1⟩

theorem opArray_ops_read_at (inst : Instance) (s : State) (ops locs : List Rat)
    (h : opArrayObs inst s = .ok (ops, locs)) (i : Nat) (o : OpState)
    (ho : (s.jobs.flatMap (·.ops))[i]? = some o) :
    ∃ v, ops[i]? = some v ∧ OpEntryRead s.time o v :=
  forall2_getElem_left (opArrayObs_parts h).1 i o ho

/-- the same, position by position (positions of `state.jobs`, not job numbers) -/
theorem opArray_locs_read_at (inst : Instance) (s : State) (ops locs : List Rat)
    (h : opArrayObs inst s = .ok (ops, locs)) (i : Nat) (j : JobState)
    (hj : s.jobs[i]? = some j) :
    locs[i]? = some ((j.loc : Rat) / (opArrayMaxBuf inst : Rat)) ∧ opArrayMaxBuf inst ≠ 0 := by
  obtain ⟨v, hv, hz, rfl⟩ := forall2_getElem_left (opArrayObs_parts h).2 i j hj
  exact ⟨hv, hz⟩

/-- with no jobs the factory succeeds although the divisor may be zero: `maxBuf ≠ 0` is not a
consequence of success alone -/
theorem opArray_no_jobs_zero_divisor :
    let inst : Instance := { jobs := [], travel := [], machines := [], buffers := [default], transports := [] }
    let s : State := { jobs := [], time := 0, machines := [], transports := [], buffers := [] }
    opArrayMaxBuf inst = 0 ∧ opArrayObs inst s = .ok ([], []) := by
  decide

end JSL
