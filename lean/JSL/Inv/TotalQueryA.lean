import JSL.Inv.TotalOut

/-!
# The queries of a step do not raise

`create_timed_transitions`, `force_jump_to_event`, the end of the last finished operation and
`is_job_ready_for_pickup_from_postbuffer` return in every state that satisfies the invariants.
-/

namespace JSL

variable {inst : Instance}

theorem readyForPickup_totalT (w : WF inst) {s : State} (hI : StructInv inst s) {j : JobState} (hj : j ∈ s.jobs) :
    ∃ b, readyForPickup inst s j = .ok b := by
  have hin := hI.cons.located (j.id, j.loc) (List.mem_map.mpr ⟨j, hj, rfl⟩)
  simp only at hin
  obtain ⟨b, hb, hbi, e⟩ := storeAt_mem hin
  rw [e] at hin
  have hgs := getBufState_of_mem w hI.shape hb
  obtain ⟨bc, _, _, hgc⟩ := getBufCfg_of_state w hI.shape hb
  rw [hbi] at hgs hgc
  cases hidx : b.store.idxOf? j.id with
  | none => exact absurd hin (List.idxOf?_eq_none_iff.mp hidx)
  | some p => exact ⟨_, by simp [readyForPickup, hgs, hgc, hidx]; rfl⟩

theorem machineSetupTransition_total (w : WF inst) {s : State} (hI : StructInv inst s) {m : MachineState}
    (hm : m ∈ s.machines) : ∃ r, machineSetupTransition inst m = .ok r := by
  unfold machineSetupTransition
  split
  · obtain ⟨pc, _, _, hgc⟩ := getBufCfg_of_state w hI.shape (mem_allBufs_of_machine hm).1
    cases hn : nextJobFromBuffer m.pre pc with
    | none => exact ⟨_, by simp [hgc, hn]; rfl⟩
    | some x => exact ⟨_, by simp [hgc, hn]; rfl⟩
  · exact ⟨_, rfl⟩

theorem timedMachine_totalT (w : WF inst) {s : State} (hI : StructInv inst s) (hS : SchedInv s) {m : MachineState}
    (hm : m ∈ s.machines) (now : Int) : ∃ r, timedMachine inst now m = .ok r := by
  unfold timedMachine
  split
  · rename_i ns hns
    have hnext : machineTimedNext m.st = some ns := by
      split at hns
      · exact hns
      · simp at hns
    have hne : m.st ≠ .idle := by
      intro e; rw [e] at hnext; simp [machineTimedNext] at hnext
    obtain ⟨j, _, hst, _⟩ := hS.busyHolds m hm hne
    rw [hst]
    exact ⟨_, rfl⟩
  · split
    · exact machineSetupTransition_total w hI hm
    · exact ⟨_, rfl⟩

theorem agvIdleToPickTransition_total (w : WF inst) {s : State} (hI : StructInv inst s) (hA : AgvInv s)
    {t : TransportState} (ht : t ∈ s.transports) {x : Nat} (hx : t.job = some x) :
    ∃ r, agvIdleToPickTransition inst s t = .ok r := by
  obtain ⟨j, hj, hjx⟩ := hA.claimed t ht x hx
  have hg := getJob_of_mem (hI.shape.jobsNodup w) hj
  rw [hjx] at hg
  obtain ⟨b, hb⟩ := readyForPickup_totalT w hI hj
  exact ⟨_, by simp [agvIdleToPickTransition, hx, optE, hg, hb]; rfl⟩

theorem timedTransport_totalT (w : WF inst) {s : State} (hV : TotInv inst s) {t : TransportState}
    (ht : t ∈ s.transports) : ∃ r, timedTransport inst s t = .ok r := by
  unfold timedTransport
  cases hocc : t.occ with
  | none => exact ⟨_, rfl⟩
  | dep b j tr => exact absurd hocc (hV.shape.noDep t ht b j tr)
  | «at» o =>
    simp only
    split
    · cases hst : t.st with
      | idle => exact ⟨_, by simp [agvTimedCreator]; rfl⟩
      | working => exact absurd hst (hV.shape.noWorking t ht)
      | pickup =>
        obtain ⟨x, hx⟩ := hV.shape.busyClaims t ht (Or.inl hst)
        simp only [agvTimedCreator]
        exact agvIdleToPickTransition_total w hV.struct hV.full.agv ht hx
      | waitingpickup =>
        obtain ⟨x, hx⟩ := hV.shape.busyClaims t ht (Or.inr hst)
        simp only [agvTimedCreator]
        exact agvIdleToPickTransition_total w hV.struct hV.full.agv ht hx
      | transit =>
        obtain ⟨j, hj, hstore⟩ := hV.full.agv.holds t ht hst
        have hg := getJob_of_mem (hV.struct.shape.jobsNodup w) hj
        exact ⟨_, by simp [agvTimedCreator, hstore, hg]; rfl⟩
      | outage => exact ⟨_, by simp [agvTimedCreator]; rfl⟩
    · exact ⟨_, rfl⟩

theorem timedTransitions_totalT (w : WF inst) {s : State} (hV : TotInv inst s) : ∃ tt, timedTransitions inst s = .ok tt := by
  obtain ⟨a, ha⟩ := mapM_total (f := timedMachine inst s.time) (l := s.machines)
    (fun m hm => timedMachine_totalT w hV.struct hV.sched hm s.time)
  obtain ⟨b, hb⟩ := mapM_total (f := timedTransport inst s) (l := s.transports)
    (fun t ht => timedTransport_totalT w hV ht)
  exact ⟨_, by simp [timedTransitions, timedMachineTransitions, timedTransportTransitions, ha, hb]; rfl⟩

/-- `force_jump_to_event` never raises: processing records have an end, busy AGVs a fixed time -/
theorem forceJump_total {s : State} (hS : SchedInv s) (hN : NoDep s) : ∃ t, forceJump s = .ok t := by
  unfold forceJump
  refine bind_total (mapM_total ?_) (fun pe _ => bind_total (mapM_total ?_) (fun te _ => ?_))
  · intro o ho
    simp only [List.mem_filter, List.mem_flatMap, beq_iff_eq] at ho
    obtain ⟨⟨j, hj, hoj⟩, hst⟩ := ho
    obtain ⟨_, b, _, hb, _⟩ := (OpsOK_mem _ _ (hS.ops j hj) o hoj).2.1 hst
    exact ⟨b, by simp [hb]⟩
  · intro t ht
    simp only [List.mem_filter, Bool.and_eq_true, bne_iff_ne, ne_eq] at ht
    obtain ⟨e, he⟩ := hN t ht.1 ht.2.1
    exact ⟨e, by simp [he]⟩
  · cases minList pe <;> cases minList te <;> exact ⟨_, rfl⟩

/-- `lastDoneEnd` never raises: done records have an end -/
theorem lastDoneEnd_total {s : State} (hS : SchedInv s) : ∃ e, lastDoneEnd s = .ok e := by
  unfold lastDoneEnd
  refine bind_total (mapM_total ?_) (fun ends _ => ?_)
  · intro o ho
    simp only [List.mem_filter, List.mem_flatMap, beq_iff_eq] at ho
    obtain ⟨⟨j, hj, hoj⟩, hst⟩ := ho
    obtain ⟨_, b, _, hb, _⟩ := (OpsOK_mem _ _ (hS.ops j hj) o hoj).1 hst
    exact ⟨b, by simp [hb]⟩
  · cases ends <;> exact ⟨_, rfl⟩

end JSL
