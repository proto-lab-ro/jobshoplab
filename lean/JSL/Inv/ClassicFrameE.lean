import JSL.Inv.ClassicFrame
import JSL.Inv.ClassicInvE
import JSL.Inv.ClassicTotalDefsR
import JSL.Inv.ClassicStepE
import JSL.Inv.ClassicTotalsE

/-!
# Frames of enabled transitions with early dispatch: `EnGSE` is kept, the measure `muE`

* `apply_frameE` – what one enabled transition (not a machine start) leaves untouched (`EnFrameE`:
  like `EnFrame`, and a machine transition keeps its job `Pickable`);
* `enGSE_step` – after the first transition of a batch the rest of the batch is still enabled;
* `rwE_keep` – an up-to-date re-wait does not turn a later transition into an up-to-date re-wait;
* `muE_le`, `muE_mono`, `muE_step` – the measure `muE = 2 * stage + staleCount`.
-/

namespace JSL

variable {orc : Oracle} {inst : Instance}

structure EnFrameE (inst : Instance) (s s' : State) (a : Transition) : Prop where
  machines : ∀ m ∈ s.machines, a.comp ≠ .m m.id →
    ∃ m' ∈ s'.machines, m'.id = m.id ∧ m'.st = m.st ∧ m'.buffer.store = m.buffer.store ∧ m'.occ = m.occ
  transports : ∀ t ∈ s.transports, a.comp ≠ .t t.id → t ∈ s'.transports
  jobs : ∀ j ∈ s.jobs, ∃ j' ∈ s'.jobs, j'.id = j.id ∧ (a.job ≠ some j.id → j' = j) ∧
    ((∃ mid, a.comp = .m mid) → Pickable inst j → Pickable inst j')
  claims : ∀ t' ∈ s'.transports, ∀ x, t'.job = some x →
    (∃ t ∈ s.transports, t.job = some x) ∨ (a.new = .t .working ∧ a.job = some x)

theorem EnFrameE.toFrame {s s' : State} {a : Transition} (F : EnFrameE inst s s' a) : EnFrame s s' a :=
  ⟨F.machines, F.transports,
   fun j hj => by obtain ⟨j', h1, h2, h3, _⟩ := F.jobs j hj; exact ⟨j', h1, h2, h3⟩, F.claims⟩

theorem frame_replaceJobE {s : State} (hnd : (s.jobs.map (·.id)).Nodup) {j0 J : JobState}
    (hj0 : j0 ∈ s.jobs) (hid : J.id = j0.id) (hP : Pickable inst j0 → Pickable inst J) {j : JobState} (hj : j ∈ s.jobs) :
    ∃ j' ∈ (s.replaceJob J).jobs, j'.id = j.id ∧ (some j0.id ≠ some j.id → j' = j) ∧
      (Pickable inst j → Pickable inst j') := by
  by_cases e : j.id = j0.id
  · have : j = j0 := eq_of_mem_of_key_eq (key := fun (y : JobState) => y.id) hnd hj hj0 e
    subst this
    refine ⟨J, (mem_replaceJob hnd hj0 hid J).mpr (Or.inl rfl), hid, ?_, hP⟩
    intro h; exact absurd rfl h
  · exact ⟨j, (mem_replaceJob hnd hj0 hid j).mpr (Or.inr ⟨hj, e⟩), rfl, fun _ => rfl, fun h => h⟩

theorem frame_jobs_sameE {s s' : State} (h : s'.jobs = s.jobs) (a : Transition) {j : JobState} (hj : j ∈ s.jobs) :
    ∃ j' ∈ s'.jobs, j'.id = j.id ∧ (a.job ≠ some j.id → j' = j) ∧
      ((∃ mid, a.comp = .m mid) → Pickable inst j → Pickable inst j') :=
  ⟨j, h ▸ hj, rfl, fun _ => rfl, fun _ h => h⟩

theorem frame_jobs_agvE {s' : State} {a : Transition} {tid : Nat} (hc : a.comp = .t tid) {j : JobState}
    (h : ∃ j' ∈ s'.jobs, j'.id = j.id ∧ (a.job ≠ some j.id → j' = j)) :
    ∃ j' ∈ s'.jobs, j'.id = j.id ∧ (a.job ≠ some j.id → j' = j) ∧
      ((∃ mid, a.comp = .m mid) → Pickable inst j → Pickable inst j') := by
  obtain ⟨j', h1, h2, h3⟩ := h
  refine ⟨j', h1, h2, h3, ?_⟩
  rintro ⟨mid, hm⟩
  rw [hc] at hm; cases hm

theorem pickable_of_loc {j J : JobState} (h : J.loc = j.loc) : Pickable inst j → Pickable inst J := by
  unfold Pickable; rw [h]; exact id

theorem en_of_enE {s : State} {a : Transition} (hE : EnE inst s a) :
    (En inst s a ∧ a.new ≠ .t .working) ∨
      (∃ t ∈ s.transports, ∃ job, t.st = .idle ∧ a = ⟨.t t.id, .t .working, job⟩) ∨
      ∃ t j, t ∈ s.transports ∧ t.st = .waitingpickup ∧ j ∈ s.jobs ∧ t.job = some j.id ∧
        a = ⟨.t t.id, .t .waitingpickup, some j.id⟩ := by
  cases hE with
  | start tr hn => exact Or.inl ⟨.start _ hn, by rw [hn]; nofun⟩
  | mWork m x hm hst hstore => exact Or.inl ⟨.mWork m x hm hst hstore, nofun⟩
  | mOut m x hm hst hstore => exact Or.inl ⟨.mOut m x hm hst hstore, nofun⟩
  | mIdle m x hm hst hstore => exact Or.inl ⟨.mIdle m x hm hst hstore, nofun⟩
  | dispatch t j ht hst hj hloc hfree => exact Or.inr (Or.inl ⟨t, ht, _, hst, rfl⟩)
  | wait t j ht hst hj htjob => exact Or.inl ⟨.wait t j ht hst hj htjob, nofun⟩
  | rewait t j ht hst hj htjob => exact Or.inr (Or.inr ⟨t, j, ht, hst, hj, htjob, rfl⟩)
  | pick t j ht hst hj htjob hloc => exact Or.inl ⟨.pick t j ht hst hj htjob, nofun⟩
  | deliver t j ht hst hj hstore => exact Or.inl ⟨.deliver t j ht hst hj hstore, nofun⟩
  | release t ht hst => exact Or.inl ⟨.release t ht hst, nofun⟩

theorem EnE.pick_loc {s : State} {a : Transition} (hjn : (s.jobs.map (·.id)).Nodup) (hE : EnE inst s a)
    (hn : a.new = .t .transit) {j : JobState} (hj : j ∈ s.jobs) (hjob : a.job = some j.id) :
    j.loc ∈ pickupPlaces inst := by
  cases hE with
  | pick t j' ht hst hj' htjob hloc =>
    rw [eq_of_mem_of_key_eq (key := fun (y : JobState) => y.id) hjn hj hj' (Option.some.inj hjob).symm]
    exact hloc
  | start tr hn' => rw [hn] at hn'; cases hn'
  | mWork => cases hn
  | mOut => cases hn
  | mIdle => cases hn
  | dispatch => cases hn
  | wait => cases hn
  | rewait => cases hn
  | deliver => cases hn
  | release => cases hn

theorem apply_frameE (w : WF inst) {s s' : State} {r r' : Rng} {a : Transition} (hI : StructInv inst s)
    (hE : EnE inst s a) (hns : a.new ≠ .m .setup) (h : applyTransition orc inst s r a = .ok (s', r')) :
    EnFrameE inst s s' a := by
  have hs := hI.shape
  have hmn := hs.machNodup w
  have hjn := hs.jobsNodup w
  -- dispatch, wait, re-wait, release: only the record `T` of the AGV is exchanged
  have agvOnly : ∀ {t T : TransportState}, t ∈ s.transports → T.id = t.id → a.comp = .t t.id →
      (∀ x, T.job = some x → t.job = some x ∨ (a.new = .t .working ∧ a.job = some x)) →
      s' = s.replaceTransport T → EnFrameE inst s s' a := by
    rintro t T ht hT hc hjob rfl
    refine ⟨fun m hm _ => frame_machines_same rfl hm, ?_, fun j1 hj1 => frame_jobs_sameE rfl _ hj1, ?_⟩
    · intro t1 ht1 hne
      exact cs_keep_replaceTransport ht1 (fun e => hne (by rw [hc, ← hT, e]))
    · intro t' ht' x hx
      rcases cs_mem_replaceTransport ht' with rfl | ⟨ht', _⟩
      · rcases hjob x hx with e | e
        · exact Or.inl ⟨t, ht, e⟩
        · exact Or.inr e
      · exact Or.inl ⟨t', ht', hx⟩
  rcases en_of_enE hE with ⟨hEn, hnd⟩ | ⟨t, ht, job, hst, rfl⟩ | ⟨t, j, ht, hst, hj, htjob, rfl⟩
  · cases en_effect w hI hEn hns hnd h with
    | machine m M j J ns ha hm hM _ hj _ hJ hloc e1 e2 e3 =>
      -- the record `M` of the machine and the record `J` of its job are exchanged
      subst ha
      have hP : Pickable inst j → Pickable inst J := by
        rcases hloc with e | e
        · exact pickable_of_loc e
        · exact fun _ => Or.inl (e ▸ cs_post_pickup hs hm)
      refine ⟨?_, fun t ht _ => by rw [e3]; exact ht, ?_, fun t' ht' x hx => Or.inl ⟨t', by rw [← e3]; exact ht', hx⟩⟩
      · intro m1 hm1 hne
        rw [e1]
        exact frame_replaceMachine hmn hm hM hm1 (Or.inl fun e => hne (by simp [e]))
      · intro j1 hj1
        rw [e2]
        obtain ⟨j', h1, h2, h3, h4⟩ := frame_replaceJobE (inst := inst) hjn hj hJ hP hj1
        exact ⟨j', h1, h2, h3, fun _ => h4⟩
    | agv t T ha ht hid _ hjob _ es => exact agvOnly ht hid ha (fun x hx => Or.inl (hjob ▸ hx)) es
    | move t T j l ns ha ht hT _ hjob _ hj _ e3 e2 eM =>
      -- the record `T` of the AGV and the record of the job it claims are exchanged, the machines keep state, store
      -- and `occupied_till`
      subst ha
      refine ⟨?_, ?_, ?_, ?_⟩
      · intro m1 hm1 _
        rcases eM with eM | ⟨ms, hms, M, hMid, hMst, hMocc, hstore, eM⟩
        · exact frame_machines_same eM hm1
        · rw [eM]
          refine frame_replaceMachine hmn hms hMid hm1 (Or.inr ⟨hMst, hstore fun hn e => ?_, hMocc⟩)
          -- the job lies at a pickup place, so the buffer it is taken from is not the internal buffer
          exact (cs_machine_not_pickup w hs hms).2 (e ▸ hE.pick_loc hjn hn hj rfl)
      · intro t1 ht1 hne
        rw [e3]
        exact cs_keep_replaceTransport ht1 (fun e => hne (by simp [← hT, e]))
      · intro j1 hj1
        rw [e2]
        exact frame_jobs_agvE (tid := t.id) rfl (frame_replaceJob (J := j.at l) hjn hj rfl hj1)
      · intro t' ht' x hx
        rw [e3] at ht'
        rcases cs_mem_replaceTransport ht' with rfl | ⟨ht', _⟩
        · exact Or.inl ⟨t, ht, hjob x hx⟩
        · exact Or.inl ⟨t', ht', hx⟩
  · obtain ⟨j2, cur, target, src, bc, c, hj2, htj, _, _, _, _, _, _, _, e⟩ := idleToWorking_spec (apply_agv w hs ht hst h)
    exact agvOnly ht (by rfl) rfl (fun x hx => Or.inr ⟨rfl, htj.trans hx⟩) e
  · obtain ⟨occ, _, _, e⟩ := waitingToWaiting_spec (apply_agv w hs ht hst h)
    exact agvOnly (T := t.toWaiting occ) ht rfl rfl (fun x hx => Or.inl hx) e

theorem enE_agv_claims {s : State} {a : Transition} (hA : AgvFull inst s) (hE : EnE inst s a)
    (hns : a.new ≠ .m .setup) (hnd : a.new ≠ .t .working) {tid : Nat} (hc : a.comp = .t tid) {x : Nat} (hx : a.job = some x) :
    ∃ t ∈ s.transports, t.id = tid ∧ t.job = some x := by
  cases hE with
  | start tr hn => exact absurd hn hns
  | mWork m y hm hst hstore => cases hc
  | mOut m y hm hst hstore => cases hc
  | mIdle m y hm hst hstore => cases hc
  | dispatch t j ht hst hj hloc hfree => exact absurd rfl hnd
  | wait t j ht hst hj htjob =>
    simp only at hc hx; cases hc
    exact ⟨t, ht, rfl, by rw [htjob, hx]⟩
  | rewait t j ht hst hj htjob =>
    simp only at hc hx; cases hc
    exact ⟨t, ht, rfl, by rw [htjob, hx]⟩
  | pick t j ht hst hj htjob hloc =>
    simp only at hc hx; cases hc
    exact ⟨t, ht, rfl, by rw [htjob, hx]⟩
  | deliver t j ht hst hj hstore =>
    simp only at hc hx; cases hc
    have := hA.route.transitOwn t ht hst j.id (by rw [hstore]; simp)
    exact ⟨t, ht, rfl, by rw [this, hx]⟩
  | release t ht hst => cases hx

theorem EnE.comp_cases {s : State} {a : Transition} (hE : EnE inst s a) (hns : a.new ≠ .m .setup) :
    (∃ m ∈ s.machines, a.comp = .m m.id ∧ ∃ x, m.buffer.store = [x] ∧ a.job = some x) ∨
      ∃ t ∈ s.transports, a.comp = .t t.id := by
  cases hE with
  | start tr hn => exact absurd hn hns
  | mWork m x hm hst hstore => exact Or.inl ⟨m, hm, rfl, x, hstore, rfl⟩
  | mOut m x hm hst hstore => exact Or.inl ⟨m, hm, rfl, x, hstore, rfl⟩
  | mIdle m x hm hst hstore => exact Or.inl ⟨m, hm, rfl, x, hstore, rfl⟩
  | dispatch t j ht hst hj hloc hfree => exact Or.inr ⟨t, ht, rfl⟩
  | wait t j ht hst hj htjob => exact Or.inr ⟨t, ht, rfl⟩
  | rewait t j ht hst hj htjob => exact Or.inr ⟨t, ht, rfl⟩
  | pick t j ht hst hj htjob hloc => exact Or.inr ⟨t, ht, rfl⟩
  | deliver t j ht hst hj hstore => exact Or.inr ⟨t, ht, rfl⟩
  | release t ht hst => exact Or.inr ⟨t, ht, rfl⟩

theorem enE_job_free {s : State} {a : Transition} (hA : AgvFull inst s) (hE : EnE inst s a)
    (hns : a.new ≠ .m .setup) (hnd : a.new ≠ .t .working) {j : JobState}
    (hfree : ∀ t ∈ s.transports, t.job ≠ some j.id) : a.job ≠ some j.id ∨ ∃ mid, a.comp = .m mid := by
  rcases hE.comp_cases hns with ⟨m, _, hc, _⟩ | ⟨t0, _, hc⟩
  · exact Or.inr ⟨m.id, hc⟩
  · left
    intro e
    obtain ⟨t, ht, _, htj⟩ := enE_agv_claims hA hE hns hnd hc e
    exact hfree t ht htj

theorem enE_job_claimed (w : WF inst) {s : State} {a : Transition} (hI : StructInv inst s) (hA : AgvFull inst s)
    (hE : EnE inst s a) (hns : a.new ≠ .m .setup) {j : JobState} (hj : j ∈ s.jobs)
    (hloc : j.loc ∈ pickupPlaces inst) {tb : TransportState} (htb : tb ∈ s.transports)
    (hclaim : tb.job = some j.id) (hne : a.comp ≠ .t tb.id) : a.job ≠ some j.id := by
  have hs := hI.shape
  rcases hE.comp_cases hns with ⟨m, hm, _, x, hst, hx⟩ | ⟨t0, _, hc⟩
  · -- the job of a machine transition lies in the internal buffer, which is no pickup place
    rw [hx]
    intro e
    obtain rfl := Option.some.inj e
    have hin : j.id ∈ storeAt s m.buffer.id := by
      rw [(pre_storeAt w hs hm).2, hst]; simp
    have := job_of_store hI.cons hj hin (hs.jobsNodup w)
    exact (cs_machine_not_pickup w hs hm).2 (by rw [← this]; exact hloc)
  · intro e
    by_cases hnd : a.new = .t .working
    · -- a dispatch goes to a job that nobody claims
      cases hE with
      | dispatch t j2 ht hst hj2 hloc2 hfree2 => exact hfree2 tb htb (by rw [hclaim]; exact e.symm)
      | start tr hn => exact absurd hn hns
      | mWork m y hm hst hstore => cases hnd
      | mOut m y hm hst hstore => cases hnd
      | mIdle m y hm hst hstore => cases hnd
      | wait t j ht hst hj htjob => cases hnd
      | rewait t j ht hst hj htjob => cases hnd
      | pick t j ht hst hj htjob hloc => cases hnd
      | deliver t j ht hst hj hstore => cases hnd
      | release t ht hst => cases hnd
    · obtain ⟨t, ht, hid, htj⟩ := enE_agv_claims hA hE hns hnd hc e
      have := hA.agv.unique t ht tb htb j.id htj hclaim
      exact hne (by rw [hc, ← hid, this])

theorem enE_of_frame {s s' : State} {a b : Transition} (F : EnFrameE inst s s' a) (hab : Apart a b)
    (hjobD : ∀ t j, b = ⟨.t t, .t .working, some j.id⟩ → j ∈ s.jobs → Pickable inst j →
      (∀ t' ∈ s.transports, t'.job ≠ some j.id) → a.job ≠ some j.id ∨ ∃ mid, a.comp = .m mid)
    (hjobP : ∀ t j, t ∈ s.transports → b.comp = .t t.id → t.job = some j.id → j ∈ s.jobs →
      j.loc ∈ pickupPlaces inst → a.job ≠ some j.id)
    (hE : EnE inst s b) : EnE inst s' b := by
  cases hE with
  | start tr hn => exact .start _ hn
  | mWork m x hm hst hstore =>
    obtain ⟨m', hm', e1, e2, e3, _⟩ := F.machines m hm hab.1
    rw [← e1]
    exact .mWork m' x hm' (by rw [e2, hst]) (by rw [e3, hstore])
  | mOut m x hm hst hstore =>
    obtain ⟨m', hm', e1, e2, e3, _⟩ := F.machines m hm hab.1
    rw [← e1]
    exact .mOut m' x hm' (by rw [e2, hst]) (by rw [e3, hstore])
  | mIdle m x hm hst hstore =>
    obtain ⟨m', hm', e1, e2, e3, _⟩ := F.machines m hm hab.1
    rw [← e1]
    exact .mIdle m' x hm' (by rw [e2, hst]) (by rw [e3, hstore])
  | dispatch t j ht hst hj hloc hfree =>
    have ht' := F.transports t ht hab.1
    obtain ⟨j', hj', e1, e2, e3⟩ := F.jobs j hj
    have hloc' : Pickable inst j' := by
      rcases hjobD t.id j rfl hj hloc hfree with hne | hm
      · rw [e2 hne]; exact hloc
      · exact e3 hm hloc
    rw [← e1]
    refine .dispatch t j' ht' hst hj' hloc' ?_
    intro t' h' e
    rw [e1] at e
    rcases F.claims t' h' j.id e with ⟨t0, ht0, e0⟩ | ⟨hn, e0⟩
    · exact hfree t0 ht0 e0
    · exact hab.2 hn rfl e0
  | wait t j ht hst hj htjob =>
    have ht' := F.transports t ht hab.1
    obtain ⟨j', hj', e1, _⟩ := F.jobs j hj
    rw [← e1]
    exact .wait t j' ht' hst hj' (by rw [e1]; exact htjob)
  | rewait t j ht hst hj htjob =>
    have ht' := F.transports t ht hab.1
    obtain ⟨j', hj', e1, _⟩ := F.jobs j hj
    rw [← e1]
    exact .rewait t j' ht' hst hj' (by rw [e1]; exact htjob)
  | pick t j ht hst hj htjob hloc =>
    have ht' := F.transports t ht hab.1
    obtain ⟨j', hj', _, e2, _⟩ := F.jobs j hj
    have := e2 (hjobP t j ht rfl htjob hj hloc); subst this
    exact .pick t j' ht' hst hj' htjob hloc
  | deliver t j ht hst hj hstore =>
    have ht' := F.transports t ht hab.1
    obtain ⟨j', hj', e1, _⟩ := F.jobs j hj
    rw [← e1]
    exact .deliver t j' ht' hst hj' (by rw [e1]; exact hstore)
  | release t ht hst => exact .release t (F.transports t ht hab.1) hst

theorem enGSE_step (w : WF inst) {s s' : State} {r r' : Rng} {a : Transition} {R : List Transition}
    (hI : StructInv inst s) (hA : AgvFull inst s) (hgs : EnGSE inst s (a :: R)) (h : applyTransition orc inst s r a = .ok (s', r')) : EnGSE inst s' R := by
  by_cases hns : a.new = .m .setup
  · have := hgs.alone a (by simp) hns
    simp at this; subst this
    exact EnGSE.nil s'
  · have hE := hgs.en a (by simp)
    have F := apply_frameE w hI hE hns h
    have hap := (List.pairwise_cons.mp hgs.apart).1
    refine ⟨?_, hgs.tail.apart, hgs.tail.alone⟩
    intro b hb
    refine enE_of_frame F (hap b hb) ?_ ?_ (hgs.en b (by simp [hb]))
    · intro t j hbe hj hloc hfree
      by_cases hnd : a.new = .t .working
      · have := (hap b hb).2 hnd (by rw [hbe])
        rw [hbe] at this; exact Or.inl this
      · exact enE_job_free hA hE hns hnd hfree
    · intro t j ht hbc htjob hj hloc
      exact enE_job_claimed w hI hA hE hns hj hloc ht htjob (fun e => (hap b hb).1 (by rw [e, hbc]))

theorem staleB_congr {s s' : State} (h : s'.jobs = s.jobs) (t : TransportState) : staleB s' t = staleB s t := by
  unfold staleB; rw [h]

theorem rwE_keep (w : WF inst) {s s' : State} {r r' : Rng} {a : Transition} {R : List Transition} (hI : StructInv inst s)
    (hgs : EnGSE inst s (a :: R)) (hrw : RWE s a) (h : applyTransition orc inst s r a = .ok (s', r')) :
    ∀ b ∈ R, RWE s' b → RWE s b := by
  obtain ⟨t, ht, hc, hst, hn, _⟩ := hrw
  have hap := (List.pairwise_cons.mp hgs.apart).1
  obtain ⟨c, n, job⟩ := a
  simp only at hc hn
  subst hc hn
  obtain ⟨occ, _, _, rfl⟩ := waitingToWaiting_spec (apply_agv w hI.shape ht hst h)
  rintro b hb ⟨t', ht', hc', hst', hn', hstale⟩
  rcases cs_mem_replaceTransport ht' with rfl | ⟨ht', _⟩
  · exact absurd hc'.symm (hap b hb).1
  · exact ⟨t', ht', hc', hst', hn', by rw [← hstale]; exact (staleB_congr rfl t').symm⟩


theorem countP_eq_sum_ite {α} (p : α → Bool) (l : List α) :
    l.countP p = (l.map fun x => if p x = true then 1 else 0).sum := by
  induction l with
  | nil => rfl
  | cons x xs ih =>
    simp only [List.countP_cons, List.map_cons, List.sum_cons, ih]
    split <;> omega

theorem countP_le_add {α} (p q c : α → Bool) (l : List α)
    (h : ∀ x ∈ l, q x = true → p x = true ∨ c x = true) : l.countP q ≤ l.countP p + l.countP c := by
  induction l with
  | nil => simp
  | cons x xs ih =>
    have ih' := ih (fun y hy => h y (List.mem_cons_of_mem _ hy))
    simp only [List.countP_cons]
    by_cases hq : q x = true
    · rw [if_pos hq]
      refine Nat.le_trans (Nat.add_le_add_right ih' 1) ?_
      rcases h x List.mem_cons_self hq with hp | hc
      · rw [if_pos hp, Nat.add_right_comm]
        exact Nat.add_le_add_left (Nat.le_add_right _ _) _
      · rw [if_pos hc, Nat.add_assoc]
        exact Nat.add_le_add_right (Nat.le_add_right _ _) _
    · rw [if_neg hq]
      exact Nat.le_trans ih' (Nat.add_le_add (Nat.le_add_right _ _) (Nat.le_add_right _ _))

theorem countP_le_one_of_key {α} {key : α → Nat} {l : List α} (hnd : (l.map key).Nodup) (c : α → Bool)
    (h : ∀ a ∈ l, ∀ b ∈ l, c a = true → c b = true → key a = key b) : l.countP c ≤ 1 := by
  induction l with
  | nil => simp
  | cons x xs ih =>
    simp only [List.map_cons, List.nodup_cons, List.mem_map, not_exists, not_and] at hnd
    have ih' := ih hnd.2 (fun a ha b hb => h a (by simp [ha]) b (by simp [hb]))
    simp only [List.countP_cons]
    cases hx : c x with
    | false => simpa using ih'
    | true =>
      have : xs.countP c = 0 := by
        apply List.countP_eq_zero.mpr
        intro y hy hcy
        exact hnd.1 y hy (h y (by simp [hy]) x (by simp) hcy hx)
      simp [this]

/-- what `staleB` reads of the job list -/
def opsView (s : State) : List (Nat × List OpState) := s.jobs.map fun j => (j.id, j.ops)

theorem staleB_view {s s' : State} (h : opsView s' = opsView s) (t : TransportState) : staleB s' t = staleB s t := by
  have key : ∀ (S : State) (x : Nat) (c : Int),
      (S.jobs.any fun j => j.id == x && j.ops.any fun o => o.st == .processing && o.stop != some c) =
      (opsView S).any (fun p => p.1 == x && p.2.any fun o => o.st == .processing && o.stop != some c) := by
    intro S x c
    simp only [opsView, List.any_map]
    rfl
  unfold staleB
  cases t.job with
  | none => rfl
  | some x =>
    cases t.occ with
    | «at» c => simp only [key, h]
    | none => rfl
    | dep _ _ _ => rfl

theorem staleCount_view {s S : State} (hv : opsView S = opsView s) : staleCount S = S.transports.countP (staleB s) := by
  unfold staleCount
  congr 1
  funext t
  exact staleB_view hv t

theorem staleCount_transport {s S : State} (hnd : (s.transports.map (·.id)).Nodup) {t0 T : TransportState}
    (ht0 : t0 ∈ s.transports) (hid : T.id = t0.id) (hT : S.transports = (s.replaceTransport T).transports)
    (hv : opsView S = opsView s) :
    staleCount S + (if staleB s t0 = true then 1 else 0) = staleCount s + (if staleB s T = true then 1 else 0) := by
  have := sum_map_replace (key := fun (y : TransportState) => y.id) hnd ht0 hid
    (fun t => if staleB s t = true then 1 else 0)
  rw [staleCount_view hv, hT]
  unfold staleCount
  rw [countP_eq_sum_ite, countP_eq_sum_ite]
  simp only [State.replaceTransport]
  omega

theorem staleCount_transport_le {s S : State} (hnd : (s.transports.map (·.id)).Nodup) {t0 T : TransportState}
    (ht0 : t0 ∈ s.transports) (hid : T.id = t0.id) (hT : S.transports = (s.replaceTransport T).transports)
    (hv : opsView S = opsView s) : staleCount S ≤ staleCount s + 1 := by
  have := staleCount_transport hnd ht0 hid hT hv
  have h1 : (if staleB s T = true then 1 else 0) ≤ 1 := by
    split
    · exact Nat.le_refl 1
    · exact Nat.zero_le 1
  exact Nat.le_trans (Nat.le_add_right _ _) (this ▸ Nat.add_le_add_left h1 _)

theorem opsView_at {s S : State} (hnd : (s.jobs.map (·.id)).Nodup) {j : JobState} (hj : j ∈ s.jobs) (l : Nat)
    (hS : S.jobs = (s.replaceJob (j.at l)).jobs) : opsView S = opsView s := by
  unfold opsView
  rw [hS]
  exact map_replace (key := fun (y : JobState) => y.id) (m' := j.at l) hnd hj rfl _ rfl

theorem any_replace_irrelevant {l : List JobState} {J : JobState} (f : JobState → Bool)
    (hf : ∀ y : JobState, y.id = J.id → f y = false) :
    (l.map fun y => if y.id == J.id then J else y).any f = l.any f := by
  induction l with
  | nil => rfl
  | cons x xs ih =>
    simp only [List.map_cons, List.any_cons, ih]
    split
    · rename_i e
      rw [hf J rfl, hf x (by simpa using e)]
    · rfl

/-- the records of one job change: only the AGV that claims this job can become stale -/
theorem staleCount_job {s S : State} (htn : (s.transports.map (·.id)).Nodup)
    (hU : ∀ t1 ∈ s.transports, ∀ t2 ∈ s.transports, ∀ x, t1.job = some x → t2.job = some x → t1.id = t2.id)
    {j0 J : JobState} (hid : J.id = j0.id) (hT : S.transports = s.transports)
    (hJ : S.jobs = (s.replaceJob J).jobs) : staleCount S ≤ staleCount s + 1 := by
  unfold staleCount
  rw [hT]
  have h1 := countP_le_add (staleB s) (staleB S) (fun t => t.job == some j0.id) s.transports (by
    intro t _ hq
    by_cases e : t.job = some j0.id
    · right; simp [e]
    · left
      rw [← hq]
      unfold staleB
      cases htj : t.job with
      | none => rfl
      | some x =>
        have hx : x ≠ j0.id := fun e' => e (by rw [htj, e'])
        cases t.occ with
        | none => rfl
        | dep _ _ _ => rfl
        | «at» c =>
          have hany := any_replace_irrelevant (l := s.jobs) (J := J)
            (fun j : JobState => j.id == x && j.ops.any fun o => o.st == OSt.processing && o.stop != some c)
            (fun y hy => by simp [hy, hid, Ne.symm hx])
          simp only [hJ, State.replaceJob, hany])
  have h2 := countP_le_one_of_key (key := fun (y : TransportState) => y.id) htn (fun t => t.job == some j0.id) (by
    intro a ha b hb ca cb
    exact hU a ha b hb j0.id (by simpa using ca) (by simpa using cb))
  exact Nat.le_trans h1 (Nat.add_le_add_left h2 _)

theorem staleB_false_of_fresh {s : State} {T : TransportState} {x : Nat} {c : Int} (hjob : T.job = some x)
    (hocc : T.occ = .at c)
    (hfresh : ∀ y ∈ s.jobs, y.id = x → ∀ o ∈ y.ops, o.st = .processing → o.stop = some c) : staleB s T = false := by
  unfold staleB
  rw [hjob, hocc]
  simp only [Bool.and_eq_false_imp]
  intro _
  apply List.any_eq_false.mpr
  intro y hy
  simp only [Bool.and_eq_true, not_and, beq_iff_eq]
  intro e
  simp only [Bool.not_eq_true]
  apply List.any_eq_false.mpr
  intro o ho
  simp only [Bool.and_eq_true, not_and, beq_iff_eq]
  intro hp
  simp [hfresh y hy e o ho hp]

/-- twice the bound of `stage` (3 per machine, 5 per AGV), and 1 per AGV for `staleCount` -/
theorem muE_le {s : State} (hs : Shape inst s) : muE s ≤ 6 * inst.machines.length + 11 * inst.transports.length := by
  have h1 := stage_le hs
  have h2 : staleCount s ≤ s.transports.length := List.countP_le_length
  rw [hs.transports_length] at h2
  unfold muE
  omega

theorem staleCount_step (w : WF inst) {s s' : State} {r r' : Rng} {a : Transition} (hI : StructInv inst s)
    (hA : AgvFull inst s) (hE : En inst s a) (hns : a.new ≠ .m .setup) (hnd : a.new ≠ .t .working)
    (h : applyTransition orc inst s r a = .ok (s', r')) : staleCount s' ≤ staleCount s + 1 := by
  have htn := hI.shape.trNodup w
  cases en_effect w hI hE hns hnd h with
  | machine m M j J _ _ _ _ _ _ _ hJ _ _ eJ eT => exact staleCount_job htn hA.agv.unique hJ eT eJ
  | agv t T _ ht hid _ _ _ es => exact staleCount_transport_le htn ht hid (by rw [es]) (by rw [es]; rfl)
  | move t T j l _ _ ht hid _ _ _ hj _ eT eJ _ =>
    exact staleCount_transport_le htn ht hid eT (opsView_at (hI.shape.jobsNodup w) hj l eJ)

theorem rewait_fresh (w : WF inst) {s : State} (hI : StructInv inst s) (hS : SchedInv s) {j : JobState}
    (hj : j ∈ s.jobs) {c : Int} (h1 : j.loc ∈ pickupPlaces inst → c = s.time)
    (h2 : j.loc ∈ internalIds inst → ∃ op, j.processing? = some op ∧ op.stop = some c) (hP : Pickable inst j) :
    ∀ y ∈ s.jobs, y.id = j.id → ∀ o ∈ y.ops, o.st = .processing → o.stop = some c := by
  intro y hy e o ho hp
  have : y = j := eq_of_mem_of_key_eq (key := fun (y : JobState) => y.id) (hI.shape.jobsNodup w) hy hj e
  subst this
  rcases hP with hloc | hloc
  · have hr := pickup_not_running w hI hS hj hloc
    unfold JobState.running at hr
    have := List.any_eq_false.mp hr o ho
    simp [hp] at this
  · obtain ⟨op, hop, hstop⟩ := h2 hloc
    obtain ⟨_, _, _, _, hpst⟩ := processing?_split' hop
    have hmem := (find?_mem_ops hop).1
    have := OpsOK_one_processing y.ops none (hS.ops y hy) o ho op hmem hp hpst
    rw [this]; exact hstop

theorem muE_down {a a' b b' : Nat} (h1 : a' + 1 = a) (h2 : b' ≤ b + 1) : 2 * a' + b' + 1 ≤ 2 * a + b := by omega

theorem muE_core (w : WF inst) (hC : Classic inst) {s s' : State} {r r' : Rng} {a : Transition}
    (hI : StructInv inst s) (hS : SchedInv s) (hB : BundleE inst s) (hE : EnE inst s a)
    (hns : a.new ≠ .m .setup) (hnd : a.new ≠ .t .working)
    (h : applyTransition orc inst s r a = .ok (s', r')) :
    muE s' ≤ muE s ∧ (¬ RWE s a → muE s' + 1 ≤ muE s) := by
  have htn := hI.shape.trNodup w
  rcases en_of_enE hE with ⟨hEn, _⟩ | ⟨t, _, job, _, rfl⟩ | ⟨t, j, ht, hst, hj, htjob, rfl⟩
  · have := muE_down (stage_step w hI hEn hns hnd h) (staleCount_step w hI hB.full hEn hns hnd h)
    exact ⟨Nat.le_of_succ_le this, fun _ => this⟩
  · exact absurd rfl hnd
  · -- a re-wait
    obtain ⟨j2, hj2, hc2, hP⟩ := hB.cinv.claimed t ht (Or.inr hst)
    have e2 : j2 = j := by
      apply eq_of_mem_of_key_eq (key := fun (y : JobState) => y.id) (hI.shape.jobsNodup w) hj2 hj
      have : some j2.id = some j.id := by rw [← hc2, htjob]
      simpa using this
    subst e2
    obtain ⟨c, _, h1, h2, happ⟩ := wait_result_early (orc := orc) w hC hI hS ht (Or.inr hst) hj hP r
    rw [happ] at h
    have hs' : s' = s.replaceTransport { t with st := .waitingpickup, occ := .at c } := by
      have := (Except.ok.inj h); exact (Prod.mk.inj this).1.symm
    have hfresh : staleB s { t with st := .waitingpickup, occ := .at c } = false :=
      staleB_false_of_fresh (x := j2.id) (c := c) htjob rfl (rewait_fresh w hI hS hj h1 h2 hP)
    have hst1 := stage_transport (S := s') (T := { t with st := .waitingpickup, occ := .at c }) htn ht (by rfl)
      (by subst hs'; rfl) (by subst hs'; rfl)
    have hsc := staleCount_transport (S := s') (T := { t with st := .waitingpickup, occ := .at c }) htn ht (by rfl)
      (by subst hs'; rfl) (by subst hs'; rfl)
    -- the stage stays (`hst1`), and the summand of `t` in `staleCount` becomes 0 (`hsc`)
    rw [hst] at hst1
    rw [hfresh, if_neg Bool.false_ne_true, Nat.add_zero] at hsc
    unfold muE
    rw [Nat.add_right_cancel hst1, ← hsc]
    refine ⟨Nat.add_le_add_left (Nat.le_add_right _ _) _, fun hrw => ?_⟩
    have : staleB s t = true := by
      cases hb : staleB s t with
      | true => rfl
      | false => exact absurd ⟨t, ht, rfl, hst, rfl, hb⟩ hrw
    rw [if_pos this]
    exact Nat.le_refl _

theorem muE_mono (w : WF inst) (hC : Classic inst) {s s' : State} {r r' : Rng} {a : Transition}
    (hI : StructInv inst s) (hS : SchedInv s) (hB : BundleE inst s) (hE : EnE inst s a)
    (hns : a.new ≠ .m .setup) (hnd : a.new ≠ .t .working)
    (h : applyTransition orc inst s r a = .ok (s', r')) : muE s' ≤ muE s :=
  (muE_core w hC hI hS hB hE hns hnd h).1

theorem muE_step (w : WF inst) (hC : Classic inst) {s s' : State} {r r' : Rng} {a : Transition}
    (hI : StructInv inst s) (hS : SchedInv s) (hB : BundleE inst s) (hE : EnE inst s a)
    (hns : a.new ≠ .m .setup) (hnd : a.new ≠ .t .working)
    (h : applyTransition orc inst s r a = .ok (s', r')) (hrw : ¬ RWE s a) : muE s' + 1 ≤ muE s :=
  (muE_core w hC hI hS hB hE hns hnd h).2 hrw

end JSL
