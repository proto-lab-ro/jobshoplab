import JSL.Inv.Pass

/-!
# Every `applyTransition` call of `state.step`

A `Pass` speaks about the states that occur.  To speak about the transitions that are *applied* –
the state right before the application, the transition, the state right after – the calls
`process_state_transitions` makes are recorded as a relation: `ProcCall` (one batch), `LoopCall`
(the `while timed_transitions` loop), `StepCall` (one `state.step`).  The relations follow the code
clause by clause and do not depend on the step succeeding as a whole; `stepCall_of_micro` shows
that every entry of the ghost list `micro` (the post-state of every applied transition) is the
post-state of a recorded call.

A `RelPass` is a `Pass` with a statement `Rel s tr s'` about one application that follows from
the invariant and the batch guard; it then holds for every recorded call.
-/

namespace JSL

variable {orc : Oracle} {inst : Instance}

/-- while working through the batch `L` from `(s, r)`, `process_state_transitions` applies `x` to
`σ` and obtains `σ'` -/
inductive ProcCall (orc : Oracle) (inst : Instance) :
    List Transition → State → Rng → State → Transition → State → Prop
  | here {tr L s r s1 r1} : transitionValid s tr = .ok true → applyTransition orc inst s r tr = .ok (s1, r1) →
      ProcCall orc inst (tr :: L) s r s tr s1
  | later {tr L s r s1 r1 σ x σ'} : transitionValid s tr = .ok true →
      applyTransition orc inst s r tr = .ok (s1, r1) → ProcCall orc inst L s1 r1 σ x σ' →
      ProcCall orc inst (tr :: L) s r σ x σ'
  | skip {tr L s r σ x σ'} : transitionValid s tr = .ok false → ProcCall orc inst L s r σ x σ' →
      ProcCall orc inst (tr :: L) s r σ x σ'

inductive LoopCall (orc : Oracle) (inst : Instance) (cfg : SMConfig) :
    Nat → List Transition → State → Rng → State → Transition → State → Prop
  | batch {fuel tt s r σ x σ'} : ProcCall orc inst tt s r σ x σ' → LoopCall orc inst cfg (fuel + 1) tt s r σ x σ'
  | next {fuel tt s r o t tt' σ x σ'} : tt ≠ [] → processTransitions orc inst tt s r = .ok o → o.nerr = 0 →
      jumpToEvent inst cfg o.state = .ok t → timedTransitions inst { o.state with time := t } = .ok tt' →
      LoopCall orc inst cfg fuel tt' { o.state with time := t } o.rng σ x σ' →
      LoopCall orc inst cfg (fuel + 1) tt s r σ x σ'

inductive StepCall (orc : Oracle) (inst : Instance) (cfg : SMConfig) (fuel : Nat) (s0 : State) (r : Rng)
    (a : Action) : State → Transition → State → Prop
  | action {σ x σ'} : ProcCall orc inst (sortedByTransport a.transitions) s0 r σ x σ' →
      StepCall orc inst cfg fuel s0 r a σ x σ'
  | loop {p t timed poss tele σ x σ'} :
      processTransitions orc inst (sortedByTransport a.transitions) s0 r = .ok p → p.nerr = 0 →
      runTimeMachine inst cfg p.state a.tm = .ok t →
      timedTransitions inst { p.state with time := t } = .ok timed →
      possibleTransitions inst cfg { p.state with time := t } = .ok poss →
      filterTeleport orc inst p.rng { p.state with time := t } poss = .ok tele →
      LoopCall orc inst cfg fuel (timed ++ tele) { p.state with time := t } p.rng σ x σ' →
      StepCall orc inst cfg fuel s0 r a σ x σ'

theorem procCall_of_micro : ∀ (L : List Transition) (s : State) (r : Rng) (o : ProcOut),
    processTransitions orc inst L s r = .ok o → ∀ σ' ∈ o.micro, ∃ σ x, ProcCall orc inst L s r σ x σ'
  | [], s, r, o, h => by cases h; exact fun _ hσ => (nomatch hσ)
  | tr :: L, s, r, o, h => by
    intro σ' hσ
    rcases processTransitions_cons_ok h with ⟨hv, s1, r1, o1, ha, ho1, rfl⟩ | ⟨hv, o1, ho1, rfl⟩
    · rcases List.mem_cons.mp hσ with rfl | hσ
      · exact ⟨s, tr, .here hv ha⟩
      · obtain ⟨σ, x, hc⟩ := procCall_of_micro L s1 r1 o1 ho1 σ' hσ
        exact ⟨σ, x, .later hv ha hc⟩
    · obtain ⟨σ, x, hc⟩ := procCall_of_micro L s r o1 ho1 σ' hσ
      exact ⟨σ, x, .skip hv hc⟩

theorem loopCall_of_micro {cfg : SMConfig} : ∀ (fuel : Nat) (tt : List Transition) (s : State) (r : Rng)
    (subs mic : List State) (out : LoopOut), timedLoop orc inst cfg fuel tt s r subs mic = .ok out →
    ∀ σ' ∈ out.micro, σ' ∈ mic ∨ ∃ σ x, LoopCall orc inst cfg fuel tt s r σ x σ'
  | fuel, [], s, r, subs, mic, out, h => by
    rw [timedLoop_nil] at h
    cases h
    exact fun σ' hσ => Or.inl hσ
  | 0, a :: as, s, r, subs, mic, out, h => by cases h
  | n + 1, a :: as, s, r, subs, mic, out, h => by
    obtain ⟨_, o, e, ho, hcase⟩ := timedLoop_cons_ok h
    cases e
    have hcall : ∀ σ' ∈ mic ++ o.micro, σ' ∈ mic ∨ ∃ σ x, LoopCall orc inst cfg (n + 1) (a :: as) s r σ x σ' := by
      intro σ' hσ
      rcases List.mem_append.mp hσ with hσ | hσ
      · exact Or.inl hσ
      · obtain ⟨σ, x, hc⟩ := procCall_of_micro _ _ _ _ ho σ' hσ
        exact Or.inr ⟨σ, x, .batch hc⟩
    rcases hcase with ⟨_, rfl⟩ | ⟨hn, t, tt', ht, htt', h⟩
    · exact hcall
    · intro σ' hσ
      rcases loopCall_of_micro _ _ _ _ _ _ _ h σ' hσ with h1 | ⟨σ, x, hc⟩
      · exact hcall σ' h1
      · exact Or.inr ⟨σ, x, .next (by simp) ho hn ht htt' hc⟩

theorem stepCall_of_micro {cfg : SMConfig} {fuel : Nat} {s0 : State} {r : Rng} {a : Action} {res : SMResult}
    {r' : Rng} {mic : List State} (h : smStep orc inst cfg fuel s0 r a = .ok (res, r', mic)) :
    ∀ σ' ∈ mic, ∃ σ x, StepCall orc inst cfg fuel s0 r a σ x σ' := by
  obtain ⟨p, hp, hcase⟩ := smStep_cases h
  have h0 : ∀ σ' ∈ p.micro, ∃ σ x, StepCall orc inst cfg fuel s0 r a σ x σ' := by
    intro σ' hσ
    obtain ⟨σ, x, hc⟩ := procCall_of_micro _ _ _ _ hp σ' hσ
    exact ⟨σ, x, .action hc⟩
  rcases hcase with ⟨_, _, rfl, _⟩ | ⟨hn, t, timed, poss, tele, out, ht, htimed, hposs, htele, hout, _, rfl, _⟩
  · exact h0
  · intro σ' hσ
    rcases loopCall_of_micro _ _ _ _ _ _ _ hout σ' hσ with h1 | ⟨σ, x, hc⟩
    · exact h0 σ' h1
    · exact ⟨σ, x, .loop hp hn ht htimed hposs htele hc⟩

structure RelPass (orc : Oracle) (inst : Instance) (cfg : SMConfig) extends Pass orc inst cfg where
  Rel : State → Transition → State → Prop
  rel : ∀ {s s' r r' tr R}, StructInv inst s → SchedInv s → P s → transitionValid s tr = .ok true →
    Safe s (tr :: R) → Fresh (tr :: R) → GS s (tr :: R) → applyTransition orc inst s r tr = .ok (s', r') →
    Rel s tr s'

variable {cfg : SMConfig}

theorem RelPass.procCall (ps : RelPass orc inst cfg) (w : WF inst) (nn : NonNeg orc inst)
    {L : List Transition} {s : State} {r : Rng} {σ : State} {x : Transition} {σ' : State}
    (hc : ProcCall orc inst L s r σ x σ') :
    StructInv inst s → SchedInv s → ps.P s → Safe s L → Fresh L → ps.GS s L → ps.Rel σ x σ' := by
  induction hc with
  | here hv ha =>
    intro hI hS hP hsafe hfresh hgs
    exact ps.rel hI hS hP hv hsafe hfresh hgs ha
  | later hv ha _ ih =>
    intro hI hS hP hsafe hfresh hgs
    have hI1 := applyTransition_struct w hI hv ha
    have hS1 := applyTransition_sched w nn hI hS hv hsafe.guard ha
    have hfr := applyTransition_frame w hI hS hsafe.guard ha
    have hP1 := ps.step hI hS hP hv hsafe hfresh hgs ha
    exact ih hI1 hS1 hP1.1 (hsafe.step hfresh hfr) (List.pairwise_cons.mp hfresh).2 hP1.2
  | skip hv _ ih =>
    intro hI hS hP hsafe hfresh hgs
    exact ih hI hS hP hsafe.tail (List.pairwise_cons.mp hfresh).2 (ps.tail hgs)

theorem RelPass.loopCall (ps : RelPass orc inst cfg) (w : WF inst) (nn : NonNeg orc inst)
    {fuel : Nat} {tt : List Transition} {s : State} {r : Rng} {σ : State} {x : Transition} {σ' : State}
    (hc : LoopCall orc inst cfg fuel tt s r σ x σ') :
    StructInv inst s → SchedInv s → ps.P s → Safe s tt → Fresh tt → ps.GS s tt → ps.Rel σ x σ' := by
  induction hc with
  | batch hc =>
    intro hI hS hP hsafe hfresh hgs
    exact ps.procCall w nn hc hI hS hP hsafe hfresh hgs
  | @next fuel tt s r o t tt' σ x σ' _ ho _ ht htt' _ ih =>
    intro hI hS hP hsafe hfresh hgs
    have hp := processTransitions_sched w nn _ _ _ _ hI hS hsafe hfresh ho
    have hpI := processTransitions_struct w _ _ _ _ hI ho
    have hpP := ps.toPass.process w nn _ _ _ _ hI hS hP hsafe hfresh hgs ho
    have hadv := jumpToEvent_spec hp.1 ht
    have hS' := hp.1.advance hadv.1 hadv.2
    have hI' := hpI.1.time t
    have hP' := ps.advance hpI.1 hp.1 hpP.1 hadv.1 hadv.2
    have hsf := timed_batch_safe w (tele := []) hI' hS' htt' (by simp)
    simp only [List.append_nil] at hsf
    exact ih hI' hS' hP' hsf.1 hsf.2 (ps.timedOnly hI' hS' hP' htt')

theorem RelPass.stepCall (ps : RelPass orc inst cfg) (w : WF inst) (nn : NonNeg orc inst) {fuel : Nat} {s0 : State}
    {r : Rng} {a : Action} {σ : State} {x : Transition} {σ' : State} (hI : StructInv inst s0) (hS : SchedInv s0)
    (hP : ps.P s0) (ha : Admissible a) (hadm : ps.Adm s0 a)
    (hc : StepCall orc inst cfg fuel s0 r a σ x σ') : ps.Rel σ x σ' := by
  have hsf := offerShaped_safe (s := s0) (L := sortedByTransport a.transitions)
    (fun tr htr => ha.shaped tr (mem_sortedByTransport htr))
  have hgs0 := ps.action hI hS hP hadm
  cases hc with
  | action hc => exact ps.procCall w nn hc hI hS hP hsf.1 hsf.2 hgs0
  | @loop p t timed poss tele _ _ _ hp _ ht htimed hposs htele hc =>
    have hp' := processTransitions_sched w nn _ _ _ _ hI hS hsf.1 hsf.2 hp
    have hpI := processTransitions_struct w _ _ _ _ hI hp
    have hpP := ps.toPass.process w nn _ _ _ _ hI hS hP hsf.1 hsf.2 hgs0 hp
    have hadv := runTimeMachine_spec hp'.1 ha.tm ht
    have hS1 := hp'.1.advance hadv.1 hadv.2
    have hI1 := hpI.1.time t
    have hP1 := ps.advance hpI.1 hp'.1 hpP.1 hadv.1 hadv.2
    have hbatch := timed_batch_safe w hI1 hS1 htimed (filterTeleport_shape hposs htele)
    exact ps.loopCall w nn hc hI1 hS1 hP1 hbatch.1 hbatch.2 (ps.timed hI1 hS1 hP1 htimed hposs htele)

end JSL
