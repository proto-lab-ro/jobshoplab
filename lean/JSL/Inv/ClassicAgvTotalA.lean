import JSL.Inv.ClassicCases

/-!
# Classic instances: pickup places, the waiting time there, the release of an AGV

In a classic instance the waiting time for a job lying at a pickup place (`pickupPlaces inst`: a
standalone buffer that is not an output buffer, or a post-buffer) is "now"; every transport is an AGV,
so a transition of a transport runs the handler of the dictionary; OUTAGE → IDLE validates and applies;
the empty run between places of the shop takes 0.
-/

namespace JSL

variable {orc : Oracle} {inst : Instance}

theorem pickupPlace_cfg (hC : Classic inst) {l : Nat} (hl : l ∈ pickupPlaces inst) :
    ∃ bc ∈ allBufCfgs inst, bc.id = l ∧ bc ∈ pickupBufs inst ∧
      ((bc ∈ inst.buffers ∧ bc.parent = none) ∨
       (∃ mc ∈ inst.machines, bc = mc.post ∧ bc.parent = some (.m mc.id))) := by
  rcases mem_pickupPlaces.mp hl with ⟨bc, hb, hrole, e⟩ | ⟨mc, hmc, e⟩
  · refine ⟨bc, ?_, e, ?_, Or.inl ⟨hb, hC.parentB bc hb⟩⟩
    · unfold allBufCfgs
      exact List.mem_append.mpr (Or.inl (List.mem_append.mpr (Or.inl hb)))
    · unfold pickupBufs
      exact List.mem_append.mpr (Or.inl (List.mem_filter.mpr ⟨hb, hrole⟩))
  · refine ⟨mc.post, (mem_allBufCfgs_of_machine hmc).2.2, e, ?_, Or.inr ⟨mc, hmc, rfl, hC.parentPost mc hmc⟩⟩
    unfold pickupBufs
    exact List.mem_append.mpr (Or.inr (List.mem_flatMap.mpr ⟨mc, hmc, by simp⟩))

theorem getBufCfg_pickupPlace (w : WF inst) (hC : Classic inst) {l : Nat} (hl : l ∈ pickupPlaces inst) :
    ∃ bc, getBufCfg (allBufCfgs inst) l = .ok bc ∧ bc ∈ allBufCfgs inst ∧ bc.id = l ∧ bc ∈ pickupBufs inst ∧
      ((bc ∈ inst.buffers ∧ bc.parent = none) ∨
       (∃ mc ∈ inst.machines, bc = mc.post ∧ bc.parent = some (.m mc.id))) := by
  obtain ⟨bc, hbc, hid, hp, hcase⟩ := pickupPlace_cfg hC hl
  have hget := findE_of_mem (key := fun (y : BufCfg) => y.id) w.bufNodup hbc .invalidValue
  simp only [hid] at hget
  exact ⟨bc, hget, hbc, hid, hp, hcase⟩

theorem machine_of_cfg (w : WF inst) {s : State} (hs : Shape inst s) {mc : MachineCfg} (hmc : mc ∈ inst.machines) :
    ∃ m ∈ s.machines, m.id = mc.id ∧ m.post.id = mc.post.id ∧ getMachine s.machines mc.id = .ok m := by
  obtain ⟨m, hm, hk⟩ := mem_of_map_eq hs.machines.symm hmc
  simp only [mKey, mcKey, Prod.mk.injEq] at hk
  refine ⟨m, hm, hk.1.symm, hk.2.2.2.symm, ?_⟩
  rw [hk.1]
  exact getMachine_of_mem (hs.machNodup w) hm

theorem getWaitingTime_classic (w : WF inst) (hC : Classic inst) {s : State} (hI : StructInv inst s)
    {j : JobState} (hj : j ∈ s.jobs) (hloc : j.loc ∈ pickupPlaces inst) (c : Comp) (ns : NewSt) :
    getWaitingTime inst s ⟨c, ns, some j.id⟩ = .ok (.at s.time) := by
  have hs := hI.shape
  obtain ⟨bc, hget, _, hid, _, hcase⟩ := getBufCfg_pickupPlace w hC hloc
  have hgj : getJobOpt s.jobs (some j.id) = .ok j := getJob_of_mem (hs.jobsNodup w) hj
  rcases hcase with ⟨_, hpar⟩ | ⟨mc, hmc, hbc, hpar⟩
  · simp only [getWaitingTime, hgj, except_bind_ok, hget, hpar, except_pure]
  · obtain ⟨m, hm, _, hpid, hgm⟩ := machine_of_cfg w hs hmc
    have hpost := (mem_allBufs_of_machine hm).2.2
    have hlm : j.loc = m.post.id := by rw [hpid, ← hbc, hid]
    have hin : j.id ∈ m.post.store := by
      have h1 := hI.cons.located (j.id, j.loc) (List.mem_map.mpr ⟨j, hj, rfl⟩)
      simp only at h1
      rw [hlm, storeAt_of_mem (hs.bufNodup w) hpost] at h1
      exact h1
    have hcont : m.post.store.contains j.id = true := List.contains_iff_mem.mpr hin
    have hr := readyForPickup_flex w hC.flex.pick hs hpost hlm hin (kind_of_post hs hm)
    simp only [getWaitingTime, hgj, except_bind_ok, hget, hpar, hgm, hcont, if_true, hr, except_pure]

theorem getTransportCfg_classic (w : WF inst) (hC : Classic inst) {s : State} (hs : Shape inst s)
    {t : TransportState} (ht : t ∈ s.transports) :
    ∃ tc, getTransportCfg inst.transports t.id = .ok tc ∧ tc ∈ inst.transports ∧ trTypeHandled tc.type = true := by
  obtain ⟨tc, htc, hk⟩ := hs.transport_cfg ht
  simp only [tKey, tcKey, Prod.mk.injEq] at hk
  have := findE_of_mem (key := fun (y : TransportCfg) => y.id) w.trNodup htc .invalidValue
  simp only [← hk.1] at this
  refine ⟨tc, this, htc, ?_⟩
  rw [hC.allAgv tc htc]; rfl

theorem transitionValid_agv (w : WF inst) {s : State} (hs : Shape inst s) {t : TransportState}
    (ht : t ∈ s.transports) (ns : TSt) (job : Option Nat) :
    transitionValid s ⟨.t t.id, .t ns, job⟩ = .ok (transportValid t.st ns) := by
  simp only [transitionValid, getTransport_of_mem (hs.trNodup w) ht, except_bind_ok, except_pure,
    transportTransitionValid]

theorem applyTransition_classic_agv (w : WF inst) (hC : Classic inst) {s : State} (hs : Shape inst s)
    {t : TransportState} (ht : t ∈ s.transports) {st : TSt} (hst : t.st = st) (r : Rng) (ns : TSt)
    (job : Option Nat) :
    applyTransition orc inst s r ⟨.t t.id, .t ns, job⟩ =
      match agvHandler st ns with
      | some .idleToWorking => handleAgvIdleToWorking orc inst s r ⟨.t t.id, .t ns, job⟩ t
      | some .pickupToWaitingpickup => handleAgvPickupToWaiting inst s r ⟨.t t.id, .t ns, job⟩ t
      | some .pickupToTransit => handleAgvPickupToTransit orc inst s r ⟨.t t.id, .t ns, job⟩ t
      | some .transitToOutage => handleAgvTransitToOutage orc inst s r ⟨.t t.id, .t ns, job⟩ t
      | some .outageToIdle => handleAgvOutageToIdle s r t
      | some .waitingPickupToWaitingPickup => handleAgvWaitingToWaiting inst s r ⟨.t t.id, .t ns, job⟩ t
      | none => .error .notImplemented := by
  subst hst
  obtain ⟨tc, hgtc, _, hty⟩ := getTransportCfg_classic w hC hs ht
  exact applyTransition_on_transport (getTransport_of_mem (hs.trNodup w) ht) hgtc hty r ns job

theorem agvToIdle_result (w : WF inst) (hC : Classic inst) {s : State} (hI : StructInv inst s)
    {t : TransportState} (ht : t ∈ s.transports) (hst : t.st = .outage) (r : Rng) :
    applyTransition orc inst s r ⟨.t t.id, .t .idle, none⟩ =
      .ok (s.replaceTransport { t with st := .idle, outages := t.outages.map releaseOutage }, r) := by
  rw [applyTransition_classic_agv w hC hI.shape ht hst]
  rfl

theorem agvToIdle_total (w : WF inst) (hC : Classic inst) {s : State} (hI : StructInv inst s)
    {t : TransportState} (ht : t ∈ s.transports) (hst : t.st = .outage) (r : Rng) :
    transitionValid s ⟨.t t.id, .t .idle, none⟩ = .ok true ∧
    ∃ s' r', applyTransition orc inst s r ⟨.t t.id, .t .idle, none⟩ = .ok (s', r') :=
  ⟨by rw [transitionValid_agv w hI.shape ht, hst]; rfl, _, _, agvToIdle_result w hC hI ht hst r⟩

theorem travelNoUpdate_classic (hC : Classic inst) {a b : Loc} (ha : a ∈ locsOf inst) (hb : b ∈ locsOf inst) (r : Rng) :
    travelNoUpdate orc inst r a b = .ok 0 := by
  simp only [travelNoUpdate, hC.travel0 a ha b hb, except_pure, TimeCfg.cur]

theorem pickupSource_locs (w : WF inst) (hC : Classic inst) {bc : BufCfg} (hbc : bc ∈ allBufCfgs inst)
    (hid : bc.id ∈ pickupPlaces inst) : ∃ src, pickupSource bc bc.id = .ok src ∧ src ∈ locsOf inst := by
  obtain ⟨bc', hbc', hid', _, hcase⟩ := pickupPlace_cfg hC hid
  have : bc' = bc := eq_of_mem_of_key_eq (key := fun (y : BufCfg) => y.id) w.bufNodup hbc' hbc hid'
  subst this
  unfold locsOf
  rcases hcase with ⟨hb, hpar⟩ | ⟨mc, hmc, _, hpar⟩
  · refine ⟨.b bc'.id, by simp only [pickupSource, hpar, except_pure], ?_⟩
    exact List.mem_append.mpr (Or.inr (List.mem_map.mpr ⟨bc', hb, rfl⟩))
  · refine ⟨.m mc.id, by simp only [pickupSource, hpar, except_pure], ?_⟩
    exact List.mem_append.mpr (Or.inl (List.mem_map.mpr ⟨mc, hmc, rfl⟩))

end JSL
