import JSL.Inv.BatchFrame

/-!
# Batches of transitions

A batch is created from one state and applied transition by transition.  `Safe s R` says the
remaining transitions `R` still meet the side conditions `Guard` in the current state `s`;
`Fresh` is the shape of a batch that keeps it so.
-/

namespace JSL

variable {orc : Oracle} {inst : Instance}

structure Safe (s : State) (R : List Transition) : Prop where
  own : ∀ tr ∈ R, ∀ mid, tr.comp = .m mid → tr.new = .m .outage → ∀ m ∈ s.machines, m.id = mid →
    ∀ x, tr.job = some x → x ∈ m.buffer.store
  notProc : ∀ tr ∈ R, ∀ tid, tr.comp = .t tid → tr.new = .t .transit → ∀ j ∈ s.jobs, tr.job = some j.id →
    ∀ o ∈ j.ops, o.st ≠ .processing

/-- an earlier transition `a` of the batch does not disturb what a later one `b` relies on -/
def FreshRel (a b : Transition) : Prop :=
  (∀ mid, b.comp = .m mid → b.new = .m .outage → a.comp ≠ .m mid) ∧
  (a.new = .m .setup → b.new = .t .transit → ∀ x, b.job = some x → a.job ≠ some x)

abbrev Fresh (L : List Transition) : Prop := L.Pairwise FreshRel

theorem Safe.guard {s : State} {tr : Transition} {R : List Transition} (h : Safe s (tr :: R)) : Guard s tr :=
  ⟨fun mid hc hn m hm hid x hx => h.own tr (by simp) mid hc hn m hm hid x hx,
   fun tid hc hn j hj hx o ho => h.notProc tr (by simp) tid hc hn j hj hx o ho⟩

theorem Safe.tail {s : State} {tr : Transition} {R : List Transition} (h : Safe s (tr :: R)) : Safe s R :=
  ⟨fun t ht => h.own t (by simp [ht]), fun t ht => h.notProc t (by simp [ht])⟩

theorem Safe.step {s s1 : State} {tr0 : Transition} {R : List Transition} (h : Safe s (tr0 :: R))
    (hf : Fresh (tr0 :: R)) (hfr : StepFrame s s1 tr0) : Safe s1 R := by
  have hrel : ∀ b ∈ R, FreshRel tr0 b := (List.pairwise_cons.mp hf).1
  constructor
  · intro tr htr mid hc hn m1 hm1 hid x hx
    have hne : tr0.comp ≠ .m m1.id := by rw [hid]; exact (hrel tr htr).1 mid hc hn
    obtain ⟨m, hm, e1, e2⟩ := hfr.machines m1 hm1 hne
    rw [← e2]
    exact h.own tr (by simp [htr]) mid hc hn m hm (by rw [e1, hid]) x hx
  · intro tr htr tid hc hn j1 hj1 hx o ho hst
    obtain ⟨j, hj, e1, hcase⟩ := hfr.jobs j1 hj1
    have hx' : tr.job = some j.id := by rw [e1]; exact hx
    rcases hcase with e | ⟨hs0, hj0⟩ | ⟨o', ho', hst'⟩
    · exact h.notProc tr (by simp [htr]) tid hc hn j hj hx' o (by rw [e]; exact ho) hst
    · exact (hrel tr htr).2 hs0 hn j.id hx' hj0
    · exact h.notProc tr (by simp [htr]) tid hc hn j hj hx' o' ho' hst'

structure BatchInv (inst : Instance) (s : State) (R : List Transition) : Prop where
  struct : StructInv inst s
  sched : SchedInv s
  safe : Safe s R
  fresh : Fresh R

theorem BatchInv.skip {s : State} {tr : Transition} {R : List Transition} (h : BatchInv inst s (tr :: R)) :
    BatchInv inst s R :=
  ⟨h.struct, h.sched, h.safe.tail, (List.pairwise_cons.mp h.fresh).2⟩

theorem BatchInv.step (w : WF inst) (nn : NonNeg orc inst) {s s₁ : State} {r r₁ : Rng} {tr : Transition}
    {R : List Transition} (h : BatchInv inst s (tr :: R)) (hv : transitionValid s tr = .ok true)
    (ha : applyTransition orc inst s r tr = .ok (s₁, r₁)) : BatchInv inst s₁ R :=
  ⟨applyTransition_struct w h.struct hv ha, applyTransition_sched w nn h.struct h.sched hv h.safe.guard ha,
   h.safe.step h.fresh (applyTransition_frame w h.struct h.sched h.safe.guard ha),
   (List.pairwise_cons.mp h.fresh).2⟩

theorem processTransitions_batch (w : WF inst) (nn : NonNeg orc inst) {L : List Transition} {s : State} {r : Rng}
    {o : ProcOut} (hB : BatchInv inst s L) (h : processTransitions orc inst L s r = .ok o) :
    BatchInv inst o.state [] ∧ ∀ σ ∈ o.micro, StructInv inst σ ∧ SchedInv σ := by
  have := processTransitions_ind (Q := BatchInv inst) (fun hB _ => hB.skip) (fun hB hv ha => hB.step w nn hv ha) hB h
  exact ⟨this.1, fun σ hσ => (this.2 σ hσ).elim fun _ hB => ⟨hB.struct, hB.sched⟩⟩

/-- `process_state_transitions` on a safe, fresh batch: `SchedInv` holds in the final state and in the
post-state of every applied transition -/
theorem processTransitions_sched (w : WF inst) (nn : NonNeg orc inst) :
    ∀ (L : List Transition) (s : State) (r : Rng) (o : ProcOut), StructInv inst s → SchedInv s → Safe s L → Fresh L →
      processTransitions orc inst L s r = .ok o →
      SchedInv o.state ∧ ∀ σ ∈ o.micro, SchedInv σ := by
  intro L s r o hI hS hsafe hfresh h
  have := processTransitions_batch w nn ⟨hI, hS, hsafe, hfresh⟩ h
  exact ⟨this.1.sched, fun σ hσ => (this.2 σ hσ).2⟩

def OfferShaped (tr : Transition) : Prop := tr.new = .m .setup ∨ tr.new = .t .working

theorem offerShaped_safe {s : State} {L : List Transition} (h : ∀ tr ∈ L, OfferShaped tr) : Safe s L ∧ Fresh L := by
  refine ⟨⟨?_, ?_⟩, ?_⟩
  · intro tr htr mid _ hn; rcases h tr htr with e | e <;> rw [e] at hn <;> simp at hn
  · intro tr htr tid _ hn; rcases h tr htr with e | e <;> rw [e] at hn <;> simp at hn
  · apply List.pairwise_of_forall_mem_list
    intro a _ b hb
    refine ⟨?_, ?_⟩
    · intro mid _ hn; rcases h b hb with e | e <;> rw [e] at hn <;> simp at hn
    · intro _ hn; rcases h b hb with e | e <;> rw [e] at hn <;> simp at hn

end JSL
