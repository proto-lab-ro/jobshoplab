import JSL.Inv.FuelStep

/-!
# The first transition of a timed batch lowers the measure

`create_timed_transitions` lists the machine transitions first.  So if the first transition of the
batch built from a state is a `WAITINGPICKUP → WAITINGPICKUP` of an AGV, no machine is due in that
state; the job the AGV claimed is not ready, so (unordered buffers) it lies in the internal buffer of
a machine – which is occupied beyond the current time, while the AGV is due: the AGV is behind
(`fb_head`).
-/

namespace JSL

variable {orc : Oracle} {inst : Instance}

theorem fb_not_due {m : MachineState} {now : Int} (hbusy : m.st ≠ .idle) {e : Int} (hocc : m.occ = some e)
    (h : timedMachine inst now m = .ok none) : now < e := by
  rcases timedMachine_none h with ⟨_, hd⟩ | ⟨hidle, _⟩
  · rw [hocc] at hd
    simp only [dueAt, decide_eq_false_iff_not] at hd
    omega
  · exact absurd hidle hbusy

/-- what a `WAITINGPICKUP → WAITINGPICKUP` created for an AGV says: the AGV is due and the job it
claimed is not ready -/
theorem fb_selfloop_facts {s : State} {t : TransportState} {tr : Transition} (hst : t.st = .waitingpickup)
    (hnd : ∀ b j tr', t.occ ≠ .dep b j tr') (hn : tr.new = .t .waitingpickup) (h : timedTransport inst s t = .ok (some tr)) :
    ∃ o, t.occ = .at o ∧ o ≤ s.time ∧ ∃ j ∈ s.jobs, t.job = some j.id ∧ readyForPickup inst s j = .ok false := by
  rcases timedTransport_ok h with ⟨b, j, hocc, _⟩ | ⟨o, hocc, hle, _, hcase⟩
  · exact absurd hocc (hnd b j tr)
  rcases hcase with ⟨j, hj, rdy, htj, _, hrdy, ⟨hp, _⟩ | ⟨_, hnew⟩⟩ | ⟨ht, _⟩ | ⟨ho, _⟩
  · rw [hst] at hp; cases hp
  · cases rdy with
    | true => simp [hn] at hnew
    | false => exact ⟨o, hocc, hle, j, hj, htj, hrdy⟩
  · rw [hst] at ht; cases ht
  · rw [hst] at ho; cases ho

/-- **the head of a timed batch**: if it is a `WAITINGPICKUP → WAITINGPICKUP`, its AGV is behind -/
theorem fb_head (w : WF inst) (C : TotClassP inst) {s : State} (hV : TotInv inst s) {a : Transition}
    {rest : List Transition} (htt : timedTransitions inst s = .ok (a :: rest)) :
    ∀ tid, a.comp = .t tid → a.new = .t .waitingpickup → ∀ t0 ∈ s.transports, t0.id = tid →
      t0.st = .waitingpickup → fbLate s.machines t0 = true := by
  intro tid hc hn t0 ht0 hid hst
  have hI := hV.struct
  have hs := hI.shape
  have hjn := hs.jobsNodup w
  obtain ⟨ra, rb, hra, hrb, e⟩ := timedTransitions_ok htt
  have htt := e.symm
  have hA := timedMachines_spec (inst := inst) s.machines (fun m hm => hm) (hs.machNodup w) ra hra
  -- no machine transition in the batch
  have hnil : ra.filterMap id = [] := by
    cases hl : ra.filterMap id with
    | nil => rfl
    | cons x xs =>
      exfalso
      rw [hl] at htt
      simp at htt
      obtain ⟨_, m, _, e⟩ := hA.1 x (by rw [hl]; simp)
      rw [htt.1, hc] at e
      cases e
  rw [hnil] at htt
  simp at htt
  have hmem : a ∈ rb.filterMap id := by rw [htt]; simp
  obtain ⟨t, ht, hcre⟩ := (mem_mapM_filterMap hrb _).mp hmem
  have hcomp := (timedTransport_aim hV.shape ht hcre).1
  have : t = t0 := by
    apply eq_of_mem_of_key_eq (key := fun (y : TransportState) => y.id) (hs.trNodup w) ht ht0
    rw [hc] at hcomp
    injection hcomp with hcomp
    rw [← hcomp, hid]
  subst this
  obtain ⟨o, hocc, hle, j, hj, htj, hrdy⟩ := fb_selfloop_facts hst (hV.shape.noDep t ht) hn hcre
  obtain ⟨bc, _, hbcid, hcase⟩ := claimed_job_place w hV ht (by rw [hst]; decide) hj htj
  rcases hcase with hb | ⟨mc, hmc, m, hm, hmid, hcase⟩
  · -- a stand-alone buffer: the job would be ready
    exfalso
    have : bc.id ∈ s.buffers.map (·.id) := by rw [hs.buffers]; exact List.mem_map.mpr ⟨bc, hb, rfl⟩
    obtain ⟨b, hbm, hbid⟩ := List.mem_map.mp this
    have hball : b ∈ allBufStates s := by simp only [mem_allBufs]; exact Or.inl hbm
    have hloc : j.loc = b.id := by rw [hbid, hbcid]
    have hin : j.id ∈ b.store := by
      have h1 := hI.cons.located (j.id, j.loc) (List.mem_map.mpr ⟨j, hj, rfl⟩)
      simp only at h1
      rw [hloc, storeAt_of_mem (hs.bufNodup w) hball] at h1
      exact h1
    have := readyForPickup_flex w C.pflex hs hball hloc hin (kind_of_buffer hs hbm)
    rw [this] at hrdy
    cases hrdy
  · rcases hcase with ⟨_, hloc, hin⟩ | ⟨_, hloc, hin⟩
    · -- the internal buffer of a machine that is not due
      have hbusy : m.st ≠ .idle := by
        intro hidle
        rw [hV.sched.idleEmpty m hm hidle] at hin
        cases hin
      obtain ⟨_, _, _, _, _, _, _, hne⟩ := hV.sched.busyHolds m hm hbusy
      cases hmo : m.occ with
      | none => exact absurd hmo hne
      | some e =>
        have hlt := fb_not_due hbusy hmo (mapM_filterMap_nil hra hnil m hm)
        exact fbLate_intro hst hm htj hocc hmo hin (by omega)
    · -- a post-buffer: the job would be ready
      exfalso
      have hpost := (mem_allBufs_of_machine hm).2.2
      have := readyForPickup_flex w C.pflex hs hpost hloc hin (kind_of_post hs hm)
      rw [this] at hrdy
      cases hrdy

end JSL
