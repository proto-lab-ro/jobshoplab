import JSL.Inv.ReachListDom
import JSL.Inv.PlanOf
import JSL.Props.Example

/-!
# Target schedules and plans (C06, reachability side)

A target schedule `S` and its plan `planOfTarget inst S`: feasibility of one is feasibility of the
other, and every plan of the instance is the plan of a target schedule.  **Theorem B**
(`feasible_dominated`): every feasible plan of the instance is matched by a list schedule;
`feasible_dominated_target` packages it with Theorem A.
-/

namespace JSL

variable {inst : Instance}

theorem foldl_max_le_of : ∀ (l : List Int) (i C : Int), i ≤ C → (∀ x ∈ l, x ≤ C) → l.foldl max i ≤ C
  | [], _, _, h, _ => h
  | y :: l, i, C, h, hl => by
    simp only [List.foldl_cons]
    have := hl y (by simp)
    exact foldl_max_le_of l (max i y) C (by omega) (fun x hx => hl x (by simp [hx]))

theorem le_targetMakespan (S : Nat → Nat → Int) {oc : OpCfg} (h : oc ∈ allOps inst) :
    S oc.job oc.idx + oc.d ≤ targetMakespan inst S :=
  foldl_max_ge_mem _ 0 _ (List.mem_map.mpr ⟨oc, h, rfl⟩)

theorem targetMakespan_nonneg (S : Nat → Nat → Int) : 0 ≤ targetMakespan inst S := foldl_max_ge _ 0

theorem targetMakespan_le {S : Nat → Nat → Int} {C : Int} (h0 : 0 ≤ C)
    (h : ∀ oc ∈ allOps inst, S oc.job oc.idx + oc.d ≤ C) : targetMakespan inst S ≤ C := by
  apply foldl_max_le_of _ 0 C h0
  intro x hx
  obtain ⟨oc, hoc, rfl⟩ := List.mem_map.mp hx
  exact h oc hoc

def tOp (S : Nat → Nat → Int) (oc : OpCfg) : POp := (oc.machine, oc.d, S oc.job oc.idx)

theorem planOfTarget_eq (S : Nat → Nat → Int) :
    planOfTarget inst S = inst.jobs.map fun jc => jc.ops.map (tOp S) := rfl

theorem planOfTarget_flat (S : Nat → Nat → Int) : (planOfTarget inst S).flatMap id = (allOps inst).map (tOp S) := by
  rw [planOfTarget_eq, allOps, List.flatMap_map, List.map_flatMap]
  rfl

theorem d_of_det {oc : OpCfg} {d : Int} (h : oc.dur = .det d) : oc.d = d := by simp [OpCfg.d, h]

theorem planOfTarget_proj {orc : Oracle} {r : Rng} (S : Nat → Nat → Int)
    (hdet : ∀ oc ∈ allOps inst, ∃ d, oc.dur = .det d) : (planOfTarget inst S).proj = schedOf orc r inst := by
  unfold Plan.proj schedOf
  rw [planOfTarget_eq, List.map_map]
  apply List.map_congr_left
  intro jc hjc
  simp only [Function.comp, PJob.proj, List.map_map]
  apply List.map_congr_left
  intro oc hoc
  obtain ⟨d, hd⟩ := hdet oc (mem_allOps hjc hoc)
  simp [tOp, d_of_det hd, hd, TimeCfg.cur]

theorem planOf_eq_target (w : WF inst) {s : State} (hs : Shape inst s) (hdet : ∀ oc ∈ allOps inst, ∃ d, oc.dur = .det d)
    {S : Nat → Nat → Int} (hst : ∀ j ∈ s.jobs, ∀ o ∈ j.ops, o.start = some (S o.job o.idx)) :
    planOf inst s = planOfTarget inst S := by
  unfold planOf
  rw [planOfTarget_eq]
  apply map_eq_of_keys hs.jobs
  intro j hj jc hjc hk
  simp only [jKey, jcKey, Prod.mk.injEq] at hk
  apply map_eq_of_keys hk.2
  intro o ho oc hoc hko
  simp only [opKey, ocKey, Prod.mk.injEq] at hko
  obtain ⟨d, hd⟩ := hdet oc (mem_allOps hjc hoc)
  have hmem : oc ∈ inst.jobs.flatMap (·.ops) := mem_allOps hjc hoc
  simp only [planOp, tOp]
  rw [durDet_of_cfg w hmem ⟨hko.1.symm, hko.2.1.symm⟩ hd, d_of_det hd, hst j hj o ho, hko.1, hko.2.1, hko.2.2]
  rfl

theorem chainOK_of_adj (S : Nat → Nat → Int) : ∀ (ops : List OpCfg) (t : Int),
    (∀ a rest, ops = a :: rest → t ≤ S a.job a.idx) →
    (∀ l1 a b l2, ops = l1 ++ a :: b :: l2 → S a.job a.idx + a.d ≤ S b.job b.idx) →
    ChainOK t (ops.map (tOp S))
  | [], _, _, _ => trivial
  | a :: rest, t, h0, hc => by
    simp only [List.map_cons, ChainOK]
    refine ⟨h0 a rest rfl, ?_⟩
    apply chainOK_of_adj S rest
    · intro b l2 e
      subst e
      exact hc [] a b l2 rfl
    · intro l1 x y l2 e
      exact hc (a :: l1) x y l2 (by simp [e])

theorem chain_adj : ∀ (l1 : List POp) (t : Int) (a b : POp) (l2 : List POp), ChainOK t (l1 ++ a :: b :: l2) →
    a.stop ≤ b.start
  | [], _, _, _, _, h => h.2.1
  | _ :: l1, _, a, b, l2, h => chain_adj l1 _ a b l2 h.2

theorem pairwise_mem {α} {R : α → α → Prop} (hsym : ∀ a b, R a b → R b a) : ∀ {l : List α}, l.Pairwise R →
    ∀ a ∈ l, ∀ b ∈ l, a ≠ b → R a b
  | [], _, a, ha, _, _, _ => by cases ha
  | x :: xs, h, a, ha, b, hb, hne => by
    obtain ⟨h1, h2⟩ := List.pairwise_cons.mp h
    rcases List.mem_cons.mp ha with rfl | ha' <;> rcases List.mem_cons.mp hb with rfl | hb'
    · exact absurd rfl hne
    · exact h1 b hb'
    · exact hsym _ _ (h1 a ha')
    · exact pairwise_mem hsym h2 a ha' b hb' hne

theorem disjointOps_symm (x y : POp) (h : disjointOps x y) : disjointOps y x := Or.symm h

theorem feasT_of_feasiblePlan (hnn : ∀ oc ∈ allOps inst, 0 ≤ oc.d) {S : Nat → Nat → Int} {C : Int}
    (hf : FeasiblePlan (planOfTarget inst S) C) :
    FeasT inst S ∧ ∀ oc ∈ allOps inst, S oc.job oc.idx + oc.d ≤ C := by
  have hmemj : ∀ jc ∈ inst.jobs, jc.ops.map (tOp S) ∈ planOfTarget inst S := fun jc hjc =>
    List.mem_map.mpr ⟨jc, hjc, rfl⟩
  refine ⟨⟨?_, ?_, ?_⟩, ?_⟩
  · intro oc hoc
    obtain ⟨jc, hjc, hoc'⟩ := List.mem_flatMap.mp hoc
    have := chain_start_ge _ 0 (hf.chain _ (hmemj jc hjc)) (by
      intro x hx
      obtain ⟨oc', h', rfl⟩ := List.mem_map.mp hx
      exact hnn oc' (mem_allOps hjc h')) (tOp S oc) (List.mem_map.mpr ⟨oc, hoc', rfl⟩)
    exact this
  · intro jc hjc l1 a b l2 e
    have := hf.chain _ (hmemj jc hjc)
    rw [e] at this
    simp only [List.map_append, List.map_cons] at this
    exact chain_adj _ 0 _ _ _ this
  · intro a ha b hb hm hne
    have hp := hf.excl
    rw [planOfTarget_flat, List.pairwise_map] at hp
    have hab : a ≠ b := fun e => hne (by rw [e])
    have := pairwise_mem (R := fun a b : OpCfg => (tOp S a).mach = (tOp S b).mach → disjointOps (tOp S a) (tOp S b))
      (fun x y h e => disjointOps_symm _ _ (h e.symm)) hp a ha b hb hab hm
    exact this
  · intro oc hoc
    obtain ⟨jc, hjc, hoc'⟩ := List.mem_flatMap.mp hoc
    exact hf.bound _ (hmemj jc hjc) (tOp S oc) (List.mem_map.mpr ⟨oc, hoc', rfl⟩)

theorem feasiblePlan_of_feasT (w : WF inst) {S : Nat → Nat → Int} {C : Int} (h : FeasT inst S)
    (hC : ∀ oc ∈ allOps inst, S oc.job oc.idx + oc.d ≤ C) : FeasiblePlan (planOfTarget inst S) C := by
  refine ⟨?_, ?_, ?_⟩
  · intro pj hpj
    obtain ⟨jc, hjc, rfl⟩ := List.mem_map.mp hpj
    apply chainOK_of_adj S jc.ops 0
    · intro a rest e
      exact h.nonneg a (mem_allOps hjc (by simp [e]))
    · exact h.chain jc hjc
  · have hflat : (planOfTarget inst S).flatMap id = inst.jobs.flatMap (fun jc => jc.ops.map (tOp S)) := by
      rw [planOfTarget_eq, List.flatMap_map]; rfl
    rw [hflat, List.pairwise_flatMap]
    have hdisj : ∀ j1 ∈ inst.jobs, ∀ o1 ∈ j1.ops, ∀ j2 ∈ inst.jobs, ∀ o2 ∈ j2.ops, (o1.job, o1.idx) ≠ (o2.job, o2.idx) →
        (tOp S o1).mach = (tOp S o2).mach → disjointOps (tOp S o1) (tOp S o2) := by
      intro j1 hj1 o1 ho1 j2 hj2 o2 ho2 hne hm
      exact h.excl o1 (mem_allOps hj1 ho1) o2 (mem_allOps hj2 ho2) hm hne
    constructor
    · intro jc hjc
      rw [List.pairwise_map]
      apply pairwise_of_nodup_key (k := fun (o : OpCfg) => o.idx) (w.opIdxNodup jc hjc)
      intro o1 ho1 o2 ho2 hne
      exact hdisj jc hjc o1 ho1 jc hjc o2 ho2 (fun e => hne (Prod.mk.inj e).2)
    · apply pairwise_of_nodup_key (k := fun (j : JobCfg) => j.id) w.jobsNodup
      intro j1 hj1 j2 hj2 hne x hx y hy
      obtain ⟨o1, ho1, rfl⟩ := List.mem_map.mp hx
      obtain ⟨o2, ho2, rfl⟩ := List.mem_map.mp hy
      exact hdisj j1 hj1 o1 ho1 j2 hj2 o2 ho2 (fun e => hne (by
        have := (Prod.mk.inj e).1
        rw [w.opJob j1 hj1 o1 ho1, w.opJob j2 hj2 o2 ho2] at this; exact this))
  · intro pj hpj x hx
    obtain ⟨jc, hjc, rfl⟩ := List.mem_map.mp hpj
    obtain ⟨oc, hoc, rfl⟩ := List.mem_map.mp hx
    exact hC oc (mem_allOps hjc hoc)

/-- a feasible target schedule is a feasible plan of the instance, with its makespan.
(No condition on the durations is needed in this direction.) -/
theorem targetOK_feasible (w : WF inst) {S : Nat → Nat → Int} (h : TargetOK inst S) :
    FeasiblePlan (planOfTarget inst S) (targetMakespan inst S) :=
  feasiblePlan_of_feasT w h.feasT (fun _ hoc => le_targetMakespan S hoc)

/-- values attached to the members of a list with distinct keys can be read off a function of the key -/
theorem exists_of_keys {α β γ δ : Type} (key : α → Nat) (mk : α → γ → β) (pa : α → δ) (pb : β → δ) (c0 : γ)
    (l : List α) (r : List β) (hn : (l.map key).Nodup) (hmk : ∀ a ∈ l, ∀ b, pb b = pa a → ∃ c, mk a c = b)
    (h : r.map pb = l.map pa) : ∃ g : Nat → γ, l.map (fun a => mk a (g (key a))) = r := by
  induction l generalizing r with
  | nil =>
    cases r with
    | nil => exact ⟨fun _ => c0, rfl⟩
    | cons _ _ => cases h
  | cons a l ih =>
    cases r with
    | nil => cases h
    | cons b r =>
      rw [List.map_cons, List.map_cons, List.cons.injEq] at h
      rw [List.map_cons, List.nodup_cons] at hn
      obtain ⟨g, hg⟩ := ih r hn.2 (fun x hx => hmk x (List.mem_cons_of_mem _ hx)) h.2
      obtain ⟨c, hc⟩ := hmk a List.mem_cons_self b h.1
      refine ⟨fun k => if k = key a then c else g k, ?_⟩
      rw [List.map_cons]
      dsimp only
      rw [if_pos rfl, hc, ← hg]
      refine congrArg (b :: ·) (List.map_congr_left fun x hx => ?_)
      rw [if_neg fun e => hn.1 (List.mem_map.mpr ⟨x, hx, e⟩)]

theorem exists_starts_job (ops : List OpCfg) (pj : PJob) (hn : (ops.map (·.idx)).Nodup)
    (h : pj.proj = ops.map (fun o => (o.machine, o.d))) :
    ∃ g : Nat → Int, ops.map (fun oc => ((oc.machine, oc.d, g oc.idx) : POp)) = pj :=
  exists_of_keys (α := OpCfg) (β := POp) (γ := Int) (δ := Nat × Int) (·.idx) (fun oc t => (oc.machine, oc.d, t))
    (fun o => (o.machine, o.d)) (fun x => (x.1, x.2.1)) 0 ops pj hn
    (fun _ _ b hb => ⟨b.2.2, by rw [← (Prod.mk.inj hb).1, ← (Prod.mk.inj hb).2]⟩) h

theorem exists_starts_jobs (jobs : List JobCfg) (p : Plan) (hn : (jobs.map (·.id)).Nodup)
    (hi : ∀ jc ∈ jobs, (jc.ops.map (·.idx)).Nodup)
    (h : p.proj = jobs.map (fun j => j.ops.map fun o => (o.machine, o.d))) :
    ∃ T : Nat → Nat → Int, jobs.map (fun jc => jc.ops.map fun oc => ((oc.machine, oc.d, T jc.id oc.idx) : POp)) = p :=
  exists_of_keys (α := JobCfg) (β := PJob) (γ := Nat → Int) (δ := List (Nat × Int)) (·.id)
    (fun jc g => jc.ops.map fun oc : OpCfg => (oc.machine, oc.d, g oc.idx))
    (fun j => j.ops.map fun o : OpCfg => (o.machine, o.d)) PJob.proj (fun _ => 0) jobs p hn
    (fun jc hjc pj hpj => exists_starts_job jc.ops pj (hi jc hjc) hpj) h

theorem exists_target_of_plan (w : WF inst) (hdet : ∀ oc ∈ allOps inst, ∃ d, oc.dur = .det d) {p : Plan}
    {orc : Oracle} {r : Rng} (hproj : p.proj = schedOf orc r inst) : ∃ T, planOfTarget inst T = p := by
  have hs : schedOf orc r inst = inst.jobs.map (fun j => j.ops.map fun o => (o.machine, o.d)) := by
    rw [← planOfTarget_proj (orc := orc) (r := r) (fun _ _ => 0) hdet, planOfTarget_eq]
    simp [Plan.proj, PJob.proj, tOp, Function.comp_def]
  obtain ⟨T, hT⟩ := exists_starts_jobs inst.jobs p w.jobsNodup w.opIdxNodup (hproj.trans hs)
  refine ⟨T, ?_⟩
  rw [planOfTarget_eq, ← hT]
  apply List.map_congr_left
  intro jc hjc
  apply List.map_congr_left
  intro oc hoc
  simp only [tOp, w.opJob jc hjc oc hoc]

/-- **Theorem B**: every feasible plan of the instance with makespan at most `C` is matched by a list
schedule: there is a valid order all of whose operations end by `C`. -/
theorem feasible_dominated (w : WF inst) (hpos : ∀ oc ∈ allOps inst, ∃ d, oc.dur = .det d ∧ 0 < d) {p : Plan} {C : Int}
    (hf : FeasiblePlan p C) {orc : Oracle} {r : Rng} (hproj : p.proj = schedOf orc r inst) :
    ∃ π, ValidOrder inst π ∧ ∀ oc ∈ allOps inst, listStarts inst π oc.job oc.idx + oc.d ≤ C := by
  have hdet : ∀ oc ∈ allOps inst, ∃ d, oc.dur = .det d := fun oc hoc => by
    obtain ⟨d, hd, _⟩ := hpos oc hoc
    exact ⟨d, hd⟩
  obtain ⟨T, rfl⟩ := exists_target_of_plan w hdet hproj
  obtain ⟨hT, hC⟩ := feasT_of_feasiblePlan (d_nonneg_of_det hpos) hf
  obtain ⟨π, hπ, hle⟩ := dominated_of_feasT w (d_pos_of_det hpos) hT
  refine ⟨π, hπ, ?_⟩
  intro oc hoc
  have := hle oc hoc
  have := hC oc hoc
  omega

theorem feasiblePlan_bound_nonneg (w : WF inst) (hpos : ∀ oc ∈ allOps inst, ∃ d, oc.dur = .det d ∧ 0 < d) {p : Plan}
    {C : Int} (hf : FeasiblePlan p C) {orc : Oracle} {r : Rng} (hproj : p.proj = schedOf orc r inst)
    (hne : allOps inst ≠ []) : 0 ≤ C := by
  have hdet : ∀ oc ∈ allOps inst, ∃ d, oc.dur = .det d := fun oc hoc => by
    obtain ⟨d, hd, _⟩ := hpos oc hoc
    exact ⟨d, hd⟩
  obtain ⟨T, rfl⟩ := exists_target_of_plan w hdet hproj
  obtain ⟨hT, hC⟩ := feasT_of_feasiblePlan (d_nonneg_of_det hpos) hf
  cases hl : allOps inst with
  | nil => exact absurd hl hne
  | cons oc rest =>
    have hoc : oc ∈ allOps inst := by rw [hl]; simp
    have := hT.nonneg oc hoc
    have := hC oc hoc
    have := d_pos_of_det hpos oc hoc
    omega

/-- Theorems A and B together: below every feasible plan of the instance there is a list schedule,
which is a feasible, event-aligned target schedule of no greater makespan. -/
theorem feasible_dominated_target (w : WF inst) (hpos : ∀ oc ∈ allOps inst, ∃ d, oc.dur = .det d ∧ 0 < d) {p : Plan}
    {C : Int} (hf : FeasiblePlan p C) {orc : Oracle} {r : Rng} (hproj : p.proj = schedOf orc r inst)
    (h0 : 0 ≤ C ∨ allOps inst ≠ []) :
    ∃ π, ValidOrder inst π ∧ TargetOK inst (listStarts inst π) ∧ targetMakespan inst (listStarts inst π) ≤ C := by
  obtain ⟨π, hπ, hle⟩ := feasible_dominated w hpos hf hproj
  have hC : 0 ≤ C := by
    rcases h0 with h | h
    · exact h
    · exact feasiblePlan_bound_nonneg w hpos hf hproj h
  exact ⟨π, hπ, listStarts_targetOK w hpos hπ, targetMakespan_le hC hle⟩

theorem feasible_dominated_makespan (w : WF inst) (hpos : ∀ oc ∈ allOps inst, ∃ d, oc.dur = .det d ∧ 0 < d) {p : Plan}
    {C : Int} (hf : FeasiblePlan p C) {orc : Oracle} {r : Rng} (hproj : p.proj = schedOf orc r inst) (h0 : 0 ≤ C) :
    ∃ π, ValidOrder inst π ∧ targetMakespan inst (listStarts inst π) ≤ C := by
  obtain ⟨π, hπ, _, h⟩ := feasible_dominated_target w hpos hf hproj (Or.inl h0)
  exact ⟨π, hπ, h⟩

example : ValidOrder Ex.inst [0, 1, 0, 1] := by decide

/-- job 0 runs 0–3 on machine 0 and 4–6 on machine 1, job 1 runs 0–4 on machine 1 and 4–5 on machine 0 -/
example : listStarts Ex.inst [0, 1, 0, 1] 0 0 = 0 ∧ listStarts Ex.inst [0, 1, 0, 1] 1 0 = 0 ∧
    listStarts Ex.inst [0, 1, 0, 1] 0 1 = 4 ∧ listStarts Ex.inst [0, 1, 0, 1] 1 1 = 4 := by decide +kernel

example : targetMakespan Ex.inst (listStarts Ex.inst [0, 1, 0, 1]) = 6 := by decide +kernel

/-- an order that finishes job 0 first is worse: job 1 waits for machine 1 until 5 and ends at 10 -/
example : targetMakespan Ex.inst (listStarts Ex.inst [0, 0, 1, 1]) = 10 := by decide +kernel

end JSL
