import JSL.Inv.OutageInv
import JSL.Inv.EnvPass

/-!
# Remembered outage ends lie in the past

`OutageInv` says that records of a component that is not in OUTAGE are inactive.  The release
(OUTAGE → IDLE) replaces `active a e` by `inactive (some e)`: the end is remembered.  A release is
only ever created by the timed mechanism when the component's `occupied_till` has been reached, and
that instant is the end of the longest active outage; hence every remembered end is an instant
that has passed – in particular the "time since the outage was last active" the next sampling
computes from it is never negative.

This needs a side condition on the batches (a release is due, nothing earlier in the batch strikes
the same component): `DueGS` of `Dur.lean` for machines, `RelGS` below for AGVs.
-/

namespace JSL

variable {orc : Oracle} {inst : Instance}

def PastEnds (now : Int) (l : List OutageState) : Prop := ∀ o ∈ l, ∀ e, o.st = .inactive (some e) → e ≤ now

theorem PastEnds.mono {now t : Int} {l : List OutageState} (h : PastEnds now l) (hle : now ≤ t) : PastEnds t l :=
  fun o ho e he => Int.le_trans (h o ho e he) hle

theorem OutEffect.past {now : Int} {Cfg : List OutageCfg → Prop} {wasOut isOut isRel isStr : Prop} {occAt : Int → Prop}
    {old new : List OutageState} (h : OutEffect orc now Cfg wasOut isOut isRel isStr occAt old new)
    (hn : ∀ sid k, 0 ≤ orc sid k) (hd : ∀ c, Cfg c → ∀ o ∈ c, ∀ t, o.dur = .det t → 0 ≤ t)
    (hold : PastEnds now old)
    (hrel : wasOut → isRel → ∀ o ∈ old, ∀ x y, o.st = .active x y → y ≤ now) : PastEnds now new := by
  cases h with
  | keep _ _ e => subst e; exact hold
  | release h1 _ h3 e =>
    subst e
    intro o ho e he
    obtain ⟨o0, ho0, rfl⟩ := List.mem_map.mp ho
    unfold releaseOutage at he
    cases hst : o0.st with
    | active x y =>
      simp [hst] at he
      subst he
      exact hrel h1 h3 o0 ho0 x y hst
    | inactive l =>
      simp [hst] at he
      exact hold o0 ho0 e (by rw [hst, he])
  | strike cfgs r r' hc _ _ hnew _ =>
    intro o ho e he
    rcases (newOutageStates_spec hn cfgs r r' new (hd cfgs hc) hnew).2 o ho with ⟨l, _, hmem⟩ | ⟨d, _, hact⟩
    · exact hold o hmem e he
    · rw [hact] at he; cases he

structure RelGS (s : State) (L : List Transition) : Prop where
  due : ∀ tr ∈ L, tr.new = .t .idle → ∀ t ∈ s.transports, tr.comp = .t t.id → t.st = .outage →
    ∀ o, t.occ = .at o → o ≤ s.time
  order : L.Pairwise (fun a b => b.new = .t .idle → a.comp = b.comp → a.new = .t .waitingpickup)

theorem RelGS.tail {s : State} {tr : Transition} {R : List Transition} (h : RelGS s (tr :: R)) : RelGS s R :=
  ⟨fun t ht => h.due t (by simp [ht]), (List.pairwise_cons.mp h.order).2⟩

theorem RelGS.step (w : WF inst) {s s' : State} {r r' : Rng} {tr : Transition} {R : List Transition}
    (hI : StructInv inst s) (hgs : RelGS s (tr :: R))
    (h : applyTransition orc inst s r tr = .ok (s', r')) : RelGS s' R := by
  refine ⟨?_, (List.pairwise_cons.mp hgs.order).2⟩
  intro b hb hn t' ht' hcb hst o ho
  rw [applyTransition_time h]
  cases applyTransition_ran h with
  | m m hc =>
    obtain ⟨_, _, _, _, _, _, htr, _⟩ := machine_out_effect hc h
    rw [htr] at ht'
    exact hgs.due b (by simp [hb]) hn t' ht' hcb hst o ho
  | t t hc =>
    obtain ⟨t0, ht0, T', hid0, hid, htr, _, heff⟩ := agv_out_effect w hI hc h
    rw [htr] at ht'
    rcases (mem_replaceTransport (hI.shape.trNodup w) ht0 hid t').mp ht' with rfl | ⟨ht0', _⟩
    · exfalso
      have hnew : tr.new = .t .waitingpickup :=
        (List.pairwise_cons.mp hgs.order).1 b hb hn (by rw [hc, hcb, hid, hid0])
      cases heff with
      | keep _ h2 _ => exact h2 hst
      | release _ h2 _ _ => exact h2 hst
      | strike _ _ _ _ _ h3 _ _ => rw [hnew] at h3; cases h3
    · exact hgs.due b (by simp [hb]) hn t' ht0' hcb hst o ho

theorem timedTransport_idle_due {s : State} (hS : SchedInv s) {t : TransportState} (ht : t ∈ s.transports) {tr : Transition}
    (h : timedTransport inst s t = .ok (some tr)) (hn : tr.new = .t .idle) :
    tr.comp = .t t.id ∧ ∀ o, t.occ = .at o → o ≤ s.time := by
  rcases timedTransport_ok h with ⟨b, j, hocc, _⟩ | ⟨o, hocc, hle, hc, _⟩
  · have := hS.depWaiting t ht b j tr hocc
    rw [hn] at this
    cases this
  · refine ⟨hc, fun o' ho' => ?_⟩
    rw [hocc] at ho'
    cases ho'
    exact hle

theorem timed_rel (w : WF inst) {s : State} (hI : StructInv inst s) (hS : SchedInv s) {tt tele : List Transition}
    (htt : timedTransitions inst s = .ok tt) (htele : ∀ tr ∈ tele, tr.new = .t .working) : RelGS s (tt ++ tele) := by
  have hs := hI.shape
  obtain ⟨ra, rb, hra, hrb, rfl⟩ := timedTransitions_ok htt
  have hA := timedMachines_spec (inst := inst) s.machines (fun m hm => hm) (hs.machNodup w) ra hra
  have hB : ∀ tr ∈ rb.filterMap id, tr.new = .t .idle →
      ∃ t ∈ s.transports, tr.comp = .t t.id ∧ ∀ o, t.occ = .at o → o ≤ s.time := by
    intro tr htr hn
    obtain ⟨t, ht, e⟩ := (mem_mapM_filterMap hrb tr).mp htr
    exact ⟨t, ht, timedTransport_idle_due hS ht e hn⟩
  -- machine transitions and dispatches are no AGV releases
  have hM : ∀ tr ∈ ra.filterMap id, ∃ ns mid, tr.new = .m ns ∧ tr.comp = .m mid := by
    intro tr htr
    obtain ⟨⟨m, _, hc, hcase⟩, _⟩ := hA.1 tr htr
    rcases hcase with ⟨ns, _, e, _⟩ | ⟨_, e, _⟩
    · exact ⟨ns, m.id, e, hc⟩
    · exact ⟨.setup, m.id, e, hc⟩
  rw [List.append_assoc]
  constructor
  · intro tr htr hn t ht hc hst o ho
    rcases List.mem_append.mp htr with h | h
    · obtain ⟨ns, _, e, _⟩ := hM tr h
      rw [e] at hn; cases hn
    · rcases List.mem_append.mp h with h | h
      · obtain ⟨t', ht', ec, hdue⟩ := hB tr h hn
        rw [ec] at hc
        simp at hc
        have : t' = t := eq_of_mem_of_key_eq (key := fun (y : TransportState) => y.id) (hs.trNodup w) ht' ht hc
        subst this
        exact hdue o ho
      · rw [htele tr h] at hn; cases hn
  · apply List.pairwise_append.mpr
    refine ⟨?_, ?_, ?_⟩
    · apply List.pairwise_of_forall_mem_list
      intro x _ y hy hn
      obtain ⟨ns, _, e, _⟩ := hM y hy
      rw [e] at hn; cases hn
    · apply List.pairwise_append.mpr
      refine ⟨(timedTransports_pairwise hS (hs.trNodup w) hrb).imp fun h hn hc =>
        (h hc).resolve_right (by rw [hn]; simp), ?_, ?_⟩
      · apply List.pairwise_of_forall_mem_list
        intro x _ y hy hn
        rw [htele y hy] at hn; cases hn
      · intro x _ y hy hn
        rw [htele y hy] at hn; cases hn
    · intro x hx y hy hn hcomp
      exfalso
      obtain ⟨_, mid, _, ec⟩ := hM x hx
      rcases List.mem_append.mp hy with h | h
      · obtain ⟨t', _, ec', _⟩ := hB y h hn
        rw [ec, ec'] at hcomp; cases hcomp
      · rw [htele y h] at hn; cases hn

structure OutagePast (s : State) : Prop where
  inv : OutageInv s
  mach : ∀ m ∈ s.machines, PastEnds s.time m.outages
  agv : ∀ t ∈ s.transports, PastEnds s.time t.outages

structure PastGS (s : State) (L : List Transition) : Prop where
  mach : DueGS s L
  agv : RelGS s L

theorem applyTransition_past (w : WF inst) (nn : NonNeg orc inst) {s s' : State} {r r' : Rng} {tr : Transition}
    {R : List Transition} (hI : StructInv inst s) (hP : OutagePast s) (hgs : PastGS s (tr :: R))
    (h : applyTransition orc inst s r tr = .ok (s', r')) : OutagePast s' := by
  have htime := applyTransition_time h
  have hinv := applyTransition_outage w nn hI hP.inv h
  cases applyTransition_ran h with
  | m m hc =>
    obtain ⟨m0, hm0, M', hid0, hid, hmach, htr, heff⟩ := machine_out_effect hc h
    have hnew : PastEnds s.time M'.outages := by
      apply heff.past nn.orc (mout_cfg nn) (hP.mach m0 hm0)
      intro hwas hrel o ho x y hact
      obtain ⟨a, hocc, _, hstruck⟩ := hP.inv.machOut m0 hm0 hwas
      have hdue := hgs.mach.due tr (by simp) m.id hc (Or.inr (Or.inl hrel)) m0 hm0 hid0
      rw [hocc] at hdue
      simp [dueAt] at hdue
      have := (hstruck.2 o ho x y hact).2.2
      omega
    refine ⟨hinv, ?_, ?_⟩
    · intro m hm
      rw [hmach] at hm
      rw [htime]
      rcases (mem_replaceMachine (hI.shape.machNodup w) hm0 hid m).mp hm with rfl | ⟨hm', _⟩
      · exact hnew
      · exact hP.mach m hm'
    · intro t ht
      rw [htr] at ht
      rw [htime]
      exact hP.agv t ht
  | t t hc =>
    obtain ⟨t0, ht0, T', hid0, hid, htr, hmach, heff⟩ := agv_out_effect w hI hc h
    have hnew : PastEnds s.time T'.outages := by
      apply heff.past nn.orc (tout_cfg nn) (hP.agv t0 ht0)
      intro hwas hrel o ho x y hact
      obtain ⟨a, hocc, _, hstruck⟩ := hP.inv.agvOut t0 ht0 hwas
      have hdue := hgs.agv.due tr (by simp) hrel t0 ht0 (by rw [hc, hid0]) hwas _ hocc
      have := (hstruck.2 o ho x y hact).2.2
      omega
    refine ⟨hinv, ?_, ?_⟩
    · intro m' hm'
      obtain ⟨m, hm, _, _, e3⟩ := hmach m' hm'
      rw [← e3, htime]
      exact hP.mach m hm
    · intro t ht
      rw [htr] at ht
      rw [htime]
      rcases (mem_replaceTransport (hI.shape.trNodup w) ht0 hid t).mp ht with rfl | ⟨ht', _⟩
      · exact hnew
      · exact hP.agv t ht'

theorem OutagePast.advance {s : State} {t : Int} (h : OutagePast s) (hle : s.time ≤ t) :
    OutagePast { s with time := t } :=
  ⟨h.inv.advance hle, fun m hm => (h.mach m hm).mono hle, fun x hx => (h.agv x hx).mono hle⟩

def OutagePastPass (orc : Oracle) (inst : Instance) (cfg : SMConfig) (w : WF inst) (nn : NonNeg orc inst) :
    Pass orc inst cfg where
  P := OutagePast
  GS := PastGS
  Adm := fun _ a => ∀ tr ∈ a.transitions, OfferShaped tr
  tail := fun h => ⟨h.mach.tail, h.agv.tail⟩
  step := fun hI _ hP _ _ _ hgs ha =>
    ⟨applyTransition_past w nn hI hP hgs ha, ⟨hgs.mach.step w hI ha, hgs.agv.step w hI ha⟩⟩
  advance := fun _ _ hP hle _ => hP.advance hle
  timed := fun hI hS _ htt hposs htele =>
    ⟨timed_due w hI hS htt (filterTeleport_shape hposs htele), timed_rel w hI hS htt (filterTeleport_shape hposs htele)⟩
  timedOnly := fun hI hS _ htt =>
    ⟨by simpa using timed_due w hI hS (tele := []) htt (by simp),
     by simpa using timed_rel w hI hS (tele := []) htt (by simp)⟩
  action := fun {s a} _ _ _ hadm => by
    have hsh : ∀ tr ∈ sortedByTransport a.transitions, tr.new = .m .setup ∨ tr.new = .t .working :=
      fun tr htr => hadm tr (mem_sortedByTransport htr)
    refine ⟨⟨?_, ?_⟩, ⟨?_, ?_⟩⟩
    · intro tr htr mid _ hn
      rcases hsh tr htr with e | e <;> rw [e] at hn <;> simp at hn
    · apply List.pairwise_of_forall_mem_list
      intro x _ y hy mid _ hn
      rcases hsh y hy with e | e <;> rw [e] at hn <;> simp at hn
    · intro tr htr hn
      rcases hsh tr htr with e | e <;> rw [e] at hn <;> cases hn
    · apply List.pairwise_of_forall_mem_list
      intro x _ y hy hn
      rcases hsh y hy with e | e <;> rw [e] at hn <;> cases hn

theorem OutagePast.of_rest {s : State} (hr : restB s = true) (h0 : outRestB s = true) (h1 : outPastB s = true) :
    OutagePast s := by
  simp only [outPastB, Bool.and_eq_true, List.all_eq_true] at h1
  refine ⟨OutageInv.of_rest hr h0, ?_, ?_⟩
  · intro m hm o ho e he
    have := h1.1 m hm o ho
    rw [he] at this
    simpa [OutSt.pastB] using this
  · intro t ht o ho e he
    have := h1.2 t ht o ho
    rw [he] at this
    simpa [OutSt.pastB] using this

/-- the time since an inactive record was last active, as the next sampling computes it, is never
negative (given a clock that is not negative, for records that were never active) -/
theorem OutagePast.since_nonneg {s : State} (h : OutagePast s) (hclock : 0 ≤ s.time) :
    (∀ m ∈ s.machines, ∀ o ∈ m.outages, ∀ d, outageSince s.time o.st = .ok d → 0 ≤ d) ∧
    (∀ t ∈ s.transports, ∀ o ∈ t.outages, ∀ d, outageSince s.time o.st = .ok d → 0 ≤ d) := by
  have key : ∀ l, PastEnds s.time l → ∀ o ∈ l, ∀ d, outageSince s.time o.st = .ok d → 0 ≤ d := by
    intro l hl o ho d hd
    cases hst : o.st with
    | active a b => rw [hst] at hd; simp [outageSince] at hd
    | inactive x =>
      cases x with
      | none => rw [hst] at hd; simp [outageSince] at hd; cases hd; omega
      | some e =>
        have := hl o ho e hst
        rw [hst] at hd; simp [outageSince] at hd; cases hd; omega
  exact ⟨fun m hm => key _ (h.mach m hm), fun t ht => key _ (h.agv t ht)⟩

/-- **every exposed state**: up to the final stamp of the clock, the outage invariant holds and every
remembered end is an instant that has passed -/
theorem exposed_outagePast {ec : EnvCfg} {st : RewardStatic} {s0 σ : State} (hst : Start orc inst s0)
    (h0 : outRestB s0 = true) (h1 : outPastB s0 = true) (h : Exposed orc inst ec st s0 σ) :
    ∃ t, OutagePast { σ with time := t } := by
  obtain ⟨w, _⟩ := initOKB_sound hst.init
  have nn := nonnegB_sound hst.samples hst.nonneg
  exact exposed_pass (OutagePastPass orc inst ec.sm w nn) hst (OutagePast.of_rest hst.rest h0 h1)
    (fun _ _ ha => ha.shaped) h

end JSL
