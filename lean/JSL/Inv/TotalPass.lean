import JSL.Inv.TotalEffect
import JSL.Inv.TotalMachine

/-!
# The batches the code builds are well-aimed, and stay so

* `timed_aim` / `offer_aim`: every transition `create_timed_transitions` builds from a state, and
  every transition on offer in it, is well-aimed (`Aim`) in that state; in `timed ++ teleports` the
  machine transitions come first, and no two transitions address the same component (`Indep`);
* `aim_step`: applying a transition keeps every later transition of the batch well-aimed;
* `valid_true`: a well-aimed transition passes validation when, if it addresses a machine, the handler
  table has an entry for it (`MValid`);
* `TotPass`: the pass carrying `AgvFull ∧ Ready ∧ OutageInv ∧ OutShape ∧ AgvShape ∧ JobPlace` with the
  batch guard `FullGS ∧ Aim ∧ MValid ∧ Indep`.
-/

namespace JSL

variable {orc : Oracle} {inst : Instance}

/-- what is known of an AGV transition and the AGV it addresses (the AGV clause of `Aim` without the dispatch) -/
def AgvAim (t : TransportState) (tr : Transition) : Prop :=
  ∃ ns hd, tr.new = .t ns ∧ agvHandler t.st ns = some hd ∧ hd ≠ .idleToWorking ∧
    (hd = .pickupToWaitingpickup ∨ hd = .waitingPickupToWaitingPickup ∨ hd = .pickupToTransit → tr.job = t.job) ∧
    (hd = .transitToOutage → ∃ x, tr.job = some x ∧ x ∈ t.buffer.store)

theorem timedTransport_aim {s : State} (hA : AgvShape s) {t : TransportState} (ht : t ∈ s.transports) {tr : Transition}
    (h : timedTransport inst s t = .ok (some tr)) : tr.comp = .t t.id ∧ t.st ≠ .idle ∧ AgvAim t tr := by
  rcases timedTransport_ok h with ⟨b, j, hocc, _⟩ | ⟨o, _, _, hc, hcase⟩
  · exact absurd hocc (hA.noDep t ht b j tr)
  refine ⟨hc, ?_⟩
  rcases hcase with ⟨j, _, rdy, htj, hj, _, ⟨hst, hn⟩ | ⟨hst, hn⟩⟩ | ⟨hst, hn, j, _, hstore, hj⟩ | ⟨hst, hn, _⟩
  · exact ⟨by simp [hst], .waitingpickup, .pickupToWaitingpickup, hn, by rw [hst]; rfl, by simp,
      fun _ => hj.trans htj.symm, by simp⟩
  · cases rdy with
    | true =>
      exact ⟨by simp [hst], .transit, .pickupToTransit, hn, by rw [hst]; rfl, by simp,
        fun _ => hj.trans htj.symm, by simp⟩
    | false =>
      exact ⟨by simp [hst], .waitingpickup, .waitingPickupToWaitingPickup, hn, by rw [hst]; rfl, by simp,
        fun _ => hj.trans htj.symm, by simp⟩
  · exact ⟨by simp [hst], .outage, .transitToOutage, hn, by rw [hst]; rfl, by simp, by simp,
      fun _ => ⟨j.id, hj, by simp [hstore]⟩⟩
  · exact ⟨by simp [hst], .idle, .outageToIdle, hn, by rw [hst]; rfl, by simp, by simp, by simp⟩

theorem aim_of_agvAim {s : State} {t : TransportState} (ht : t ∈ s.transports)
    {tr : Transition} (hc : tr.comp = .t t.id) (h : AgvAim t tr) : Aim inst s tr := by
  obtain ⟨ns, hd, hn, hah, hne, hw, hdl⟩ := h
  refine ⟨fun mid e => (by rw [hc] at e; cases e), ?_, fun bid e => (by rw [hc] at e; cases e)⟩
  intro tid e
  rw [hc] at e
  injection e with e
  exact ⟨t, ht, e, ns, hd, hn, hah, fun e' => absurd e' hne, hw, hdl⟩

theorem timedM_aim {s : State} (hS : SchedInv s) {tr : Transition} (h : TimedM s tr) : Aim inst s tr := by
  obtain ⟨m, hm, hc, hcase⟩ := h
  refine ⟨?_, fun tid e => (by rw [hc] at e; cases e), fun bid e => (by rw [hc] at e; cases e)⟩
  intro mid e
  rw [hc] at e
  injection e with e
  refine ⟨m, hm, e, ?_⟩
  rcases hcase with ⟨ns, hnext, hn, hj⟩ | ⟨hst, hn, j, hj, hin⟩
  · have hbusy : m.st ≠ .idle := by intro e'; rw [e'] at hnext; cases hnext
    obtain ⟨j, _, hstore, _⟩ := hS.busyHolds m hm hbusy
    refine ⟨ns, j.id, hn, by rw [hj, hstore]; rfl, ?_, fun _ => by rw [hstore]; simp⟩
    intro e'
    subst e'
    exfalso
    revert hnext; cases m.st <;> decide
  · exact ⟨.setup, j, hn, hj, fun _ => hin, fun e' => (by rcases e' with e' | e' <;> cases e')⟩

theorem offer_aim (w : WF inst) {s : State} (hV : TotInv inst s) {cfg : SMConfig} {poss : List Transition}
    (hp : possibleTransitions inst cfg s = .ok poss) {tr : Transition} (htr : tr ∈ poss) : Aim inst s tr := by
  have hI := hV.struct
  have hs := hI.shape
  rcases mem_possibleTransitions hp htr with ⟨j, hj, o, hap, hn, rfl⟩ | ⟨pt, hpt, hin⟩
  · obtain ⟨m, hgm, _, hloc, _⟩ := actionPossible_facts hV.sched hj hap hn
    have hm := getMachine_ok hgm
    have hinpre : j.id ∈ m.pre.store := by
      have h1 := hI.cons.located (j.id, j.loc) (List.mem_map.mpr ⟨j, hj, rfl⟩)
      simp only at h1
      rw [← hloc, (pre_storeAt w hs hm.1).1] at h1
      exact h1
    refine ⟨?_, fun tid e => (by cases e), fun bid e => (by cases e)⟩
    intro mid e
    simp only [Comp.m.injEq] at e
    exact ⟨m, hm.1, by rw [hm.2, e], .setup, j.id, rfl, rfl, fun _ => hinpre,
      fun e' => (by rcases e' with e' | e' <;> cases e')⟩
  · obtain ⟨t, ht, tc, j, hj, rfl, hst, _, _, _, hkind, _⟩ := possibleTransport_offer hpt tr hin
    refine ⟨fun mid e => (by cases e), ?_, fun bid e => (by cases e)⟩
    intro tid e
    simp only [Comp.t.injEq] at e
    refine ⟨t, ht, e, .working, .idleToWorking, rfl, by rw [hst]; rfl, ?_, by simp, by simp⟩
    intro _
    refine ⟨j.id, rfl, ⟨j, hj, rfl⟩, ?_⟩
    intro j1 hj1 hid hout
    have : j1 = j := eq_of_mem_of_key_eq (key := fun (y : JobState) => y.id) (hs.jobsNodup w) hj1 hj hid
    subst this
    exact not_offered_in_output hV.full.route hj1 hout hkind

/-- an earlier transition `a` of a batch and a later one `b`: different components, and machine
transitions come first -/
def Indep (a b : Transition) : Prop :=
  a.comp ≠ b.comp ∧ ∀ mid, b.comp = .m mid → ∃ mid', a.comp = .m mid'

theorem teleportGreedy_pairwise_comp : ∀ (n : Nat) (l : List Transition),
    (teleportGreedy n l).Pairwise (fun a b => a.comp ≠ b.comp)
  | 0, _ => by simp [teleportGreedy]
  | n + 1, [] => by simp [teleportGreedy]
  | n + 1, t :: ts => by
    simp only [teleportGreedy]
    apply List.pairwise_cons.mpr
    refine ⟨?_, teleportGreedy_pairwise_comp n _⟩
    intro b hb
    have := mem_teleportGreedy n _ b hb
    have hf := (List.mem_filter.mp this).2
    simp only [Bool.and_eq_true, bne_iff_ne, ne_eq] at hf
    exact fun e => hf.2 e.symm

/-- the teleport batch is a selection of the offers, no two of them for the same component -/
theorem filterTeleport_sub {s : State} {poss tele : List Transition} {r : Rng}
    (h : filterTeleport orc inst r s poss = .ok tele) :
    (∀ tr ∈ tele, tr ∈ poss) ∧ tele.Pairwise (fun a b => a.comp ≠ b.comp) := by
  obtain ⟨l, rfl, hl⟩ := filterTeleport_ok h
  exact ⟨fun tr htr => (hl tr (mem_teleportGreedy _ _ _ htr)).1, teleportGreedy_pairwise_comp _ _⟩

/-- the timed batch followed by well-aimed dispatches of idle AGVs (pairwise different AGVs): every
transition is well-aimed, and they are pairwise independent -/
theorem timed_aim_core (w : WF inst) {s : State} (hV : TotInv inst s) {tt tele : List Transition}
    (htt : timedTransitions inst s = .ok tt) (hteleA : ∀ tr ∈ tele, Aim inst s tr)
    (hteleC : tele.Pairwise (fun a b => a.comp ≠ b.comp))
    (hteleD : ∀ tr ∈ tele, ∃ t ∈ s.transports, tr.comp = .t t.id ∧ t.st = .idle) :
    (∀ tr ∈ tt ++ tele, Aim inst s tr) ∧ (tt ++ tele).Pairwise Indep := by
  have hI := hV.struct
  have hs := hI.shape
  obtain ⟨ra, rb, hra, hrb, rfl⟩ := timedTransitions_ok htt
  have hA := timedMachines_spec (inst := inst) s.machines (fun m hm => hm) (hs.machNodup w) ra hra
  have hAc : ∀ tr ∈ ra.filterMap id, ∃ mid, tr.comp = .m mid := by
    intro tr htr
    obtain ⟨_, m, _, e⟩ := hA.1 tr htr
    exact ⟨m.id, e⟩
  have hB : ∀ tr ∈ rb.filterMap id, ∃ t ∈ s.transports, tr.comp = .t t.id ∧ t.st ≠ .idle ∧ AgvAim t tr := by
    intro tr htr
    obtain ⟨t, ht, e⟩ := (mem_mapM_filterMap hrb tr).mp htr
    exact ⟨t, ht, timedTransport_aim hV.shape ht e⟩
  have hBp : (rb.filterMap id).Pairwise (fun x y => x.comp ≠ y.comp) := by
    refine mapM_filterMap_pairwise s.transports rb hrb ((List.pairwise_map.mp (hs.trNodup w)).imp_of_mem ?_)
    intro t t' ht ht' hne a b ha hb e
    rw [(timedTransport_aim hV.shape ht ha).1, (timedTransport_aim hV.shape ht' hb).1] at e
    exact hne (Comp.t.inj e)
  have hT : ∀ tr ∈ rb.filterMap id ++ tele, ∃ t ∈ s.transports, tr.comp = .t t.id := by
    intro tr htr
    rcases List.mem_append.mp htr with h | h
    · obtain ⟨t, ht, e, _⟩ := hB tr h; exact ⟨t, ht, e⟩
    · obtain ⟨t, ht, e, _⟩ := hteleD tr h; exact ⟨t, ht, e⟩
  constructor
  · intro tr htr
    rcases List.mem_append.mp htr with h | h
    · rcases List.mem_append.mp h with h | h
      · exact timedM_aim hV.sched (hA.1 tr h).1
      · obtain ⟨t, ht, e, _, ha⟩ := hB tr h
        exact aim_of_agvAim ht e ha
    · exact hteleA tr h
  · rw [List.append_assoc]
    apply List.pairwise_append.mpr
    refine ⟨?_, ?_, ?_⟩
    · apply hA.2.imp_of_mem
      intro a b ha _ hne
      exact ⟨hne, fun _ _ => hAc a ha⟩
    · apply List.pairwise_append.mpr
      refine ⟨?_, ?_, ?_⟩
      · apply hBp.imp_of_mem
        intro a b _ hb' hne
        refine ⟨hne, ?_⟩
        intro mid e
        obtain ⟨t, _, e', _⟩ := hB b hb'
        rw [e'] at e; cases e
      · apply hteleC.imp_of_mem
        intro a b _ hb' hne
        refine ⟨hne, ?_⟩
        intro mid e
        obtain ⟨t, _, e', _⟩ := hteleD b hb'
        rw [e'] at e; cases e
      · intro a ha' b hb'
        obtain ⟨t, ht, e, hni, _⟩ := hB a ha'
        obtain ⟨t', ht', e', hi⟩ := hteleD b hb'
        refine ⟨?_, ?_⟩
        · intro ec
          rw [e, e'] at ec
          injection ec with ec
          have : t = t' := eq_of_mem_of_key_eq (key := fun (y : TransportState) => y.id) (hs.trNodup w) ht ht' ec
          subst this
          exact hni hi
        · intro mid em
          rw [e'] at em; cases em
    · intro a ha' b hb'
      obtain ⟨mid, e⟩ := hAc a ha'
      obtain ⟨t, _, e'⟩ := hT b hb'
      refine ⟨by rw [e, e']; simp, ?_⟩
      intro mid' em
      rw [e'] at em; cases em

theorem timed_aim (w : WF inst) {s : State} (hV : TotInv inst s) {cfg : SMConfig} {tt poss tele : List Transition} {r : Rng}
    (htt : timedTransitions inst s = .ok tt) (hposs : possibleTransitions inst cfg s = .ok poss)
    (htele : filterTeleport orc inst r s poss = .ok tele) :
    (∀ tr ∈ tt ++ tele, Aim inst s tr) ∧ (tt ++ tele).Pairwise Indep := by
  obtain ⟨hteleP, hteleC⟩ := filterTeleport_sub htele
  have hteleD : ∀ tr ∈ tele, ∃ t ∈ s.transports, tr.comp = .t t.id ∧ t.st = .idle := by
    intro tr htr
    have hn := filterTeleport_shape hposs htele tr htr
    rcases mem_possibleTransitions hposs (hteleP tr htr) with ⟨j, _, o, _, _, rfl⟩ | ⟨pt, hpt, hin⟩
    · simp at hn
    · obtain ⟨t, ht, tc, j, hj, rfl, hst, _⟩ := possibleTransport_offer hpt tr hin
      exact ⟨t, ht, rfl, hst⟩
  exact timed_aim_core w hV htt (fun tr htr => offer_aim w hV hposs (hteleP tr htr)) hteleC hteleD

theorem timedOnly_aim (w : WF inst) {s : State} (hV : TotInv inst s) {tt : List Transition}
    (htt : timedTransitions inst s = .ok tt) : (∀ tr ∈ tt, Aim inst s tr) ∧ tt.Pairwise Indep := by
  have := timed_aim_core w hV (tele := []) htt (by simp) List.Pairwise.nil (by simp)
  simpa using this

theorem aim_step (w : WF inst) {s s' : State} {r r' : Rng} (hV : TotInv inst s) {tr tr' : Transition}
    (hv : transitionValid s tr = .ok true) (hg : Guard s tr) (hind : Indep tr tr') (ha' : Aim inst s tr')
    (hu' : Unclaimed s tr') (h : applyTransition orc inst s r tr = .ok (s', r')) : Aim inst s' tr' := by
  have hI := hV.struct
  have hs := hI.shape
  have hjn := hs.jobsNodup w
  have htn := hs.trNodup w
  have hI' := applyTransition_struct w hI hv h
  have hjobs := job_ids_same hI hI'
  rcases applyTransition_comp h with ⟨mid0, hc⟩ | ⟨tid0, hc⟩
  ·
    obtain ⟨m0, hm0, hm0id, M', hMid, hms, hts, _⟩ := mach_effectS w hc h
    obtain ⟨m0', hm0', hm0id', _, j, hj, J', hJid, hjs, hcase⟩ := mach_effectR w hI hV.sched hg hc h
    have : m0' = m0 := eq_of_mem_of_key_eq (key := fun (y : MachineState) => y.id) (hs.machNodup w) hm0' hm0
      (by rw [hm0id', hm0id])
    subst this
    have hmem : ∀ x, x ∈ s'.jobs ↔ (x = J' ∨ (x ∈ s.jobs ∧ x.id ≠ j.id)) := by
      intro x; rw [hjs]; exact mem_replaceJob hjn hj hJid x
    have hno := machine_buf_not_output w hs hm0'
    refine ⟨?_, ?_, ha'.notBuf⟩
    · intro mid hc'
      obtain ⟨m, hm, hmid, rest⟩ := ha'.mach mid hc'
      have hne : m.id ≠ m0'.id := by
        intro e
        apply hind.1
        rw [hc, hc', ← hm0id, ← hmid, e]
      exact ⟨m, by rw [hms]; exact (mem_replaceMachine (hs.machNodup w) hm0' hMid m).mpr (Or.inr ⟨hm, hne⟩), hmid, rest⟩
    · intro tid hc'
      obtain ⟨t, ht, htid, ns, hd, hn, hah, hdisp, hw, hdl⟩ := ha'.agv tid hc'
      refine ⟨t, by rw [hts]; exact ht, htid, ns, hd, hn, hah, ?_, hw, hdl⟩
      intro he
      obtain ⟨x, hx, hex, hall⟩ := hdisp he
      refine ⟨x, hx, (hjobs x).mp hex, ?_⟩
      intro j1 hj1 hid
      rcases (hmem j1).mp hj1 with rfl | ⟨hj1', _⟩
      · rcases hcase with ⟨_, e, _⟩ | ⟨_, _, _, e3, _⟩
        · rw [e]; exact hno.2.1
        · rcases e3 with e3 | e3
          · rw [e3]; exact hall j hj (by rw [← hJid, hid])
          · rw [e3]; exact hno.2.2
      · exact hall j1 hj1' hid
  ·
    obtain ⟨t0, t', ht0, ht0id, hid, hts, heff⟩ := agv_effectR w hI hc h
    have hmemT : ∀ x, x ∈ s'.transports ↔ (x = t' ∨ (x ∈ s.transports ∧ x.id ≠ t0.id)) := by
      intro x; rw [hts]; exact mem_replaceTransport htn ht0 hid x
    refine ⟨?_, ?_, ha'.notBuf⟩
    · intro mid hc'
      obtain ⟨mid', e⟩ := hind.2 mid hc'
      rw [hc] at e; cases e
    · intro tid hc'
      obtain ⟨t, ht, htid, ns, hd, hn, hah, hdisp, hw, hdl⟩ := ha'.agv tid hc'
      have hne : t.id ≠ t0.id := by
        intro e
        apply hind.1
        rw [hc, hc', ← ht0id, ← htid, e]
      refine ⟨t, (hmemT t).mpr (Or.inr ⟨ht, hne⟩), htid, ns, hd, hn, hah, ?_, hw, hdl⟩
      intro he
      obtain ⟨x, hx, hex, hall⟩ := hdisp he
      refine ⟨x, hx, (hjobs x).mp hex, ?_⟩
      have hnew : tr'.new = .t .working := by
        subst he
        rw [hn, (agvHandler_idleToWorking hah).2]
      have hfree := hu' hnew x hx
      intro j1 hj1 hxid
      rcases agv_effectR_loc w hI hV.full ht0 heff hj1 with hold | h | ⟨_, hown, _⟩
      · exact hall j1 hold hxid
      · exact h.2
      · exact absurd (hxid ▸ hown) (hfree t0 ht0)

def MValid (s : State) (tr : Transition) : Prop :=
  ∀ mid, tr.comp = .m mid → ∀ m ∈ s.machines, m.id = mid → ∀ ns, tr.new = .m ns → ∃ h, machineHandler m.st ns = some h

theorem machineHandler_of_timedNext {a b : MSt} (h : machineTimedNext a = some b) : ∃ hd, machineHandler a b = some hd := by
  cases a <;> cases h <;> exact ⟨_, rfl⟩

theorem timedM_mvalid (w : WF inst) {s : State} (hs : Shape inst s) {tr : Transition} (h : TimedM s tr) : MValid s tr := by
  obtain ⟨m, hm, hc, hcase⟩ := h
  intro mid e m' hm' hid ns hn
  rw [hc] at e
  injection e with e
  have : m' = m := eq_of_mem_of_key_eq (key := fun (y : MachineState) => y.id) (hs.machNodup w) hm' hm (by rw [hid, e])
  subst this
  rcases hcase with ⟨ns', hnext, hn', _⟩ | ⟨hst, hn', _⟩
  · rw [hn'] at hn
    injection hn with hn
    subst hn
    exact machineHandler_of_timedNext hnext
  · rw [hn'] at hn
    injection hn with hn
    subst hn
    rw [hst]; exact ⟨_, rfl⟩

theorem mvalid_of_agv {s : State} {tr : Transition} {tid : Nat} (hc : tr.comp = .t tid) : MValid s tr := by
  intro mid e; rw [hc] at e; cases e

theorem offer_mvalid (w : WF inst) {s : State} (hV : TotInv inst s) {cfg : SMConfig} {poss : List Transition}
    (hp : possibleTransitions inst cfg s = .ok poss) {tr : Transition} (htr : tr ∈ poss) : MValid s tr := by
  have hs := hV.struct.shape
  rcases mem_possibleTransitions hp htr with ⟨j, hj, o, hap, hn, rfl⟩ | ⟨pt, hpt, hin⟩
  · obtain ⟨m, hgm, _, _, hst⟩ := actionPossible_facts hV.sched hj hap hn
    have hm := getMachine_ok hgm
    intro mid e m' hm' hid ns hnew
    simp only [Comp.m.injEq] at e
    have : m' = m := eq_of_mem_of_key_eq (key := fun (y : MachineState) => y.id) (hs.machNodup w) hm' hm.1 (by rw [hid, hm.2, e])
    subst this
    simp only [NewSt.m.injEq] at hnew
    subst hnew
    rw [hst]; exact ⟨_, rfl⟩
  · obtain ⟨t, ht, tc, j, hj, rfl, _⟩ := possibleTransport_offer hpt tr hin
    exact mvalid_of_agv rfl

theorem mvalid_step (w : WF inst) {s s' : State} {r r' : Rng} (hI : StructInv inst s) {tr tr' : Transition}
    (hind : Indep tr tr') (hm' : MValid s tr') (h : applyTransition orc inst s r tr = .ok (s', r')) : MValid s' tr' := by
  have hs := hI.shape
  intro mid hc' m hm hid ns hn
  obtain ⟨mid0, hc⟩ := hind.2 mid hc'
  obtain ⟨m0, hm0, hm0id, M', hMid, hms, _, _⟩ := mach_effectS w hc h
  rw [hms] at hm
  rcases (mem_replaceMachine (hs.machNodup w) hm0 hMid m).mp hm with rfl | ⟨hm1, _⟩
  · exfalso
    apply hind.1
    rw [hc, hc', ← hm0id, ← hid, hMid]
  · exact hm' mid hc' m hm1 hid ns hn

theorem transportValid_of_handler {a b : TSt} {h : THandler} (e : agvHandler a b = some h) :
    transportValid a b = true := by
  have hi := agvHandler_inv e
  cases h with
  | pickupToTransit => obtain ⟨rfl, rfl | rfl⟩ := hi <;> rfl
  | pickupToWaitingpickup => obtain ⟨rfl, rfl⟩ := hi; rfl
  | waitingPickupToWaitingPickup => obtain ⟨rfl, rfl⟩ := hi; rfl
  | outageToIdle => obtain ⟨rfl, rfl⟩ := hi; rfl
  | idleToWorking => obtain ⟨rfl, rfl⟩ := hi; rfl
  | transitToOutage => obtain ⟨rfl, rfl | rfl⟩ := hi <;> rfl

theorem valid_true (w : WF inst) {s : State} (hV : TotInv inst s) {tr : Transition} (ha : Aim inst s tr)
    (hm : MValid s tr) : transitionValid s tr = .ok true := by
  have hI := hV.struct
  have hs := hI.shape
  cases hc : tr.comp with
  | b bid => exact absurd hc (ha.notBuf bid)
  | t tid =>
    obtain ⟨t, ht, hid, ns, hd, hn, hah, _⟩ := ha.agv tid hc
    have hgt := getTransport_of_mem (hs.trNodup w) ht
    rw [hid] at hgt
    unfold transitionValid
    simp only [hc, hgt, except_bind_ok, except_pure, transportTransitionValid, hn]
    rw [transportValid_of_handler hah]
  | m mid =>
    obtain ⟨m, hmm, hid, ns, x, hnew, hjob, hpre, hbuf⟩ := ha.mach mid hc
    obtain ⟨hd, hh⟩ := hm mid hc m hmm hid ns hnew
    have hgm := getMachine_of_mem (hs.machNodup w) hmm
    rw [hid] at hgm
    unfold transitionValid
    simp only [hc, hgm, except_bind_ok]
    rw [TotalMachine.machineTransitionValid_eq s m hnew, hh, hjob]
    cases hd with
    | idleToSetup =>
      obtain ⟨hst, hns⟩ := machineHandler_idleToSetup hh
      subst hns
      have hx := hpre rfl
      have hx' : x ∈ storeAt s m.pre.id := by rw [(pre_storeAt w hs hmm).1]; exact hx
      obtain ⟨j, hj, e⟩ := List.mem_map.mp (hI.cons.stored _ _ hx')
      simp only [Prod.mk.injEq] at e
      have hg : getJob s.jobs x = .ok j := by rw [← e.1]; exact getJob_of_mem (hs.jobsNodup w) hj
      obtain ⟨op, hop, hopm⟩ := hV.full.route.preNext m hmm x hx j hj e.1
      have hnp : ∀ o ∈ j.ops, o.st ≠ .processing :=
        not_processing_of_stored hI hV.sched w hj (by rw [e.1]; exact hx') (fun m2 hm2 => (internal_ne_pre_post hs w hm2 hmm).1)
      have hrun : j.running = false := running_false_iff.mpr hnp
      have hnn : j.nextNotDone = .ok op := by
        simp [JobState.nextNotDone, nextNotDone_eq_nextIdle (hV.sched.ops j hj) hrun, hop]
      simp [machineJobCheck, hg, hnn, hopm]
    | setupToWorking =>
      obtain ⟨hst, hns⟩ := machineHandler_setupToWorking hh
      subst hns
      have hx := hbuf (Or.inl rfl)
      obtain ⟨j, hj, hstore, op, hop, hopm, _⟩ := hV.sched.busyHolds m hmm (by rw [hst]; decide)
      rw [hstore] at hx
      have hjx : x = j.id := by simpa using hx
      have hg : getJob s.jobs x = .ok j := by rw [hjx]; exact getJob_of_mem (hs.jobsNodup w) hj
      have hnn : j.nextNotDone = .ok op := by
        simp [JobState.nextNotDone, nextNotDone_of_processing (hV.sched.ops j hj) hop]
      simp [machineJobCheck, hg, hnn, hopm]
    | workingToOutage => rfl
    | outageToIdle => rfl

theorem timedOnly_mvalid (w : WF inst) {s : State} (hI : StructInv inst s) (hS : SchedInv s) {tt : List Transition}
    (htt : timedTransitions inst s = .ok tt) : ∀ tr ∈ tt, MValid s tr := by
  have hs := hI.shape
  obtain ⟨ra, rb, hra, hrb, rfl⟩ := timedTransitions_ok htt
  have hA := timedMachines_spec (inst := inst) s.machines (fun m hm => hm) (hs.machNodup w) ra hra
  have hB := timedTransports_spec (inst := inst) hS s.transports (fun t ht => ht) rb hrb
  intro tr htr
  rcases List.mem_append.mp htr with h | h
  · exact timedM_mvalid w hs (hA.1 tr h).1
  · obtain ⟨⟨ns, e⟩, _⟩ := hB tr h
    intro mid _ m _ _ ns' hn
    rw [e] at hn; cases hn

theorem timed_mvalid (w : WF inst) {s : State} (hV : TotInv inst s) {cfg : SMConfig} {tt poss tele : List Transition} {r : Rng}
    (htt : timedTransitions inst s = .ok tt) (hposs : possibleTransitions inst cfg s = .ok poss)
    (htele : filterTeleport orc inst r s poss = .ok tele) : ∀ tr ∈ tt ++ tele, MValid s tr := by
  intro tr htr
  rcases List.mem_append.mp htr with h | h
  · exact timedOnly_mvalid w hV.struct hV.sched htt tr h
  · have hn := filterTeleport_shape hposs htele tr h
    intro mid _ m _ _ ns' hn'
    rw [hn] at hn'; cases hn'

/-- `TotInv` without `StructInv` and `SchedInv`, which every `Pass` carries -/
structure TotP (inst : Instance) (s : State) : Prop where
  full : AgvFull inst s
  ready : Ready inst s
  out : OutageInv s
  outShape : OutShape inst s
  shape : AgvShape s
  place : JobPlace inst s

theorem TotP.inv {s : State} (hP : TotP inst s) (hI : StructInv inst s) (hS : SchedInv s) : TotInv inst s :=
  ⟨hI, hS, hP.full, hP.ready, hP.out, hP.outShape, hP.shape, hP.place⟩

theorem TotInv.toP {s : State} (hV : TotInv inst s) : TotP inst s :=
  ⟨hV.full, hV.ready, hV.out, hV.outShape, hV.shape, hV.place⟩

structure TotGS (inst : Instance) (s : State) (L : List Transition) : Prop where
  full : FullGS s L
  aim : ∀ tr ∈ L, Aim inst s tr
  mvalid : ∀ tr ∈ L, MValid s tr
  indep : L.Pairwise Indep

def TotPass (orc : Oracle) (inst : Instance) (cfg : SMConfig) (w : WF inst) (nn : NonNeg orc inst) (C : TotClassP inst) :
    Pass orc inst cfg where
  P := TotP inst
  GS := TotGS inst
  Adm := AdmOffer inst cfg
  tail := fun h => ⟨(FullPass orc inst cfg w).tail h.full, fun tr htr => h.aim tr (by simp [htr]),
    fun tr htr => h.mvalid tr (by simp [htr]), (List.pairwise_cons.mp h.indep).2⟩
  step := fun {s s' r r' tr R} hI hS hP hv hsafe hfresh hgs ha => by
    have hf := (FullPass orc inst cfg w).step hI hS hP.full hv hsafe hfresh hgs.full ha
    have hV := hP.inv hI hS
    refine ⟨⟨hf.1, applyTransition_ready w C.tables hI hP.full hP.ready hv ha, applyTransition_outage w nn hI hP.out ha,
      applyTransition_outShape w hI hP.outShape ha, applyTransition_agvShape w C.pflex hI hS hP.shape ha,
      applyTransition_jobPlace w hI hS hP.full hP.place hsafe.guard (hgs.aim tr (by simp)) ha⟩, hf.2, ?_,
      fun tr' htr' => mvalid_step w hI ((List.pairwise_cons.mp hgs.indep).1 tr' htr') (hgs.mvalid tr' (by simp [htr'])) ha,
      (List.pairwise_cons.mp hgs.indep).2⟩
    intro tr' htr'
    exact aim_step w hV hv hsafe.guard ((List.pairwise_cons.mp hgs.indep).1 tr' htr') (hgs.aim tr' (by simp [htr']))
      (fun hn x hx => hgs.full.claim.free tr' (by simp [htr']) hn x hx) ha
  advance := fun hI hS hP hle hpg =>
    ⟨(FullPass orc inst cfg w).advance hI hS hP.full hle hpg, ⟨hP.ready.tool, hP.ready.parked⟩, hP.out.advance hle,
     ⟨hP.outShape.mach, hP.outShape.agv⟩, ⟨hP.shape.noWorking, hP.shape.busyClaims, hP.shape.noDep, hP.shape.occSet⟩,
     ⟨hP.place.inputIdle, hP.place.claimNotOut⟩⟩
  timed := fun hI hS hP htt hposs htele =>
    have ht := timed_aim w (hP.inv hI hS) htt hposs htele
    ⟨(FullPass orc inst cfg w).timed hI hS hP.full htt hposs htele, ht.1,
      timed_mvalid w (hP.inv hI hS) htt hposs htele, ht.2⟩
  timedOnly := fun hI hS hP htt =>
    have ht := timedOnly_aim w (hP.inv hI hS) htt
    ⟨(FullPass orc inst cfg w).timedOnly hI hS hP.full htt, ht.1, timedOnly_mvalid w hI hS htt, ht.2⟩
  action := fun {s a} hI hS hP hadm => by
    refine ⟨(FullPass orc inst cfg w).action hI hS hP.full hadm, ?_, ?_, ?_⟩
    · rcases hadm with e | ⟨poss, hposs, tr, hp, e⟩
      · rw [e, sortedByTransport_nil]; intro _ h; cases h
      · rw [e, sortedByTransport_single]
        intro tr' htr'
        simp at htr'; subst htr'
        exact offer_aim w (hP.inv hI hS) hposs hp
    · rcases hadm with e | ⟨poss, hposs, tr, hp, e⟩
      · rw [e, sortedByTransport_nil]; intro _ h; cases h
      · rw [e, sortedByTransport_single]
        intro tr' htr'
        simp at htr'; subst htr'
        exact offer_mvalid w (hP.inv hI hS) hposs hp
    · rcases hadm with e | ⟨poss, hposs, tr, hp, e⟩
      · rw [e, sortedByTransport_nil]; exact List.Pairwise.nil
      · rw [e, sortedByTransport_single]; exact List.pairwise_singleton _ _

end JSL
