import JSL.Inv.EnvReach

/-!
# From a pass to the episodes of the environment

`occursF_pass` carries the invariant of a `Pass` along every execution whose actions are offers.
Everything the middleware submits is such an action, so the invariant reaches every state the
environment exposes: the post-state of every applied transition and every sub-state exactly, the
state held by the environment up to the final stamp of the clock.
-/

namespace JSL

variable {orc : Oracle} {inst : Instance} {cfg : SMConfig}

theorem resPass_lift (ps : Pass orc inst cfg) {s0 : State} (hst : Start orc inst s0) (h0 : ps.P s0)
    (hadm : ∀ s a, Admissible a → AdmOffer inst cfg s a → ps.Adm s a) :
    EnvLift orc inst cfg s0 (ResPass ps) ps.P where
  init := smStep_resPass ps hst h0 hadm OccursF.init admissible_noOp (Or.inl rfl)
  drop := fun hr _ => ⟨hr.fin, hr.subs⟩
  step := fun hi _ hne ha ho hs => smStep_resPass ps hst h0 hadm (hi.liveF hne) ha ho hs

/-- **every exposed state satisfies the invariant of a pass that admits offers, up to the final
stamp of the clock** -/
theorem exposed_passF {ec : EnvCfg} {st : RewardStatic} (ps : Pass orc inst ec.sm) {s0 σ : State}
    (hst : Start orc inst s0) (h0 : ps.P s0) (hadm : ∀ s a, Admissible a → AdmOffer inst ec.sm s a → ps.Adm s a)
    (h : Exposed orc inst ec st s0 σ) : ∃ t, ps.P { σ with time := t } := by
  rcases (resPass_lift ps hst h0 hadm).exposed hst (fun _ hr => hr.subs) h with ⟨_, hr, rfl⟩ | hq
  · exact hr.fin
  · exact ⟨σ.time, hq⟩

theorem exposed_pass {ec : EnvCfg} {st : RewardStatic} (ps : Pass orc inst ec.sm) {s0 σ : State}
    (hst : Start orc inst s0) (h0 : ps.P s0) (hadm : ∀ s a, Admissible a → ps.Adm s a)
    (h : Exposed orc inst ec st s0 σ) : ∃ t, ps.P { σ with time := t } :=
  exposed_passF ps hst h0 (fun s a ha _ => hadm s a ha) h

end JSL
