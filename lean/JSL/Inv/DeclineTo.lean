import JSL.Props.C18

/-!
# Any offer can be chosen: declining down to it

The agent sees the offers one at a time (the head of `possible`).  While more than `k` offers are
held, declining `k` times returns normally each time, applies no transition, leaves the shop state,
the generator, the truncation allowance (`joker`) and the count of accepted offers (`actCnt`)
untouched – the count of declines `noOpCnt` grows –, and presents the `k`-th offer as the head: at
the middleware (`declineN`, `decline_prefix`) and at the environment (`envDeclineN`,
`env_decline_prefix`).
-/

namespace JSL

variable {orc : Oracle} {inst : Instance} {cfg : SMConfig} {mc : MwCfg} {fuel : Nat}

theorem two_of_succ_lt_length {α : Type} {l : List α} {k : Nat} (h : k + 1 < l.length) :
    ∃ a b rest, l = a :: b :: rest :=
  match l, h with
  | [], h => absurd h (Nat.not_lt_zero _)
  | [_], h => absurd (Nat.lt_of_succ_lt_succ h) (Nat.not_lt_zero _)
  | a :: b :: rest, _ => ⟨a, b, rest, rfl⟩

/-- `n` times "decline" through `middleware.step`; the ghost lists of applied transitions are
concatenated -/
def declineN (orc : Oracle) (inst : Instance) (cfg : SMConfig) (mc : MwCfg) (fuel : Nat) :
    Nat → SMResult → MwState → Rng → Except Err (SMResult × MwState × Rng × List State)
  | 0, res, m, r => pure (res, m, r, [])
  | n + 1, res, m, r => do
    let (res1, m1, r1, mic1) ← mwStep orc inst cfg mc fuel res m r .decline
    let (res2, m2, r2, mic2) ← declineN orc inst cfg mc fuel n res1 m1 r1
    pure (res2, m2, r2, mic1 ++ mic2)

theorem mwStep_decline_many (res : SMResult) (m : MwState) (r : Rng) (o o' : Transition) (rest : List Transition)
    (hp : res.possible = o :: o' :: rest) :
    mwStep orc inst cfg mc fuel res m r .decline =
      .ok ({ state := res.state, subStates := res.subStates, action := noOpAction, success := true,
             done := false, possible := o' :: rest }, { m with noOpCnt := m.noOpCnt + 1 }, r, []) := by
  simp [mwStep, interpret, hp, noOpAction, MwState.addOp, noOpResult]

/-- **T2 at the middleware.**  Declining `k` times while more than `k` offers are held succeeds,
applies nothing and ends with the offers from the `k`-th on, over the same state, with the same
generator, allowance and count of accepted offers. -/
theorem decline_prefix (res : SMResult) (m : MwState) (r : Rng) (k : Nat) (hk : k < res.possible.length) :
    ∃ res' m', declineN orc inst cfg mc fuel k res m r = .ok (res', m', r, []) ∧
      res'.state = res.state ∧ res'.possible = res.possible.drop k ∧
      m'.joker = m.joker ∧ m'.actCnt = m.actCnt := by
  induction k generalizing res m with
  | zero => exact ⟨res, m, rfl, rfl, rfl, rfl, rfl⟩
  | succ k ih =>
    obtain ⟨o, o', rest, hp⟩ := two_of_succ_lt_length hk
    have h1 := mwStep_decline_many (orc := orc) (inst := inst) (cfg := cfg) (mc := mc) (fuel := fuel) res m r o o' rest hp
    obtain ⟨res', m', h2, e1, e2, e3, e4⟩ :=
      ih { state := res.state, subStates := res.subStates, action := noOpAction, success := true,
           done := false, possible := o' :: rest } { m with noOpCnt := m.noOpCnt + 1 }
        (by rw [hp] at hk; simpa using hk)
    refine ⟨res', m', ?_, e1, by rw [e2, hp]; rfl, e3, e4⟩
    simp only [declineN, h1, except_bind_ok, h2, except_pure, List.append_nil]

/-- `n` times "decline" through `env.step`, collecting the ghost lists -/
def envDeclineN (orc : Oracle) (inst : Instance) (ec : EnvCfg) (st : RewardStatic) :
    Nat → EnvState → Except Err (EnvState × List State)
  | 0, e => pure (e, [])
  | n + 1, e => do
    let out ← envStep orc inst ec st e .decline
    let (e', mic) ← envDeclineN orc inst ec st n out.env
    pure (e', out.micro ++ mic)

/-- the hypotheses under which one more decline keeps the episode going: the episode is not over,
the shop is not done, the allowance is not used up, and the dense reward has a denominator -/
structure CanDecline (inst : Instance) (st : RewardStatic) (e : EnvState) : Prop where
  notDone : e.done = false
  shopOpen : isDone inst e.res.state = false
  allowance : 0 ≤ e.mw.joker
  numOps : st.numOps ≠ 0

theorem envStep_decline_many {ec : EnvCfg} {st : RewardStatic} {e : EnvState} (hc : CanDecline inst st e)
    (o o' : Transition) (rest : List Transition) (hp : e.res.possible = o :: o' :: rest) :
    ∃ out, envStep orc inst ec st e .decline = .ok out ∧ out.micro = [] ∧
      out.env.res.state = e.res.state ∧ out.env.res.possible = o' :: rest ∧ out.env.res.success = true ∧
      out.env.rng = e.rng ∧ out.env.mw.joker = e.mw.joker ∧ out.env.mw.actCnt = e.mw.actCnt ∧
      CanDecline inst st out.env := by
  have h1 := mwStep_decline_many (orc := orc) (inst := inst) (cfg := ec.sm) (mc := ec.mw) (fuel := ec.fuel)
    e.res e.mw e.rng o o' rest hp
  have hj : ¬ (e.mw.joker < 0) := by have := hc.allowance; omega
  have hno : st.numOps ≠ 0 := hc.numOps
  unfold envStep
  simp only [hc.notDone, Bool.false_eq_true, if_false, h1, except_bind_ok, if_true, hc.shopOpen, hj,
    decide_false, Bool.or_false, rewardMake, sparseReward, denseReward, noOpAction, List.isEmpty_nil,
    Bool.not_false, hno, except_pure]
  exact ⟨_, rfl, rfl, rfl, rfl, rfl, rfl, rfl, rfl, rfl, hc.shopOpen, hc.allowance, hc.numOps⟩

/-- **T2 at the environment.**  In an environment state in which a decline keeps the episode going
and more than `k` offers are held, `k` calls of `env.step(0)` return normally, apply no transition,
leave the shop state, the generator, the allowance and the count of accepted offers untouched, do
not end the episode, and present the `k`-th offer. -/
theorem env_decline_prefix {ec : EnvCfg} {st : RewardStatic} (k : Nat) {e : EnvState} (hc : CanDecline inst st e)
    (hk : k < e.res.possible.length) :
    ∃ e', envDeclineN orc inst ec st k e = .ok (e', []) ∧
      e'.res.state = e.res.state ∧ e'.res.possible = e.res.possible.drop k ∧
      e'.rng = e.rng ∧ e'.mw.joker = e.mw.joker ∧ e'.mw.actCnt = e.mw.actCnt ∧
      (e.res.success = true → e'.res.success = true) ∧ CanDecline inst st e' := by
  induction k generalizing e with
  | zero => exact ⟨e, rfl, rfl, rfl, rfl, rfl, rfl, id, hc⟩
  | succ k ih =>
    obtain ⟨o, o', rest, hp⟩ := two_of_succ_lt_length hk
    obtain ⟨out, h1, hmic, e1, e2, e3, e4, e5, e6, hc'⟩ := envStep_decline_many (orc := orc) (ec := ec) hc o o' rest hp
    obtain ⟨e', h2, f1, f2, f3, f4, f5, f6, hc''⟩ := ih hc' (by rw [e2]; rw [hp] at hk; simpa using hk)
    refine ⟨e', ?_, by rw [f1, e1], by rw [f2, e2, hp]; rfl, by rw [f3, e4], by rw [f4, e5], by rw [f5, e6],
      fun _ => f6 e3, hc''⟩
    simp only [envDeclineN, h1, except_bind_ok, h2, except_pure, hmic, List.append_nil]

theorem envDeclineN_reach {ec : EnvCfg} {st : RewardStatic} {s0 : State} : ∀ (n : Nat) {e e' : EnvState} {mic : List State},
    EnvReach orc inst ec st s0 e → envDeclineN orc inst ec st n e = .ok (e', mic) → EnvReach orc inst ec st s0 e'
  | 0, e, e', mic, he, h => by
    simp only [envDeclineN, except_pure, Except.ok.injEq, Prod.mk.injEq] at h
    obtain ⟨rfl, _⟩ := h; exact he
  | n + 1, e, e', mic, he, h => by
    simp only [envDeclineN] at h
    obtain ⟨out, hout, h⟩ := except_bind_eq_ok h
    obtain ⟨⟨e1, mic1⟩, h1, h⟩ := except_bind_eq_ok h
    simp only [except_pure, Except.ok.injEq, Prod.mk.injEq] at h
    obtain ⟨rfl, _⟩ := h
    exact envDeclineN_reach n (EnvReach.step he hout) h1

theorem envReach_allowance {ec : EnvCfg} {st : RewardStatic} {s0 : State} (hj : 0 ≤ ec.mw.jokerInit)
    {e : EnvState} (h : EnvReach orc inst ec st s0 e) : e.done = false → 0 ≤ e.mw.joker := by
  induction h with
  | reset h =>
    obtain ⟨res, r', _, rfl⟩ := envReset_ok h
    exact fun _ => hj
  | @step e a out _ h ih =>
    intro hd
    obtain ⟨_, res', mw, r, mic, rew, cnt, _, _, rfl, _, rfl⟩ := envStep_ok h
    by_cases hs : res'.success = true
    · simp only [hs, if_true, Bool.or_eq_false_iff, decide_eq_false_iff_not] at hd ⊢
      omega
    · simp [hs] at hd

end JSL
