import JSL.Inv.Frame

/-!
# The store view

`storeAt s i` is the content of the buffer with id `i` wherever it lives in the state.  All
structural invariants about buffers are phrased through it.  With duplicate-free buffer ids it is
the store of whichever member of `allBufStates` carries the id.
-/

namespace JSL

def storeAt (s : State) (i : Nat) : List Nat :=
  match (allBufStates s).find? (fun b => b.id == i) with
  | some b => b.store
  | none => []

theorem storeAt_of_mem {s : State} (hnd : ((allBufStates s).map (·.id)).Nodup) {b : BufState}
    (hb : b ∈ allBufStates s) : storeAt s b.id = b.store := by
  unfold storeAt
  cases h : (allBufStates s).find? (fun x => x.id == b.id) with
  | none =>
    have := List.find?_eq_none.mp h b hb
    simp at this
  | some x =>
    have hx := List.mem_of_find?_eq_some h
    have hp := List.find?_some h
    simp at hp
    have : x = b := eq_of_mem_of_key_eq (key := fun (y : BufState) => y.id) hnd hx hb hp
    simp [this]

theorem storeAt_of_not_mem {s : State} {i : Nat} (h : ∀ b ∈ allBufStates s, b.id ≠ i) : storeAt s i = [] := by
  unfold storeAt
  have : (allBufStates s).find? (fun b => b.id == i) = none := by
    apply List.find?_eq_none.mpr
    intro b hb; simpa using h b hb
  simp [this]

/-- `storeAt s'` at the id of a member `b'` of `allBufStates s'` is `b'.store`; nothing is said about
other ids, and `hnd`, `hids` are not used -/
theorem storeAt_frame {s s' : State} (hnd : ((allBufStates s).map (·.id)).Nodup)
    (hnd' : ((allBufStates s').map (·.id)).Nodup)
    (hids : ∀ i, (∃ b ∈ allBufStates s', b.id = i) ↔ (∃ b ∈ allBufStates s, b.id = i))
    (i : Nat) (b' : BufState) (hb' : b' ∈ allBufStates s') (hi : b'.id = i) : storeAt s' i = b'.store := by
  rw [← hi]; exact storeAt_of_mem hnd' hb'

theorem storeAt_frame_same {s s' : State} (hnd : ((allBufStates s).map (·.id)).Nodup)
    (hnd' : ((allBufStates s').map (·.id)).Nodup) (i : Nat)
    (h : ∀ b, b.id = i → (b ∈ allBufStates s' ↔ b ∈ allBufStates s)) : storeAt s' i = storeAt s i := by
  by_cases hex : ∃ b ∈ allBufStates s, b.id = i
  · obtain ⟨b, hb, rfl⟩ := hex
    rw [storeAt_of_mem hnd hb, storeAt_of_mem hnd' ((h b rfl).mpr hb)]
  · have h1 : ∀ b ∈ allBufStates s, b.id ≠ i := fun b hb hbi => hex ⟨b, hb, hbi⟩
    have h2 : ∀ b ∈ allBufStates s', b.id ≠ i := fun b hb hbi => h1 b ((h b hbi).mp hb) hbi
    rw [storeAt_of_not_mem h1, storeAt_of_not_mem h2]

end JSL
