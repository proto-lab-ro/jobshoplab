import JSL.Inv.Spec

/-!
# View-based formulation of the structural invariants and generic preservation lemmas

`ConservedV` speaks about `storeAt` (content of a buffer by id) and `locs` (job id, location)
only.  `Moved` is the effect every job-moving handler has on those views, `Same` the effect of the
others; conservation and capacity are preserved by both, proved once here.
-/

namespace JSL

def locs (s : State) : List (Nat × Nat) := s.jobs.map fun j => (j.id, j.loc)

theorem locs_replaceJob (s : State) (j' : JobState) :
    locs (s.replaceJob j') = (locs s).map fun p => if p.1 == j'.id then (j'.id, j'.loc) else p := by
  simp only [locs, State.replaceJob, List.map_map]
  apply List.map_congr_left
  intro x _
  by_cases h : x.id = j'.id <;> simp [h]

theorem locs_replaceJob_same {s : State} (hnd : (s.jobs.map (·.id)).Nodup) {j j' : JobState} (hj : j ∈ s.jobs)
    (hid : j'.id = j.id) (hloc : j'.loc = j.loc) : locs (s.replaceJob j') = locs s := by
  have := map_replace (key := fun (y : JobState) => y.id) hnd hj hid (fun y => (y.id, y.loc)) (by simp [hid, hloc])
  simpa [locs, State.replaceJob] using this

@[simp] theorem locs_replaceMachine (s : State) (m : MachineState) : locs (s.replaceMachine m) = locs s := rfl
@[simp] theorem locs_replaceTransport (s : State) (t : TransportState) : locs (s.replaceTransport t) = locs s := rfl
@[simp] theorem locs_replaceBuffer (s : State) (b : BufState) : locs (s.replaceBuffer b) = locs s := rfl

theorem locs_fst (s : State) : (locs s).map Prod.fst = s.jobs.map (·.id) := by
  simp [locs, List.map_map, Function.comp_def]

structure ConservedV (s : State) : Prop where
  stored : ∀ i x, x ∈ storeAt s i → (x, i) ∈ locs s
  located : ∀ p ∈ locs s, p.1 ∈ storeAt s p.2
  nodup : ∀ i, (storeAt s i).Nodup

def CapV (inst : Instance) (s : State) : Prop :=
  ∀ c ∈ allBufCfgs inst, ((storeAt s c.id).length : Int) ≤ c.cap

structure Same (s s' : State) : Prop where
  store : ∀ i, storeAt s' i = storeAt s i
  locs : locs s' = locs s

structure Moved (s s' : State) (jid a b : Nat) : Prop where
  ne : a ≠ b
  was : (jid, a) ∈ locs s
  storeA : storeAt s' a = (storeAt s a).filter (· != jid)
  storeB : storeAt s' b = storeAt s b ++ [jid]
  storeO : ∀ i, i ≠ a → i ≠ b → storeAt s' i = storeAt s i
  locs : locs s' = (locs s).map fun p => if p.1 == jid then (jid, b) else p

theorem unique_loc {s : State} (hnd : (s.jobs.map (·.id)).Nodup) {x a b : Nat}
    (ha : (x, a) ∈ locs s) (hb : (x, b) ∈ locs s) : a = b := by
  have h := eq_of_mem_of_key_eq (key := fun (p : Nat × Nat) => p.1) (by rw [← locs_fst] at hnd; exact hnd) ha hb rfl
  exact (Prod.mk.inj h).2

theorem Same.conserved {s s' : State} (h : Same s s') (c : ConservedV s) : ConservedV s' where
  stored i x hx := by rw [h.locs]; rw [h.store] at hx; exact c.stored i x hx
  located p hp := by rw [h.locs] at hp; rw [h.store]; exact c.located p hp
  nodup i := by rw [h.store]; exact c.nodup i

theorem Same.cap {inst : Instance} {s s' : State} (h : Same s s') (c : CapV inst s) : CapV inst s' := by
  intro cfg hc; rw [h.store]; exact c cfg hc

theorem Moved.conserved {s s' : State} {jid a b : Nat} (h : Moved s s' jid a b)
    (hnd : (s.jobs.map (·.id)).Nodup) (c : ConservedV s) : ConservedV s' where
  stored i x hx := by
    rw [h.locs]
    by_cases hia : i = a
    · subst hia
      rw [h.storeA] at hx
      simp at hx
      have := c.stored _ _ hx.1
      exact List.mem_map.mpr ⟨(x, i), this, by simp [hx.2]⟩
    · by_cases hib : i = b
      · subst hib
        rw [h.storeB] at hx
        rcases List.mem_append.mp hx with hx | hx
        · have hl := c.stored _ _ hx
          have : x ≠ jid := by
            rintro rfl
            exact hia (unique_loc hnd hl h.was)
          exact List.mem_map.mpr ⟨(x, i), hl, by simp [this]⟩
        · simp at hx; subst hx
          exact List.mem_map.mpr ⟨(x, a), h.was, by simp⟩
      · rw [h.storeO i hia hib] at hx
        have hl := c.stored _ _ hx
        have : x ≠ jid := by
          rintro rfl
          exact hia (unique_loc hnd hl h.was)
        exact List.mem_map.mpr ⟨(x, i), hl, by simp [this]⟩
  located p hp := by
    rw [h.locs] at hp
    obtain ⟨q, hq, rfl⟩ := List.mem_map.mp hp
    by_cases hqj : q.1 = jid
    · simp [hqj, h.storeB]
    · simp only [beq_iff_eq, hqj, if_false]
      have hl := c.located q hq
      by_cases hqa : q.2 = a
      · rw [hqa, h.storeA]; rw [hqa] at hl; simp [hl, hqj]
      · by_cases hqb : q.2 = b
        · rw [hqb, h.storeB]; rw [hqb] at hl; simp [hl]
        · rw [h.storeO _ hqa hqb]; exact hl
  nodup i := by
    by_cases hia : i = a
    · subst hia; rw [h.storeA]; exact (c.nodup _).filter _
    · by_cases hib : i = b
      · subst hib
        rw [h.storeB]
        rw [List.nodup_append]
        refine ⟨c.nodup _, by simp, ?_⟩
        intro x hx y hy hxy
        simp at hy; subst hy; subst hxy
        exact hia (unique_loc hnd (c.stored _ _ hx) h.was)
      · rw [h.storeO i hia hib]; exact c.nodup i

theorem Moved.cap {inst : Instance} {s s' : State} {jid a b : Nat} (h : Moved s s' jid a b)
    (hroom : ∀ c ∈ allBufCfgs inst, c.id = b → ((storeAt s b).length : Int) < c.cap)
    (c : CapV inst s) : CapV inst s' := by
  intro cfg hc
  by_cases hia : cfg.id = a
  · rw [hia, h.storeA]
    have := c cfg hc
    rw [hia] at this
    have hle := List.length_filter_le (· != jid) (storeAt s a)
    omega
  · by_cases hib : cfg.id = b
    · rw [hib, h.storeB]
      have := hroom cfg hc hib
      simp; omega
    · rw [h.storeO _ hia hib]; exact c cfg hc

end JSL
