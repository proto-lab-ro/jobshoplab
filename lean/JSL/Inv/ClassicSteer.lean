import JSL.Inv.ClassicStart
import JSL.Inv.ClassicEnvDefsG
import JSL.Inv.ClassicQueries
import JSL.Inv.ReachListPlan
import JSL.Props.C06
import JSL.Props.C12
import JSL.Props.C18

/-!
# The steering strategy

Given the step interface `StepIfaceG` of a classic instance, an action list is constructed that drives
the environment to the target schedule `S`: at every fresh decision point

* if an offer is a dispatch, or the start of an operation whose target start is now, decline down to
  it and accept it;
* otherwise decline everything (the clock then advances strictly).

The measure is lexicographic: the potential `pot` of the state (strictly decreased by an accept, never
increased), then the distance of the clock to the makespan of the target.

`StepIfaceG` does not say that every AGV is idle at a decision point (false with early dispatch); it
delivers directly what the strategy needs from that: when no dispatch is on offer, every waiting job
with an idle record stands in the pre-buffer of the machine of that record.  `StepIface`, which does
say it, is the special case `StepIface.toG`.
-/

namespace JSL

variable {orc : Oracle} {inst : Instance}


theorem envRun_append {ec : EnvCfg} {st : RewardStatic} : ∀ (as bs : List AgentAct) (e : EnvState),
    envRun orc inst ec st e (as ++ bs) = envRun orc inst ec st e as >>= fun e' => envRun orc inst ec st e' bs
  | [], bs, e => by simp [envRun]
  | a :: as, bs, e => by
    simp only [List.cons_append, envRun]
    cases h : envStep orc inst ec st e a with
    | error x => rfl
    | ok out =>
      simp only [except_bind_ok]
      exact envRun_append as bs out.env

theorem envRun_append_ok {ec : EnvCfg} {st : RewardStatic} {as bs : List AgentAct} {e e1 e2 : EnvState}
    (h1 : envRun orc inst ec st e as = .ok e1) (h2 : envRun orc inst ec st e1 bs = .ok e2) :
    envRun orc inst ec st e (as ++ bs) = .ok e2 := by
  rw [envRun_append, h1, except_bind_ok, h2]

theorem envRun_single {ec : EnvCfg} {st : RewardStatic} {a : AgentAct} {e : EnvState} {out : StepOut}
    (h : envStep orc inst ec st e a = .ok out) : envRun orc inst ec st e [a] = .ok out.env := by
  simp [envRun, h]

theorem envDeclineN_run {ec : EnvCfg} {st : RewardStatic} : ∀ (k : Nat) {e e' : EnvState} {mic : List State},
    envDeclineN orc inst ec st k e = .ok (e', mic) →
    envRun orc inst ec st e (List.replicate k .decline) = .ok e'
  | 0, e, e', mic, h => by
    simp only [envDeclineN, except_pure, Except.ok.injEq, Prod.mk.injEq] at h
    obtain ⟨rfl, _⟩ := h
    simp [envRun]
  | k + 1, e, e', mic, h => by
    simp only [envDeclineN] at h
    obtain ⟨out, hout, h⟩ := except_bind_eq_ok h
    obtain ⟨⟨e1, mic1⟩, h1, h⟩ := except_bind_eq_ok h
    simp only [except_pure, Except.ok.injEq, Prod.mk.injEq] at h
    obtain ⟨rfl, _⟩ := h
    simp only [List.replicate_succ, envRun, hout, except_bind_ok]
    exact envDeclineN_run k h1


/-- what is carried along the run: an environment state of the episode that is not over, whose
result is successful, in step with the target, and whose shop is not finished -/
structure DecPt (orc : Oracle) (inst : Instance) (ec : EnvCfg) (st : RewardStatic) (s0 : State)
    (S : Nat → Nat → Int) (e : EnvState) : Prop where
  reach : EnvReach orc inst ec st s0 e
  notDone : e.done = false
  succ : e.res.success = true
  joker : 0 ≤ e.mw.joker
  sync : SyncL inst S e.res.state
  shopOpen : isDone inst e.res.state = false

/-- where the strategy stops -/
def Finished (orc : Oracle) (inst : Instance) (ec : EnvCfg) (st : RewardStatic) (s0 : State)
    (S : Nat → Nat → Int) (e : EnvState) : Prop :=
  EnvReach orc inst ec st s0 e ∧ e.terminated = true ∧ e.truncated = false ∧
    isDone inst e.res.state = true ∧ ∃ t, SyncL inst S { e.res.state with time := t }

section
variable {ec : EnvCfg} {st : RewardStatic} {s0 : State} {S : Nat → Nat → Int}

theorem DecPt.offers (hst : Start orc inst s0) (hC : Classic inst) {e : EnvState}
    (h : DecPt orc inst ec st s0 S e) : e.res.possible ≠ [] :=
  (envReach_good hst hC.flex.pick hC.hasAgv h.reach).offers h.succ h.shopOpen

theorem decline_down (hn : st.numOps ≠ 0) {e : EnvState} (hd : DecPt orc inst ec st s0 S e) {k : Nat}
    (hk : k < e.res.possible.length) :
    ∃ e', envRun orc inst ec st e (List.replicate k .decline) = .ok e' ∧
      DecPt orc inst ec st s0 S e' ∧ e'.res.state = e.res.state ∧ e'.res.possible = e.res.possible.drop k := by
  obtain ⟨e', h1, e1, e2, _, e4, _, hsuc, hc⟩ :=
    env_decline_prefix (orc := orc) (ec := ec) k ⟨hd.notDone, hd.shopOpen, hd.joker, hn⟩ hk
  exact ⟨e', envDeclineN_run k h1,
    ⟨envDeclineN_reach k hd.reach h1, hc.notDone, hsuc hd.succ, hc.allowance, by rw [e1]; exact hd.sync, hc.shopOpen⟩,
    e1, e2⟩

/-- declining the last offer strictly advances the clock (environment form of
`c18_decline_last_advances`) -/
theorem envStep_decline_last_advances (hst : Start orc inst s0) {e : EnvState}
    (hr : EnvReach orc inst ec st s0 e) {o : Transition} (hp : e.res.possible = [o]) {out : StepOut}
    (h : envStep orc inst ec st e .decline = .ok out) (hs : out.obsRes.success = true)
    (hnd : isDone inst out.env.res.state = false) : e.res.state.time < out.env.res.state.time := by
  obtain ⟨_, res', mw, r, mic, rew, cnt, _, hm, rfl, _, rfl⟩ := envStep_ok h
  simp only at hs
  simp only [hs, if_true] at hnd ⊢
  obtain ⟨r', mic', hstep, _⟩ := c18_decline_last_is_forced_jump e.res e.mw e.rng o hp _ hm
  have hdn : res'.done = false := by
    rcases (smStep_spec hstep).2 with h1 | h1 | h1
    · exact h1.2.1
    · simp only at h1; rw [h1.2.2.2] at hnd; cases hnd
    · exact h1.2.1
  exact c18_decline_last_advances hst hr o hp e.mw e.rng _ hm hs hdn

/-- the closing step of a macro step: an accept, or the decline of the last offer -/
theorem closing_step (hst : Start orc inst s0) (hC : Classic inst) (hif : StepIfaceG orc inst ec st s0 S)
    {e : EnvState} (hd : DecPt orc inst ec st s0 S e) (a : AgentAct)
    (ha : a = .accept ∨ (a = .decline ∧ e.res.possible.length = 1)) (hok : StepOK S e a) :
    ∃ out, envStep orc inst ec st e a = .ok out ∧ out.obsRes.success = true ∧
      (out.env.done = true → Finished orc inst ec st s0 S out.env) ∧
      (out.env.done = false → DecPt orc inst ec st s0 S out.env ∧ FreshOffers inst ec out.env) := by
  obtain ⟨out, h1, s1, s2, s3, s4, s5, s6, s7, s8⟩ :=
    hif.step hd.reach hd.notDone hd.succ hd.joker hd.sync a (ha.imp id And.left) hok
  have hr' : EnvReach orc inst ec st s0 out.env := EnvReach.step hd.reach h1
  refine ⟨out, h1, s2, fun hdn => ?_, fun hdn => ?_⟩
  · exact ⟨hr', by rw [s5, ← s6, hdn], s3, by rw [← s6, hdn], s7⟩
  · have hd' : DecPt orc inst ec st s0 S out.env :=
      ⟨hr', hdn, s1, by rw [s4]; exact hd.joker, s8 hdn, by rw [← s6, hdn]⟩
    exact ⟨hd', envStep_fresh h1 (ha.imp id And.right) hdn (hd'.offers hst hC)⟩


/-- an offer the strategy accepts: a dispatch, or the start of an operation whose target start is now -/
def GoodOffer (S : Nat → Nat → Int) (s : State) (tr : Transition) : Prop :=
  tr.new = .m .setup → ∀ j ∈ s.jobs, tr.job = some j.id → ∀ o, j.nextIdle? = some o → S o.job o.idx = s.time

theorem stepOK_accept_good {e : EnvState} {tr : Transition} {post : List Transition}
    (hp : e.res.possible = tr :: post) (hg : GoodOffer S e.res.state tr) : StepOK S e .accept := by
  unfold StepOK
  refine ⟨fun _ tr' htr' => ?_, fun h => (by cases h)⟩
  rw [hp] at htr'
  simp at htr'
  subst htr'
  exact hg

theorem bad_offer_ahead {s : State} (hsy : SyncL inst S s) {tr : Transition} (hb : ¬ GoodOffer S s tr) :
    tr.new = .m .setup ∧ ∃ j ∈ s.jobs, ∃ o, tr.job = some j.id ∧ j.nextIdle? = some o ∧ s.time < S o.job o.idx := by
  unfold GoodOffer at hb
  refine ⟨Classical.byContradiction fun h => hb (fun h' => absurd h' h), ?_⟩
  apply Classical.byContradiction
  intro hno
  apply hb
  intro _ j hj hid o hn
  apply Classical.byContradiction
  intro hne
  apply hno
  refine ⟨j, hj, o, hid, hn, ?_⟩
  have ho := find?_mem_ops (j := j) (p := fun x => x.st == .idle) hn
  have hidle : o.st = .idle := by simpa using ho.2
  have := hsy.due j hj o ho.1
  have : ¬ S o.job o.idx < s.time := fun h => this h hidle
  omega

theorem all_bad (hst : Start orc inst s0) (hC : Classic inst)
    (hif : StepIfaceG orc inst ec st s0 S) {e : EnvState} (hd : DecPt orc inst ec st s0 S e)
    (hf : FreshOffers inst ec e) (hbad : ∀ tr ∈ e.res.possible, ¬ GoodOffer S e.res.state tr) :
    NoneDueNow S e.res.state ∧ e.res.state.time < targetMakespan inst S := by
  have hne := hd.offers hst hC
  have hi := envReach_inv hst hd.reach
  obtain ⟨w, hI, hS⟩ := occursA_inv hst (hi.live hne).1
  have hf' : possibleTransitions inst ec.sm e.res.state = .ok e.res.possible := hf
  obtain ⟨pj, pt, _, hpt, _, hL⟩ := possibleTransitions_split hf'
  have hK := fun tr htr => bad_offer_ahead hd.sync (hbad tr htr)
  have hnil : pt = [] := by
    cases pt with
    | nil => rfl
    | cons x xs =>
      have hx : x ∈ e.res.possible := by rw [hL]; simp
      obtain ⟨t, _, j, _, hxe, _⟩ := possibleTransport_facts hpt x (by simp)
      have := (hK x hx).1
      rw [hxe] at this
      cases this
  constructor
  · intro j hj hrun o hn hmidle
    obtain ⟨m, hm, hmid, hpre, _⟩ := hif.atPre hd.reach hne pt hpt hnil j hj hrun o hn
    have hso : StartableOp e.res.state j o m :=
      ⟨hrun, hn, by rw [← hmid]; exact getMachine_of_mem (hI.shape.machNodup w) hm, hmidle m hm hmid, hpre⟩
    have hmem := offers_complete_op hS hf' hj hso
    obtain ⟨_, j', hj', o', hid, hn', hlt⟩ := hK _ hmem
    have hid' : j.id = j'.id := by simpa using hid
    have : j = j' := eq_of_mem_of_key_eq (key := fun (y : JobState) => y.id) (hI.shape.jobsNodup w) hj hj' hid'
    subst this
    rw [hn] at hn'
    injection hn' with hn'
    subst hn'
    exact hlt
  · cases hp : e.res.possible with
    | nil => exact absurd hp hne
    | cons x xs =>
      obtain ⟨_, j, hj, o, _, hn, hlt⟩ := hK x (by rw [hp]; simp)
      have ho := (find?_mem_ops (j := j) (p := fun x => x.st == .idle) hn).1
      obtain ⟨oc, hg, hall, _⟩ := getOpCfg_of_mem w hI.shape hj ho
      obtain ⟨_, k1, k2⟩ := getOpCfg_ok hg
      obtain ⟨d, hdur, hpos⟩ := hC.posDur oc hall
      have hdd : oc.d = d := by simp [OpCfg.d, hdur]
      have := le_targetMakespan (inst := inst) S hall
      rw [k1, k2, hdd] at this
      omega


/-- one macro step from a fresh decision point: the run ends the episode in the target, or reaches a
fresh decision point that is smaller in the lexicographic measure -/
theorem macro_step (hst : Start orc inst s0) (hC : Classic inst)
    (hn : st.numOps ≠ 0) (hif : StepIfaceG orc inst ec st s0 S) {e : EnvState}
    (hd : DecPt orc inst ec st s0 S e) (hf : FreshOffers inst ec e) :
    ∃ acts e', envRun orc inst ec st e acts = .ok e' ∧
      (Finished orc inst ec st s0 S e' ∨
       (DecPt orc inst ec st s0 S e' ∧ FreshOffers inst ec e' ∧
        (pot inst e'.res.state < pot inst e.res.state ∨
         (pot inst e'.res.state ≤ pot inst e.res.state ∧ e.res.state.time < e'.res.state.time ∧
          e.res.state.time < targetMakespan inst S)))) := by
  by_cases hg : ∃ tr ∈ e.res.possible, GoodOffer S e.res.state tr
  · obtain ⟨tr, htr, hg⟩ := hg
    obtain ⟨k, hk, rfl⟩ := List.getElem_of_mem htr
    obtain ⟨e1, hrun1, hd1, hs1, hp1⟩ := decline_down hn hd hk
    rw [List.drop_eq_getElem_cons hk] at hp1
    obtain ⟨out, h2, hsuc, hfin, hcont⟩ :=
      closing_step hst hC hif hd1 .accept (Or.inl rfl) (stepOK_accept_good hp1 (by rw [hs1]; exact hg))
    refine ⟨_, out.env, envRun_append_ok hrun1 (envRun_single h2), ?_⟩
    cases hdn : out.env.done with
    | true => exact Or.inl (hfin hdn)
    | false =>
      have := accept_decreases hst hd1.reach h2 hsuc
      rw [hs1] at this
      exact Or.inr ⟨(hcont hdn).1, (hcont hdn).2, Or.inl this⟩
  · have hbad : ∀ tr ∈ e.res.possible, ¬ GoodOffer S e.res.state tr := fun tr htr h => hg ⟨tr, htr, h⟩
    obtain ⟨hnone, hlt⟩ := all_bad hst hC hif hd hf hbad
    have hne := hd.offers hst hC
    have hk : e.res.possible.length - 1 < e.res.possible.length := Nat.sub_one_lt (mt List.length_eq_zero_iff.mp hne)
    obtain ⟨e1, hrun1, hd1, hs1, hp1⟩ := decline_down hn hd hk
    rw [List.drop_eq_getElem_cons hk, List.drop_of_length_le (by omega)] at hp1
    have hok : StepOK S e1 .decline := by
      unfold StepOK
      exact ⟨fun h => (by cases h), fun _ _ => (by rw [hs1]; exact hnone)⟩
    obtain ⟨out, h2, hsuc, hfin, hcont⟩ :=
      closing_step hst hC hif hd1 .decline (Or.inr ⟨rfl, by rw [hp1]; rfl⟩) hok
    refine ⟨_, out.env, envRun_append_ok hrun1 (envRun_single h2), ?_⟩
    cases hdn : out.env.done with
    | true => exact Or.inl (hfin hdn)
    | false =>
      have hd2 := (hcont hdn).1
      have h3 := envStep_decline_last_advances hst hd1.reach hp1 h2 hsuc hd2.shopOpen
      have h4 := envStep_pot_le hst hd1.reach h2
      rw [hs1] at h3 h4
      exact Or.inr ⟨hd2, (hcont hdn).2, Or.inr ⟨h4, h3, hlt⟩⟩

theorem steer_from (hst : Start orc inst s0) (hC : Classic inst)
    (hn : st.numOps ≠ 0) (hif : StepIfaceG orc inst ec st s0 S) :
    ∀ (p q : Nat) (e : EnvState), DecPt orc inst ec st s0 S e → FreshOffers inst ec e →
      pot inst e.res.state = p → (targetMakespan inst S - e.res.state.time).toNat = q →
      ∃ acts e', envRun orc inst ec st e acts = .ok e' ∧ Finished orc inst ec st s0 S e' := by
  intro p
  induction p using Nat.strongRecOn with
  | ind p ihp =>
    intro q
    induction q using Nat.strongRecOn with
    | ind q ihq =>
      intro e hd hf hp hq
      obtain ⟨acts, e1, hrun, hcase⟩ := macro_step hst hC hn hif hd hf
      rcases hcase with hfin | ⟨hd1, hf1, hlt⟩
      · exact ⟨acts, e1, hrun, hfin⟩
      · have hsmall : pot inst e1.res.state < p ∨ (pot inst e1.res.state = p ∧
            (targetMakespan inst S - e1.res.state.time).toNat < q) := by
          rcases hlt with h | ⟨h1, h2, h3⟩
          · exact Or.inl (by omega)
          · rcases Nat.lt_or_ge (pot inst e1.res.state) p with h | h
            · exact Or.inl h
            · exact Or.inr ⟨by omega, by omega⟩
        rcases hsmall with h | ⟨h1, h2⟩
        · obtain ⟨acts2, e2, hrun2, hfin⟩ := ihp _ h _ e1 hd1 hf1 rfl rfl
          exact ⟨acts ++ acts2, e2, envRun_append_ok hrun hrun2, hfin⟩
        · obtain ⟨acts2, e2, hrun2, hfin⟩ := ihq _ h2 e1 hd1 hf1 h1 rfl
          exact ⟨acts ++ acts2, e2, envRun_append_ok hrun hrun2, hfin⟩

/-- **The steering strategy.**  For a classic instance with the step interface `StepIfaceG` (any
`allowEarly`): from the reset state a list of accept / decline decisions leads to an environment state
of the episode that is terminated, not truncated, whose shop is finished and – up to the final stamp
of the clock – in step with the target schedule. -/
theorem steer (hst : Start orc inst s0) (hC : Classic inst) (hjk : 0 ≤ ec.mw.jokerInit)
    (hn : st.numOps ≠ 0) (hjobs : inst.jobs ≠ []) (hif : StepIfaceG orc inst ec st s0 S) (r0 : Rng) :
    ∃ e0 mic acts e, envReset orc inst ec s0 r0 = .ok (e0, mic) ∧ envRun orc inst ec st e0 acts = .ok e ∧
      EnvReach orc inst ec st s0 e ∧ e.terminated = true ∧ e.truncated = false ∧
      isDone inst e.res.state = true ∧ ∃ t, SyncL inst S { e.res.state with time := t } := by
  obtain ⟨e0, mic, hreset, hsuc, hsync⟩ := hif.reset r0
  obtain ⟨f1, _, f3, _, _⟩ := envReset_flags hreset
  have hopen := reset_not_done hst hC hjobs hreset
  have hd : DecPt orc inst ec st s0 S e0 :=
    ⟨EnvReach.reset hreset, f3, hsuc, by rw [f1]; exact hjk, hsync, hopen⟩
  have hf : FreshOffers inst ec e0 := envReset_fresh hreset (hd.offers hst hC)
  obtain ⟨acts, e, hrun, hr, h1, h2, h3, h4⟩ := steer_from hst hC hn hif _ _ e0 hd hf rfl rfl
  exact ⟨e0, mic, acts, e, hreset, hrun, hr, h1, h2, h3, h4⟩


/-- idle AGVs and no dispatch on offer put every waiting job in its pre-buffer -/
theorem StepIface.toG (hst : Start orc inst s0) (hC : Classic inst)
    (h : StepIface orc inst ec st s0 S) : StepIfaceG orc inst ec st s0 S where
  reset := h.reset
  step := h.step
  atPre := by
    intro e hr hne pt hpt hnil
    obtain ⟨hidle, hB⟩ := h.settled hr hne
    obtain ⟨w, hI, hS⟩ := occursA_inv hst ((envReach_inv hst hr).live hne).1
    exact no_dispatch_at_pre w hC hI hS hB.full hidle hpt hnil

end

end JSL
