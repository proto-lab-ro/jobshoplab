import JSL.Inv.Agv
import JSL.Inv.Offers
import JSL.Inv.Reach

/-!
# The batches the code builds meet the claim guard
-/

namespace JSL

variable {orc : Oracle} {inst : Instance}

theorem teleportGreedy_pairwise : ∀ (n : Nat) (l : List Transition),
    (teleportGreedy n l).Pairwise (fun a b => a.job ≠ b.job)
  | 0, _ => by simp [teleportGreedy]
  | n + 1, [] => by simp [teleportGreedy]
  | n + 1, t :: ts => by
    simp only [teleportGreedy]
    apply List.pairwise_cons.mpr
    refine ⟨?_, teleportGreedy_pairwise n _⟩
    intro b hb
    have := mem_teleportGreedy n _ b hb
    have hf := (List.mem_filter.mp this).2
    simp only [Bool.and_eq_true, bne_iff_ne, ne_eq] at hf
    exact fun e => hf.1 e.symm

theorem timedTransport_not_dispatch {s : State} (hS : SchedInv s) {t : TransportState} (ht : t ∈ s.transports)
    {tr : Transition} (h : timedTransport inst s t = .ok (some tr)) : tr.new ≠ .t .working := by
  rcases timedTransport_ok h with ⟨b, j, hocc, _⟩ | ⟨o, _, _, _, hk⟩
  · rw [hS.depWaiting t ht b j tr hocc]; simp
  · rcases hk with ⟨j, _, rdy, _, _, _, ⟨_, hn⟩ | ⟨_, hn⟩⟩ | ⟨_, hn, _⟩ | ⟨_, hn, _⟩
    · rw [hn]; simp
    · rw [hn]; cases rdy <;> simp
    · rw [hn]; simp
    · rw [hn]; simp

theorem timed_no_dispatch {s : State} (hS : SchedInv s) {tt : List Transition} (htt : timedTransitions inst s = .ok tt) :
    ∀ tr ∈ tt, tr.new ≠ .t .working := by
  intro tr htr
  rcases (mem_timedTransitions htt tr).mp htr with ⟨m, hm, e⟩ | ⟨t, ht, e⟩
  · obtain ⟨m', _, _, hcase⟩ := (timedMachine_spec (inst := inst) (s := s) hm e).1
    rcases hcase with ⟨ns, _, hn, _⟩ | ⟨_, hn, _⟩ <;> rw [hn] <;> simp
  · exact timedTransport_not_dispatch hS ht e

theorem offers_claim_free {cfg : SMConfig} {s : State} {poss : List Transition}
    (hposs : possibleTransitions inst cfg s = .ok poss) (tr : Transition) (hp : tr ∈ poss) (hn : tr.new = .t .working)
    (x : Nat) (hx : tr.job = some x) : ∀ t ∈ s.transports, t.job ≠ some x := by
  rcases mem_possibleTransitions hposs hp with ⟨j, _, o, _, _, rfl⟩ | ⟨pt, hpt, h1⟩
  · cases hn
  · obtain ⟨t, _, j, _, rfl, _, hunc, _⟩ := possibleTransport_facts hpt tr h1
    cases hx
    exact hunc

theorem timed_claim {cfg : SMConfig} {s : State} (hS : SchedInv s)
    {tt poss tele : List Transition} {r : Rng} (htt : timedTransitions inst s = .ok tt)
    (hposs : possibleTransitions inst cfg s = .ok poss) (htele : filterTeleport orc inst r s poss = .ok tele) :
    ClaimGS s (tt ++ tele) := by
  have hT := timed_no_dispatch hS htt
  -- the teleports are offers with pairwise different jobs
  obtain ⟨l, rfl, hl⟩ := filterTeleport_ok htele
  constructor
  · intro tr htr hn x hx
    rcases List.mem_append.mp htr with h | h
    · exact absurd hn (hT tr h)
    · exact offers_claim_free hposs tr (hl tr (mem_teleportGreedy _ _ _ h)).1 hn x hx
  · apply List.pairwise_append.mpr
    refine ⟨?_, ?_, ?_⟩
    · apply List.pairwise_of_forall_mem_list
      intro a ha b _ hna
      exact absurd hna (hT a ha)
    · exact (teleportGreedy_pairwise _ _).imp (fun {a b} hab _ _ x hxa hxb => hab (by rw [hxa, hxb]))
    · intro a ha b _ hna
      exact absurd hna (hT a ha)

theorem claimGS_of_no_dispatch {s : State} {L : List Transition} (h : ∀ tr ∈ L, tr.new ≠ .t .working) : ClaimGS s L :=
  ⟨fun tr htr hn => absurd hn (h tr htr), List.pairwise_of_forall_mem_list (fun a ha _ _ hna => absurd hna (h a ha))⟩

theorem AgvInv.of_rest {s : State} (h : restB s = true) : AgvInv s := by
  simp only [restB, Bool.and_eq_true, List.all_eq_true, beq_iff_eq, List.isEmpty_iff, Option.isNone_iff_eq_none] at h
  obtain ⟨_, ht⟩ := h
  constructor
  · intro t ht' _; exact (ht t ht').2
  · intro t ht' hst; rw [(ht t ht').1.1.1] at hst; cases hst
  · intro t1 h1 _ _ x hx; rw [(ht t1 h1).1.1.2] at hx; cases hx
  · intro t ht' x hx; rw [(ht t ht').1.1.2] at hx; cases hx

theorem sortedByTransport_nil : sortedByTransport [] = [] := rfl

theorem sortedByTransport_single (tr : Transition) : sortedByTransport [tr] = [tr] := by
  unfold sortedByTransport
  by_cases h : tr.sortKey = 0 <;> simp [h]

end JSL
