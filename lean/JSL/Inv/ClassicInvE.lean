import JSL.Inv.ClassicFrame

/-!
# The classic invariant with early dispatch

With `allowEarly = true` AGVs are also dispatched to RUNNING jobs (by the agent, or by the teleport
pass at the beginning of a step): such an AGV goes PICKUP → WAITINGPICKUP and waits, with
`occupied_till` = the end of the running operation, until the job lies in the post-buffer.  So

* a claimed job lies at a pickup place **or in the internal buffer of a machine** (`Pickable`);
* a waiting AGV is due now, **or waits for the end of the processing record of its job**;
* there is one more kind of timed transition, WAITINGPICKUP → WAITINGPICKUP (`EnE.rewait`), which may leave
  the state unchanged – the termination measure `muE` counts, beside the stages, the waiting AGVs whose
  waiting time is out of date (`staleB`), and `RWE` marks the re-waits that are not out of date.

Everything here holds for `allowEarly = false` as well (then no AGV ever waits for a running job): `CInv` is
`CInvE` together with `AtPickup` (every claimed job lies at a pickup place), and under `AtPickup` an `En`
transition is an `EnE` transition.
-/

namespace JSL

variable {orc : Oracle} {inst : Instance}

def internalIds (inst : Instance) : List Nat := inst.machines.map (·.buf.id)

def Pickable (inst : Instance) (j : JobState) : Prop := j.loc ∈ pickupPlaces inst ∨ j.loc ∈ internalIds inst

structure CInvE (inst : Instance) (s : State) : Prop where
  noDep : ∀ t ∈ s.transports, ∀ b j tr, t.occ ≠ .dep b j tr
  noWorking : ∀ t ∈ s.transports, t.st ≠ .working
  claimed : ∀ t ∈ s.transports, t.st = .pickup ∨ t.st = .waitingpickup →
    ∃ j ∈ s.jobs, t.job = some j.id ∧ Pickable inst j
  agvAt : ∀ t ∈ s.transports, t.st ≠ .idle → ∃ c, t.occ = .at c
  agvDue : ∀ t ∈ s.transports, t.st = .pickup ∨ t.st = .transit ∨ t.st = .outage → ∀ c, t.occ = .at c → c ≤ s.time
  waitDue : ∀ t ∈ s.transports, t.st = .waitingpickup → ∀ j ∈ s.jobs, t.job = some j.id → ∀ c, t.occ = .at c →
    c ≤ s.time ∨ ∃ o ∈ j.ops, o.st = .processing ∧ o.stop = some c
  parked : ∀ t ∈ s.transports, t.st = .idle ∨ t.st = .outage → ∃ l, t.loc = .at l ∧ l ∈ locsOf inst
  fresh : ∀ j ∈ s.jobs, j.loc ∈ inst.buffers.map (·.id) → j.loc ∉ outputIds inst → ∃ o, j.nextIdle? = some o
  machDue : ∀ m ∈ s.machines, m.st = .setup ∨ m.st = .outage → ∃ c, m.occ = some c ∧ c ≤ s.time
  setupRec : ∀ m ∈ s.machines, m.st = .setup → ∀ j ∈ s.jobs, ∀ o ∈ j.ops, o.st = .processing →
    o.machine = m.id → o.start = o.stop

theorem CInvE.time {s : State} (h : CInvE inst s) {t : Int} (hle : s.time ≤ t) : CInvE inst { s with time := t } :=
  ⟨h.noDep, h.noWorking, h.claimed, h.agvAt,
   fun x hx hb c hc => Int.le_trans (h.agvDue x hx hb c hc) hle,
   fun x hx hb j hj hjob c hc => by
     rcases h.waitDue x hx hb j hj hjob c hc with h1 | h1
     · exact Or.inl (Int.le_trans h1 hle)
     · exact Or.inr h1,
   h.parked, h.fresh,
   fun m hm hb => by obtain ⟨c, h1, h2⟩ := h.machDue m hm hb; exact ⟨c, h1, Int.le_trans h2 hle⟩,
   h.setupRec⟩

inductive EnE (inst : Instance) (s : State) : Transition → Prop
  | start (tr : Transition) : tr.new = .m .setup → EnE inst s tr
  | mWork (m : MachineState) (x : Nat) : m ∈ s.machines → m.st = .setup → m.buffer.store = [x] →
      EnE inst s ⟨.m m.id, .m .working, some x⟩
  | mOut (m : MachineState) (x : Nat) : m ∈ s.machines → m.st = .working → m.buffer.store = [x] →
      EnE inst s ⟨.m m.id, .m .outage, some x⟩
  | mIdle (m : MachineState) (x : Nat) : m ∈ s.machines → m.st = .outage → m.buffer.store = [x] →
      EnE inst s ⟨.m m.id, .m .idle, some x⟩
  | dispatch (t : TransportState) (j : JobState) : t ∈ s.transports → t.st = .idle → j ∈ s.jobs →
      Pickable inst j → (∀ t' ∈ s.transports, t'.job ≠ some j.id) →
      EnE inst s ⟨.t t.id, .t .working, some j.id⟩
  | wait (t : TransportState) (j : JobState) : t ∈ s.transports → t.st = .pickup → j ∈ s.jobs →
      t.job = some j.id → EnE inst s ⟨.t t.id, .t .waitingpickup, some j.id⟩
  | rewait (t : TransportState) (j : JobState) : t ∈ s.transports → t.st = .waitingpickup → j ∈ s.jobs →
      t.job = some j.id → EnE inst s ⟨.t t.id, .t .waitingpickup, some j.id⟩
  | pick (t : TransportState) (j : JobState) : t ∈ s.transports → t.st = .waitingpickup → j ∈ s.jobs →
      t.job = some j.id → j.loc ∈ pickupPlaces inst → EnE inst s ⟨.t t.id, .t .transit, some j.id⟩
  | deliver (t : TransportState) (j : JobState) : t ∈ s.transports → t.st = .transit → j ∈ s.jobs →
      t.buffer.store = [j.id] → EnE inst s ⟨.t t.id, .t .outage, some j.id⟩
  | release (t : TransportState) : t ∈ s.transports → t.st = .outage → EnE inst s ⟨.t t.id, .t .idle, none⟩

structure EnGSE (inst : Instance) (s : State) (L : List Transition) : Prop where
  en : ∀ tr ∈ L, EnE inst s tr
  apart : L.Pairwise Apart
  alone : ∀ tr ∈ L, tr.new = .m .setup → L.length ≤ 1

theorem EnGSE.tail {s : State} {tr : Transition} {R : List Transition} (h : EnGSE inst s (tr :: R)) : EnGSE inst s R :=
  ⟨fun t ht => h.en t (by simp [ht]), (List.pairwise_cons.mp h.apart).2,
   fun t ht hn => by have := h.alone t (by simp [ht]) hn; simp at this; subst this; simp⟩

theorem EnGSE.nil (s : State) : EnGSE inst s [] where
  en := fun _ h => nomatch h
  apart := List.Pairwise.nil
  alone := fun _ h => nomatch h

structure BundleE (inst : Instance) (s : State) : Prop where
  full : AgvFull inst s
  ready : Ready inst s
  cinv : CInvE inst s


def AtPickup (inst : Instance) (s : State) : Prop :=
  ∀ t ∈ s.transports, t.st = .pickup ∨ t.st = .waitingpickup →
    ∃ j ∈ s.jobs, t.job = some j.id ∧ j.loc ∈ pickupPlaces inst

theorem CInv.toE {s : State} (h : CInv inst s) : CInvE inst s where
  noDep := h.noDep
  noWorking := h.noWorking
  claimed := fun t ht hst => by obtain ⟨j, hj, e, hl⟩ := h.claimed t ht hst; exact ⟨j, hj, e, Or.inl hl⟩
  agvAt := fun t ht hb => by obtain ⟨c, hc, _⟩ := h.agvDue t ht hb; exact ⟨c, hc⟩
  agvDue := fun t ht hst c hc => by
    obtain ⟨c', hc', hle⟩ := h.agvDue t ht (by rcases hst with e | e | e <;> rw [e] <;> simp)
    rw [hc] at hc'; cases hc'; exact hle
  waitDue := fun t ht hst j _ _ c hc => by
    obtain ⟨c', hc', hle⟩ := h.agvDue t ht (by rw [hst]; simp)
    rw [hc] at hc'; cases hc'; exact Or.inl hle
  parked := h.parked
  fresh := h.fresh
  machDue := h.machDue
  setupRec := h.setupRec

theorem Bundle.toE {s : State} (h : Bundle inst s) : BundleE inst s := ⟨h.full, h.ready, h.cinv.toE⟩

/-- a waiting AGV whose job lies at a pickup place cannot be waiting for the end of a running record: the job
is not running -/
theorem cinv_of_cinvE (w : WF inst) {s : State} (hI : StructInv inst s) (hS : SchedInv s) (h : CInvE inst s)
    (hcl : AtPickup inst s) : CInv inst s := by
  refine ⟨h.noDep, h.noWorking, hcl, ?_, h.parked, h.fresh, h.machDue, h.setupRec⟩
  intro t ht hb
  obtain ⟨c, hc⟩ := h.agvAt t ht hb
  refine ⟨c, hc, ?_⟩
  cases hst : t.st with
  | idle => exact absurd hst hb
  | working => exact absurd hst (h.noWorking t ht)
  | pickup => exact h.agvDue t ht (Or.inl hst) c hc
  | transit => exact h.agvDue t ht (Or.inr (Or.inl hst)) c hc
  | outage => exact h.agvDue t ht (Or.inr (Or.inr hst)) c hc
  | waitingpickup =>
    obtain ⟨j, hj, e, hl⟩ := hcl t ht (Or.inr hst)
    rcases h.waitDue t ht hst j hj e c hc with h1 | ⟨o, ho, hp, _⟩
    · exact h1
    · have hr := pickup_not_running w hI hS hj hl
      unfold JobState.running at hr
      have := List.any_eq_false.mp hr o ho
      simp [hp] at this

theorem enE_of_en (w : WF inst) {s : State} (hI : StructInv inst s) (hcl : AtPickup inst s) {a : Transition}
    (hE : En inst s a) : EnE inst s a := by
  cases hE with
  | start tr hn => exact .start _ hn
  | mWork m x hm hst hx => exact .mWork m x hm hst hx
  | mOut m x hm hst hx => exact .mOut m x hm hst hx
  | mIdle m x hm hst hx => exact .mIdle m x hm hst hx
  | dispatch t j ht hst hj hloc hfree => exact .dispatch t j ht hst hj (Or.inl hloc) hfree
  | wait t j ht hst hj hjob => exact .wait t j ht hst hj hjob
  | pick t j ht hst hj hjob =>
    obtain ⟨j', hj', e, hl⟩ := hcl t ht (Or.inr hst)
    have : j' = j := eq_of_mem_of_key_eq (key := fun (y : JobState) => y.id) (hI.shape.jobsNodup w) hj' hj
      (by rw [hjob] at e; exact (Option.some.inj e).symm)
    subst this
    exact .pick t j' ht hst hj hjob hl
  | deliver t j ht hst hj hx => exact .deliver t j ht hst hj hx
  | release t ht hst => exact .release t ht hst

def staleB (s : State) (t : TransportState) : Bool :=
  t.st == .waitingpickup &&
    (match t.job, t.occ with
     | some x, .at c => s.jobs.any fun j => j.id == x && j.ops.any fun o => o.st == .processing && o.stop != some c
     | _, _ => false)

def staleCount (s : State) : Nat := s.transports.countP (staleB s)

def muE (s : State) : Nat := 2 * stage s + staleCount s

theorem muE_time (s : State) (t : Int) : muE { s with time := t } = muE s := rfl

/-- a re-wait (WAITINGPICKUP → WAITINGPICKUP) of an AGV whose waiting time is up to date: the only kind of
timed transition that need not lower `muE` -/
def RWE (s : State) (tr : Transition) : Prop :=
  ∃ t ∈ s.transports, tr.comp = .t t.id ∧ t.st = .waitingpickup ∧ tr.new = .t .waitingpickup ∧ staleB s t = false

end JSL
