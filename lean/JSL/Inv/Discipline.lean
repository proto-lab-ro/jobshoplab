import JSL.Inv.DiscGuard
import JSL.Inv.Calls

/-!
# C08 (second half): release discipline of the ordered buffers

For **every transition that is applied** in any episode of the environment (`EnvCall`: the calls of
`applyTransition` made by `reset` and by every `step`; at the state-machine level: the calls of any
`state.step` started from a state of an `OccursF` execution with nothing or the one transition on
offer, while nothing is due):

* (A) a pickup (→ TRANSIT) takes its job out of a post-buffer or stand-alone buffer, and if that
  buffer is FIFO or DUMMY the job is the **first** element of the buffer in the state right before
  the application (`Released.agv`, `c08_fifo_releases_oldest_to_agv`).  Nothing is claimed for LIFO
  post-buffers: there the property is false in the code (a same-instant completion may append a
  newer job between creation and application of the pickup).
* (B) a machine start (IDLE → SETUP) takes, out of the pre-buffer of the idle machine, the job
  `get_next_job_from_buffer` names – the first for FIFO/DUMMY, the **last for LIFO** – whether the
  transition is a timed one or an offer accepted by the agent (`Released.machine`,
  `c08_machine_takes_release_job`).  Offers never compete with the discipline: when offers are
  computed nothing is due, so every idle machine with a non-empty pre-buffer has a FLEX pre-buffer
  (`quiet_idle_pre_flex`).
* (C) whatever moves, moves to the **back** of the buffer it arrives in, and every other job keeps
  its place (`StoreEff`, `disc_arrivals_join_back`; this holds for every successful
  `applyTransition` on a state satisfying the structural invariants, offered or not).
-/

namespace JSL

variable {orc : Oracle} {inst : Instance}

structure Released (inst : Instance) (s : State) (tr : Transition) (s' : State) : Prop where
  /-- (C) nothing moves, or one job moves to the back of another buffer -/
  eff : StoreEff s s' tr
  /-- (A) AGV side -/
  agv : tr.new = .t .transit →
    ∃ t ∈ s.transports, ∃ x i, tr.comp = .t t.id ∧ tr.job = some x ∧ pickupBufferKind inst i = true ∧
      MovedS s s' x i t.buffer.id ∧ (FrontAt inst i → storeAt s i = x :: storeAt s' i)
  /-- (B) machine side -/
  machine : tr.new = .m .setup →
    ∃ m ∈ s.machines, ∃ x, tr.comp = .m m.id ∧ m.st = .idle ∧ tr.job = some x ∧ x ∈ m.pre.store ∧
      storeAt s m.pre.id = m.pre.store ∧ MovedS s s' x m.pre.id m.buffer.id ∧
      ∀ bc ∈ allBufCfgs inst, bc.id = m.pre.id → nextJobFromBuffer m.pre bc = some x ∨ releaseSel bc.type = .none

structure DiscGS (inst : Instance) (s : State) (L : List Transition) : Prop where
  full : FullGS s L
  pick : PickGS inst s L
  start : StartGS inst s L

/-- what the environment submits: nothing, or the one transition on offer while nothing is due -/
def AdmQuiet (inst : Instance) (cfg : SMConfig) (s : State) (a : Action) : Prop :=
  AdmOffer inst cfg s a ∧ (a.transitions = [] ∨ Quiet inst s)

def DiscPass (orc : Oracle) (inst : Instance) (cfg : SMConfig) (w : WF inst) : RelPass orc inst cfg where
  P := AgvFull inst
  GS := DiscGS inst
  Adm := AdmQuiet inst cfg
  tail := fun h => ⟨(FullPass orc inst cfg w).tail h.full, h.pick.tail, h.start.tail⟩
  step := fun hI hS hP hv hsafe hfresh hgs ha => by
    have h1 := (FullPass orc inst cfg w).step hI hS hP hv hsafe hfresh hgs.full ha
    have he := applyTransition_store w hI ha
    exact ⟨h1.1, h1.2, pick_step w hI he hgs.pick,
      start_step (fun mid hc => (machine_effect w hI hc ha).1) hgs.start⟩
  advance := fun hI hS hP hle hpe => (FullPass orc inst cfg w).advance hI hS hP hle hpe
  timed := fun {s tt poss tele r} hI hS hP htt hposs htele => by
    have hf : FullGS s (tt ++ tele) := (FullPass orc inst cfg w).timed hI hS hP htt hposs htele
    have hsh := filterTeleport_shape hposs htele
    exact ⟨hf, timed_pick w hS hP.agv htt hsh hf.route, timed_start w hI htt hS hsh⟩
  timedOnly := fun {s tt} hI hS hP htt => by
    have hf : FullGS s tt := (FullPass orc inst cfg w).timedOnly hI hS hP htt
    have hr : RouteGS s (tt ++ []) := by simpa using hf.route
    have h1 := timed_pick w (tele := []) hS hP.agv htt (by simp) hr
    have h2 := timed_start w (tele := []) hI htt hS (by simp)
    simp only [List.append_nil] at h1 h2
    exact ⟨hf, h1, h2⟩
  action := fun {s a} hI hS hP hadm => by
    have hf : FullGS s (sortedByTransport a.transitions) := (FullPass orc inst cfg w).action hI hS hP hadm.1
    refine ⟨hf, ?_, ?_⟩
    · rcases hadm.1 with e | ⟨poss, hposs, tr, hp, e⟩
      · rw [e, sortedByTransport_nil]; exact PickGS.nil
      · rw [e, sortedByTransport_single]
        apply pick_of_no_transit
        intro t ht hn
        simp at ht; subst ht
        rcases offers_offerShaped hposs t hp with e' | e' <;> rw [e'] at hn <;> cases hn
    · rcases hadm.1 with e | ⟨poss, hposs, tr, hp, e⟩
      · rw [e, sortedByTransport_nil]; exact StartGS.nil
      · rw [e, sortedByTransport_single]
        rcases hadm.2 with e' | hq
        · rw [e] at e'; cases e'
        · exact quiet_start w hq tr
  Rel := Released inst
  rel := fun {s s' r r' tr R} hI _ _ _ _ _ hgs ha => by
    have he := applyTransition_store w hI ha
    refine ⟨he, fun hn => pick_rel w hI he hgs.pick hn, fun hn => ?_⟩
    obtain ⟨m, hm, x, h1, h2, h3, h4, h5, h6⟩ := start_rel he hgs.start hn
    exact ⟨m, hm, x, h1, h2, h3, h4, store_pre hI.shape w hm, h5, h6⟩

theorem occursF_released {cfg : SMConfig} {s0 s : State} (hst : Start orc inst s0) (h : OccursF orc inst cfg s0 s)
    {a : Action} (ha : Admissible a) (hadm : AdmOffer inst cfg s a) (hq : a.transitions = [] ∨ Quiet inst s)
    {fuel : Nat} {r : Rng} {σ σ' : State} {x : Transition} (hc : StepCall orc inst cfg fuel s r a σ x σ') :
    Released inst σ x σ' := by
  obtain ⟨w, hI, hS⟩ := occursA_inv hst h.toA
  have nn := nonnegB_sound hst.samples hst.nonneg
  exact (DiscPass orc inst cfg w).stepCall w nn hI hS (occursF_full hst h) ha ⟨hadm, hq⟩ hc

/-- when nothing is due – in particular whenever offers are computed – every idle machine with a
non-empty pre-buffer has a FLEX pre-buffer: an offer never competes with the release order -/
theorem quiet_idle_pre_flex (w : WF inst) {s : State} (hq : Quiet inst s) {m : MachineState} (hm : m ∈ s.machines)
    (hidle : m.st = .idle) (hne : m.pre.store ≠ []) : ∀ bc ∈ allBufCfgs inst, bc.id = m.pre.id → bc.type = .flex := by
  intro bc hbc hid
  obtain ⟨x, hx⟩ := List.exists_mem_of_ne_nil _ hne
  have h := quiet_releaseSel_none w hq hm hidle hx hbc hid
  revert h; cases bc.type <;> simp [releaseSel]

/-- the action the middleware submits to the state machine for an agent action (when it submits
one): the head offer with `jump_to_event`, or – declining the only offer – nothing with a forced jump -/
def MwSubmits (res : SMResult) (a : AgentAct) (act : Action) : Prop :=
  (a = .accept ∧ act.tm = .jumpToEvent ∧ act.transitions = res.possible.take 1 ∧ res.possible ≠ []) ∨
  (a = .decline ∧ act.tm = .forceJump ∧ act.transitions = [] ∧ res.possible.length = 1)

/-- **every transition applied during an episode**: by the `state.step` of `reset`, or by the
`state.step` the middleware runs for an agent action on a reachable environment state -/
inductive EnvCall (orc : Oracle) (inst : Instance) (ec : EnvCfg) (st : RewardStatic) (s0 : State) :
    State → Transition → State → Prop
  | reset {r σ x σ'} : StepCall orc inst ec.sm ec.fuel s0 r noOpAction σ x σ' → EnvCall orc inst ec st s0 σ x σ'
  | step {e a act σ x σ'} : EnvReach orc inst ec st s0 e → MwSubmits e.res a act →
      StepCall orc inst ec.sm ec.fuel e.res.state e.rng act σ x σ' → EnvCall orc inst ec st s0 σ x σ'

theorem envCall_of_reset_micro {ec : EnvCfg} {st : RewardStatic} {s0 : State} {r : Rng} {e : EnvState}
    {mic : List State} (h : envReset orc inst ec s0 r = .ok (e, mic)) :
    ∀ σ' ∈ mic, ∃ σ x, EnvCall orc inst ec st s0 σ x σ' := by
  obtain ⟨res, r', h2, _⟩ := envReset_ok h
  intro σ' hσ
  obtain ⟨σ, x, hc⟩ := stepCall_of_micro h2 σ' hσ
  exact ⟨σ, x, .reset hc⟩

theorem envCall_released {ec : EnvCfg} {st : RewardStatic} {s0 : State} (hst : Start orc inst s0)
    {σ σ' : State} {x : Transition} (hc : EnvCall orc inst ec st s0 σ x σ') : Released inst σ x σ' := by
  cases hc with
  | reset hc => exact occursF_released hst OccursF.init admissible_noOp (Or.inl rfl) (Or.inl rfl) hc
  | @step e a act _ _ _ he hk hc =>
    have hi := envReach_inv hst he
    have hne : e.res.possible ≠ [] := by
      rcases hk with ⟨_, _, _, h⟩ | ⟨_, _, _, h⟩
      · exact h
      · intro h0; rw [h0] at h; simp at h
    have hl := hi.live hne
    have hsub : ∀ tr ∈ act.transitions, tr ∈ e.res.possible := by
      intro tr htr
      rcases hk with ⟨_, _, ht, _⟩ | ⟨_, _, ht, _⟩
      · rw [ht] at htr; exact List.mem_of_mem_take htr
      · rw [ht] at htr; cases htr
    have ha : Admissible act := by
      refine ⟨fun tr htr => hl.2 tr (hsub tr htr), ?_⟩
      rcases hk with ⟨_, h, _⟩ | ⟨_, h, _⟩ <;> rw [h] <;> simp
    have hadm : AdmOffer inst ec.sm e.res.state act := by
      obtain ⟨poss, hposs, hsub'⟩ := hi.offersFrom hne
      rcases hk with ⟨_, _, ht, _⟩ | ⟨_, _, ht, _⟩
      · right
        cases hp : e.res.possible with
        | nil => exact absurd hp hne
        | cons y ys => exact ⟨poss, hposs, y, hsub' y (by rw [hp]; simp), by rw [ht, hp]; rfl⟩
      · left; exact ht
    exact occursF_released hst (hi.liveF hne) ha hadm (Or.inr (hi.quiet hne)) hc

theorem StoreEff.moved_or_same {s s' : State} {tr : Transition} (h : StoreEff s s' tr) :
    (∀ i, storeAt s' i = storeAt s i) ∨ ∃ x a b, MovedS s s' x a b := by
  cases h with
  | same _ _ h => exact Or.inl h
  | start m x _ _ _ _ _ _ h => exact Or.inr ⟨x, _, _, h⟩
  | finish m x _ _ _ _ h => exact Or.inr ⟨x, _, _, h⟩
  | pickup t x a _ _ _ _ h => exact Or.inr ⟨x, _, _, h⟩
  | deliver t x b _ _ _ _ h => exact Or.inr ⟨x, _, _, h⟩

/-- **(C) Arriving jobs join at the back.**  A successfully applied transition – any transition, on
any state satisfying the structural invariants (every state of every execution does) – either
leaves all buffer contents as they are, or takes exactly one job `x` out of one buffer `a` (the
others keep their order) and appends it at the back of another buffer `b`; no other buffer changes. -/
theorem disc_arrivals_join_back (w : WF inst) {s s' : State} {r r' : Rng} {tr : Transition}
    (hI : StructInv inst s) (h : applyTransition orc inst s r tr = .ok (s', r')) :
    (∀ i, storeAt s' i = storeAt s i) ∨
    ∃ x a b, a ≠ b ∧ x ∈ storeAt s a ∧ storeAt s' a = (storeAt s a).filter (· != x) ∧
      storeAt s' b = storeAt s b ++ [x] ∧ ∀ i, i ≠ a → i ≠ b → storeAt s' i = storeAt s i := by
  rcases (applyTransition_store w hI h).moved_or_same with h | ⟨x, a, b, h⟩
  · exact Or.inl h
  · exact Or.inr ⟨x, a, b, h.ne, h.was, h.storeA, h.storeB, h.storeO⟩

end JSL
