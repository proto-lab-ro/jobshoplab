import JSL.Inv.Reach

/-!
# What the offers promise
-/

namespace JSL

variable {orc : Oracle} {inst : Instance}

theorem nextNotDone_eq_nextIdle {now : Int} {j : JobState} (hok : OpsOK now none j.ops) (hr : j.running = false) :
    j.nextNotDone? = j.nextIdle? := by
  unfold JobState.nextNotDone? JobState.nextIdle?
  have key : ∀ o ∈ j.ops, (o.st != OSt.done) = (o.st == OSt.idle) := ?_
  · generalize j.ops = l at key
    induction l with
    | nil => rfl
    | cons a as ih =>
      simp only [List.find?_cons, key a (by simp)]
      rw [ih (fun o ho => key o (by simp [ho]))]
  intro o ho
  have hm := OpsOK_mem _ _ hok o ho
  have hnp : o.st ≠ .processing := by
    intro e
    have : j.running = true := by
      unfold JobState.running
      exact List.any_eq_true.mpr ⟨o, ho, by simp [e]⟩
    rw [hr] at this; cases this
  cases hst : o.st with
  | idle => simp
  | done => simp
  | processing => exact absurd hst hnp
  | transport => exact absurd hst hm.2.2

theorem jobAtMachine_ok {j : JobState} {m : MachineState} {b : Bool} (h : jobAtMachine j m = .ok b) :
    b = (m.pre.id == j.loc) := by
  obtain ⟨_, _, h⟩ := except_bind_eq_ok h
  exact (Except.ok.inj h).symm

/-- what `is_action_possible` returning `True` says: the job is not running, and the machine of its
first record that is not done is idle with the job in its pre-buffer -/
theorem actionPossible_ok {s : State} {j : JobState} (h : actionPossible inst s j = .ok true) :
    j.running = false ∧ ∃ op m, j.nextNotDone = .ok op ∧ getMachine s.machines op.machine = .ok m ∧
      m.pre.id = j.loc ∧ m.st = .idle := by
  unfold actionPossible at h
  cases hfree : j.nextOpFree with
  | false => rw [hfree] at h; cases h
  | true =>
    simp only [hfree, Bool.not_true, Bool.false_eq_true, if_false] at h
    split at h
    · simp only [except_pure, except_bind_ok] at h
      split at h
      · cases h
      · obtain ⟨op, hop, h⟩ := except_bind_eq_ok h
        obtain ⟨m, hm, h⟩ := except_bind_eq_ok h
        obtain ⟨b, hb, h⟩ := except_bind_eq_ok h
        cases jobAtMachine_ok hb
        cases hloc : (m.pre.id == j.loc) with
        | false => rw [hloc] at h; cases h
        | true =>
          rw [hloc] at h
          simp only [JobState.nextOpFree, Bool.and_eq_true, Bool.not_eq_true'] at hfree
          exact ⟨hfree.1, op, m, hop, hm, by simpa using hloc, by simpa using Except.ok.inj h⟩
    · cases h

/-- `is_transportable` says yes: the job is not delivered, and it is finished or its next idle
operation is on a machine in whose pre-buffer it does not lie -/
theorem transportable_ok {s : State} {j : JobState} (h : transportable inst s j = .ok true) :
    jobDone inst j = false ∧ (j.allDone = true ∨ ∃ op m, j.nextIdle? = some op ∧
      getMachine s.machines op.machine = .ok m ∧ m.pre.id ≠ j.loc) := by
  unfold transportable at h
  cases hd : jobDone inst j with
  | true => rw [hd] at h; cases h
  | false =>
    refine ⟨rfl, ?_⟩
    simp only [hd, Bool.false_eq_true, if_false] at h
    by_cases hall : j.allDone = true
    · exact Or.inl hall
    · simp only [hall, Bool.false_eq_true, if_false] at h
      split at h
      · rename_i op hop
        simp only [except_pure, except_bind_ok] at h
        obtain ⟨m, hm, h⟩ := except_bind_eq_ok h
        obtain ⟨b, hb, h⟩ := except_bind_eq_ok h
        cases jobAtMachine_ok hb
        cases hloc : (m.pre.id == j.loc) with
        | true => rw [hloc] at h; cases h
        | false => exact Or.inr ⟨op, m, hop, hm, by simpa using hloc⟩
      · cases h

/-- What a dispatch on offer promises: an idle AGV (of type `agv`) and a job nobody has claimed that
is running or transportable, and ready for pickup unless early transport is allowed. -/
theorem possibleTransport_offer {cfg : SMConfig} {s : State} {pt : List Transition}
    (h : possibleTransportTransitions inst cfg s = .ok pt) :
    ∀ tr ∈ pt, ∃ t ∈ s.transports, ∃ tc, ∃ j ∈ s.jobs,
      tr = { comp := .t t.id, new := .t .working, job := some j.id } ∧ t.st = .idle ∧
      findE (fun c => c.id == t.id) inst.transports .invalidKey = .ok tc ∧ tc.type = .agv ∧
      (∀ x ∈ s.transports, x.job ≠ some j.id) ∧ (j.running = true ∨ transportable inst s j = .ok true) ∧
      (cfg.allowEarly = false → readyForPickup inst s j = .ok true) := by
  unfold possibleTransportTransitions at h
  obtain ⟨ts, hts, h⟩ := except_bind_eq_ok h
  obtain ⟨idle, hidle, h⟩ := except_bind_eq_ok h
  simp only at h
  obtain ⟨lonely, hlonely, h⟩ := except_bind_eq_ok h
  simp at h; subst h
  intro tr htr
  simp only [List.mem_flatMap, List.mem_map] at htr
  obtain ⟨t, ht, j, hj, rfl⟩ := htr
  unfold possibleTransports at hts
  obtain ⟨l, hl, hts⟩ := except_bind_eq_ok hts
  simp at hts; subst hts
  obtain ⟨x, hx, e⟩ := List.mem_filterMap.mp ht
  simp at e; subst e
  obtain ⟨t', ht', e⟩ := (mapM_ok_mem hl).2 _ hx
  obtain ⟨tc, htc, e⟩ := except_bind_eq_ok e
  simp at e
  obtain ⟨hcond, rfl⟩ := e
  have hjl : j ∈ (s.jobs.filter (·.running) ++ idle).filter (fun j => !(s.transports.filterMap (·.job)).contains j.id) ∧
      (cfg.allowEarly = false → readyForPickup inst s j = .ok true) := by
    unfold earlyFilter at hlonely
    by_cases he : cfg.allowEarly = true
    · rw [if_pos he] at hlonely
      injection hlonely with h'
      rw [← h'] at hj
      exact ⟨hj, fun h0 => by rw [he] at h0; cases h0⟩
    · rw [if_neg he] at hlonely
      have := filterE_ok hlonely j hj
      exact ⟨this.1, fun _ => this.2⟩
  obtain ⟨hjm, hunc⟩ := List.mem_filter.mp hjl.1
  have hjs : j ∈ s.jobs ∧ (j.running = true ∨ transportable inst s j = .ok true) := by
    rcases List.mem_append.mp hjm with h1 | h1
    · exact ⟨(List.mem_filter.mp h1).1, Or.inl (List.mem_filter.mp h1).2⟩
    · exact ⟨(List.mem_filter.mp (filterE_ok hidle j h1).1).1, Or.inr (filterE_ok hidle j h1).2⟩
  refine ⟨t', ht', tc, j, hjs.1, rfl, hcond.1, htc, hcond.2, ?_, hjs.2, hjl.2⟩
  intro x hx hxj
  have : (s.transports.filterMap (·.job)).contains j.id = true := by
    apply List.contains_iff_mem.mpr
    exact List.mem_filterMap.mpr ⟨x, hx, hxj⟩
  rw [this] at hunc
  simp at hunc

theorem possibleTransport_facts {cfg : SMConfig} {s : State} {pt : List Transition}
    (h : possibleTransportTransitions inst cfg s = .ok pt) :
    ∀ tr ∈ pt, ∃ t ∈ s.transports, ∃ j ∈ s.jobs, tr = { comp := .t t.id, new := .t .working, job := some j.id } ∧
      t.st = .idle ∧ (∀ x ∈ s.transports, x.job ≠ some j.id) ∧
      (cfg.allowEarly = false → readyForPickup inst s j = .ok true) := by
  intro tr htr
  obtain ⟨t, ht, _, j, hj, e, hi, _, _, hu, _, hr⟩ := possibleTransport_offer h tr htr
  exact ⟨t, ht, j, hj, e, hi, hu, hr⟩

/-- an offer is the start of the next idle operation of a job that passes `is_action_possible`, or
a dispatch -/
theorem mem_possibleTransitions {cfg : SMConfig} {s : State} {poss : List Transition}
    (h : possibleTransitions inst cfg s = .ok poss) {tr : Transition} (htr : tr ∈ poss) :
    (∃ j ∈ s.jobs, ∃ o, actionPossible inst s j = .ok true ∧ j.nextIdle? = some o ∧
      tr = { comp := .m o.machine, new := .m .setup, job := some j.id }) ∨
    ∃ pt, possibleTransportTransitions inst cfg s = .ok pt ∧ tr ∈ pt := by
  unfold possibleTransitions at h
  obtain ⟨pj, hpj, h⟩ := except_bind_eq_ok h
  obtain ⟨pt, hpt, h⟩ := except_bind_eq_ok h
  obtain ⟨mt, hmt, h⟩ := except_bind_eq_ok h
  simp at h; subst h
  rcases List.mem_append.mp htr with h | h
  · obtain ⟨j, hjm, e⟩ := (mapM_ok_mem hmt).2 tr h
    obtain ⟨hj, hap⟩ := filterE_ok hpj j hjm
    cases hn : j.nextIdle? with
    | none => simp [hn] at e
    | some o => simp [hn] at e; exact Or.inl ⟨j, hj, o, hap, hn, e.symm⟩
  · exact Or.inr ⟨pt, hpt, h⟩

/-- **Every offered transition passes validation** in the state it is offered in. -/
theorem offers_valid (w : WF inst) {cfg : SMConfig} {s : State} (hI : StructInv inst s) (hS : SchedInv s)
    {poss : List Transition} (h : possibleTransitions inst cfg s = .ok poss) :
    ∀ tr ∈ poss, transitionValid s tr = .ok true := by
  have hjn := hI.shape.jobsNodup w
  intro tr htr
  rcases mem_possibleTransitions h htr with ⟨j, hj, o, hap, hn, rfl⟩ | ⟨pt, hpt, h⟩
  · obtain ⟨hrun, op, m, hnn, hgm, _, hidle⟩ := actionPossible_ok hap
    have : op = o := by
      have := nextNotDone_ok hnn
      rw [nextNotDone_eq_nextIdle (hS.ops j hj) hrun, hn] at this
      exact (Option.some.inj this).symm
    subst this
    simp only [transitionValid, hgm, bind, Except.bind, machineTransitionValid, machineAllowed, hidle]
    simp [machineValid, machineJobCheck, getJob_of_mem hjn hj, hnn, (getMachine_ok hgm).2, pure, Except.pure, bind, Except.bind]
  · obtain ⟨t, ht, _, j, _, rfl, hi, _⟩ := possibleTransport_offer hpt tr h
    simp only [transitionValid, getTransport_of_mem (hI.shape.trNodup w) ht, bind, Except.bind, pure, Except.pure,
      transportTransitionValid]
    rw [hi]; rfl

end JSL
