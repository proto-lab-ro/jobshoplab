import JSL.Inv.TotalMachine
import JSL.Inv.TotalAgvA
import JSL.Inv.TotalAgvB

/-!
# A validated, well-aimed transition is applied without an exception

Assembly of the handler lemmas (`TotalMachine`, `TotalAgvA`, `TotalAgvB`): in a state with the
invariants `TotInv` of an instance of the class `TotClassP`, `apply_transition` does not raise for a
transition that passed validation, is well-aimed (`Aim`) and – if it is a dispatch – names a job
nobody has claimed (`Unclaimed`).
-/

namespace JSL

variable {inst : Instance}

theorem agv_applies (w : WF inst) (C : TotClassP inst) {s : State} (hV : TotInv inst s) {tr : Transition}
    (ha : Aim inst s tr) (hu : Unclaimed s tr) {tid : Nat} (hc : tr.comp = .t tid) (orc : Oracle) (r : Rng) :
    ∃ s' r', applyTransition orc inst s r tr = .ok (s', r') := by
  have hs := hV.struct.shape
  obtain ⟨t, ht, htid, ns, hd, hn, hah, hdisp, hwait, hdel⟩ := ha.agv tid hc
  have hgt : getTransport s.transports tid = .ok t := by
    rw [← htid]; exact getTransport_of_mem (hs.trNodup w) ht
  obtain ⟨tc, htc, hgtc, _⟩ := AgvB.transportCfg_of_mem w hs ht
  have hty := C.agvOnly.agv tc htc
  have key : ∃ out, (match hd with
      | .idleToWorking => handleAgvIdleToWorking orc inst s r tr t
      | .pickupToWaitingpickup => handleAgvPickupToWaiting inst s r tr t
      | .pickupToTransit => handleAgvPickupToTransit orc inst s r tr t
      | .transitToOutage => handleAgvTransitToOutage orc inst s r tr t
      | .outageToIdle => handleAgvOutageToIdle s r t
      | .waitingPickupToWaitingPickup => handleAgvWaitingToWaiting inst s r tr t) = .ok out := by
    cases hd with
    | idleToWorking =>
      have hst := agvHandler_idleToWorking hah
      obtain ⟨x, hx, ⟨j, hj, hjid⟩, hall⟩ := hdisp rfl
      subst hjid
      have hnew : tr.new = .t .working := by rw [hn, hst.2]
      exact agv_dispatch_applies w C hV ht hst.1 hj hx (hall j hj rfl) (hu hnew j.id hx) orc r
    | pickupToWaitingpickup =>
      have hst := agvHandler_pickupToWaiting hah
      exact (agv_toWaiting_applies w C hV ht (Or.inl hst.2) (hwait (Or.inl rfl)) r).1
    | waitingPickupToWaitingPickup =>
      have hst := agvHandler_waitingToWaiting hah
      exact (agv_toWaiting_applies w C hV ht (Or.inr hst.2) (hwait (Or.inr (Or.inl rfl))) r).2
    | pickupToTransit =>
      have hst := agvHandler_pickupToTransit hah
      exact agv_pickup_applies w C hV ht hst.2 (hwait (Or.inr (Or.inr rfl))) orc r
    | transitToOutage =>
      have hst := agvHandler_transitToOutage hah
      obtain ⟨x, hx, hin⟩ := hdel rfl
      have htr : t.st = .transit := by
        rcases hst.2 with e | e
        · exact e
        · exact absurd e (hV.shape.noWorking t ht)
      exact agv_deliver_applies w C hV ht htr hx hin orc r
    | outageToIdle => exact ⟨_, rfl⟩
  obtain ⟨⟨s', r'⟩, hk⟩ := key
  refine ⟨s', r', ?_⟩
  simp only [applyTransition, hc, hgt, except_bind_ok, handleTransportTransition, hgtc, hty, trTypeHandled,
    Bool.not_true, Bool.false_eq_true, if_false, agvHandlerOf, hn, hah, except_pure]
  exact hk

theorem applies_total (w : WF inst) (C : TotClassP inst) {s : State} (hV : TotInv inst s) {tr : Transition}
    (ha : Aim inst s tr) (hu : Unclaimed s tr) (hv : transitionValid s tr = .ok true) (orc : Oracle) (r : Rng) :
    ∃ s' r', applyTransition orc inst s r tr = .ok (s', r') := by
  cases hc : tr.comp with
  | m mid => exact machine_applies w C hV ha hc hv orc r
  | t tid => exact agv_applies w C hV ha hu hc orc r
  | b bid => exact absurd hc (ha.notBuf bid)

end JSL
